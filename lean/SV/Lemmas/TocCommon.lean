/-
Facts about the TOC model that hold for every TOC; what a fragment guarantees appears as an explicit premise
(e.g. in `contig_of_ok`).  The simulation takes from it above all `walk_link`, `pass1Go_state`, `attr_agree`,
`lookup_rows_agree`, `memTree_accept` and `dbTree_accept`.
-/
import SV.Lemmas.Toc

namespace SV.Toc

/-! ## Children maps and walks -/

theorem getKid_nil (b : String) : getKid b [] = none := rfl

theorem getKid_setKid_same (b : String) (k : Key) (l : Kids) : getKid b (setKid b k l) = some k := by
  induction l with
  | nil => simp [setKid, getKid]
  | cons x xs ih =>
    unfold setKid
    by_cases h : x.1 = b
    · simp [h, getKid]
    · simp [h, getKid, ih]

theorem getKid_setKid_ne (b b' : String) (k : Key) (l : Kids) (h : b' ≠ b) :
    getKid b' (setKid b k l) = getKid b' l := by
  induction l with
  | nil => simp [setKid, getKid, Ne.symm h]
  | cons x xs ih =>
    unfold setKid
    by_cases hx : x.1 = b
    · have hne : ¬ x.1 = b' := fun e => h (e.symm.trans hx)
      rw [if_pos hx]
      simp only [getKid]
      rw [if_neg (Ne.symm h), if_neg hne]
    · rw [if_neg hx]
      simp only [getKid]
      by_cases hx' : x.1 = b'
      · rw [if_pos hx', if_pos hx']
      · rw [if_neg hx', if_neg hx', ih]

theorem mem_setKid {b : String} {c : Key} {l : Kids} {kv : String × Key} (h : kv ∈ setKid b c l) :
    kv = (b, c) ∨ kv ∈ l := by
  induction l with
  | nil => simp [setKid] at h; exact Or.inl h
  | cons x xs ih =>
    unfold setKid at h
    split at h
    · rcases List.mem_cons.mp h with e | e
      · exact Or.inl e
      · exact Or.inr (List.mem_cons_of_mem _ e)
    · rcases List.mem_cons.mp h with e | e
      · exact Or.inr (e ▸ List.mem_cons_self ..)
      · rcases ih e with e' | e'
        · exact Or.inl e'
        · exact Or.inr (List.mem_cons_of_mem _ e')

def KNodup (l : Kids) : Prop := (l.map (·.1)).Nodup

theorem mem_setKid_of_nodup {b : String} {c : Key} {l : Kids} {kv : String × Key} (hn : KNodup l)
    (h : kv ∈ setKid b c l) : kv = (b, c) ∨ (kv ∈ l ∧ kv.1 ≠ b) := by
  induction l with
  | nil => simp [setKid] at h; exact Or.inl h
  | cons x xs ih =>
    have hn' : KNodup xs := (List.nodup_cons.mp hn).2
    have hx1 : x.1 ∉ xs.map (·.1) := (List.nodup_cons.mp hn).1
    unfold setKid at h
    by_cases hx : x.1 = b
    · rw [if_pos hx] at h
      rcases List.mem_cons.mp h with e | e
      · exact Or.inl e
      · refine Or.inr ⟨by simp [e], ?_⟩
        intro hb
        apply hx1
        rw [hx, ← hb]
        exact List.mem_map.mpr ⟨kv, e, rfl⟩
    · rw [if_neg hx] at h
      rcases List.mem_cons.mp h with e | e
      · exact Or.inr ⟨by rw [e]; simp, by rw [e]; exact hx⟩
      · rcases ih hn' e with h1 | ⟨h1, h2⟩
        · exact Or.inl h1
        · exact Or.inr ⟨by simp [h1], h2⟩

theorem setKid_names (b : String) (c : Key) (l : Kids) :
    ∀ x, x ∈ (setKid b c l).map (·.1) → x = b ∨ x ∈ l.map (·.1) := by
  intro x hx
  obtain ⟨kv, h1, h2⟩ := List.mem_map.mp hx
  rcases mem_setKid h1 with e | e
  · left; rw [← h2, e]
  · right; exact List.mem_map.mpr ⟨kv, e, h2⟩

theorem setKid_nodup (b : String) (c : Key) (l : Kids) (hn : KNodup l) : KNodup (setKid b c l) := by
  induction l with
  | nil => simp [setKid, KNodup]
  | cons x xs ih =>
    have hn' : KNodup xs := (List.nodup_cons.mp hn).2
    have hx1 : x.1 ∉ xs.map (·.1) := (List.nodup_cons.mp hn).1
    unfold setKid
    by_cases hx : x.1 = b
    · rw [if_pos hx]
      show ((b, c) :: xs |>.map (·.1)).Nodup
      simp only [List.map_cons]
      exact List.nodup_cons.mpr ⟨by rw [← hx]; exact hx1, hn'⟩
    · rw [if_neg hx]
      show (x :: setKid b c xs |>.map (·.1)).Nodup
      simp only [List.map_cons]
      refine List.nodup_cons.mpr ⟨?_, ih hn'⟩
      intro h
      rcases setKid_names b c xs _ h with e | e
      · exact hx e
      · exact hx1 e

theorem walkKids_snoc (kids : Key → Kids) (k : Key) (p : Path) (x : String) :
    walkKids kids k (p ++ [x]) = (walkKids kids k p).bind fun c => getKid x (kids c) := by
  induction p generalizing k with
  | nil =>
    simp only [List.nil_append, walkKids, Option.bind]
    cases getKid x (kids k) <;> rfl
  | cons b rest ih =>
    simp only [List.cons_append, walkKids]
    cases getKid b (kids k) with
    | none => simp
    | some c => simp [ih]

theorem walkKids_eq_of_snoc (kids : Key → Kids) (f : Path → Option Key)
    (h0 : f [] = some .root)
    (hs : ∀ p x, f (p ++ [x]) = (f p).bind fun c => getKid x (kids c)) :
    ∀ p, walkKids kids .root p = f p := by
  intro p
  generalize hn : p.length = n
  induction n generalizing p with
  | zero =>
    have : p = [] := List.length_eq_zero_iff.mp hn
    subst this; simp [walkKids, h0]
  | succ n ih =>
    rcases List.eq_nil_or_concat p with e | ⟨q, x, e⟩
    · subst e; simp at hn
    · subst e
      rw [List.concat_eq_append] at hn ⊢
      have hq : q.length = n := by simp at hn; omega
      rw [walkKids_snoc, ih q hq, hs]

/-- linking `c`, which has no children, under the name `b` below `pk`: `q` is the only name of `pk` and `q ++ [b]` led
nowhere, so only that name changes -/
theorem walk_link (kids : Key → Kids) (g : Path → Option Key) (q : Path) (b : String) (pk c : Key)
    (hw : ∀ p, walkKids kids .root p = g p)
    (hq : g q = some pk) (hd : g (q ++ [b]) = none)
    (huniq : ∀ p, g p = some pk → p = q) (hck : kids c = []) (hne : c ≠ pk) :
    ∀ p, walkKids (fun k => if k = pk then setKid b c (kids k) else kids k) .root p =
      if p = q ++ [b] then some c else g p := by
  have hg0 : g [] = some .root := by rw [← hw]; rfl
  have hgs : ∀ p x, g (p ++ [x]) = (g p).bind fun k => getKid x (kids k) := by
    intro p x; rw [← hw, ← hw, walkKids_snoc]
  apply walkKids_eq_of_snoc
  · have : ([] : Path) ≠ q ++ [b] := by simp
    rw [if_neg this]; exact hg0
  · intro p x
    by_cases hpx : p ++ [x] = q ++ [b]
    · have hpq : p = q ∧ x = b := by
        have := List.append_inj' hpx rfl
        exact ⟨this.1, by simpa using this.2⟩
      obtain ⟨rfl, rfl⟩ := hpq
      have : p ≠ p ++ [x] := by
        intro e; have := congrArg List.length e; simp at this
      rw [if_pos rfl, if_neg this, hq]
      simp [getKid_setKid_same]
    · rw [if_neg hpx]
      by_cases hpd : p = q ++ [b]
      · rw [if_pos hpd, hgs, hpd, hd]
        simp only [Option.bind]
        rw [if_neg hne, hck]; rfl
      · rw [if_neg hpd, hgs]
        cases hgp : g p with
        | none => rfl
        | some k =>
          simp only [Option.bind]
          by_cases hk : k = pk
          · subst hk
            have hp := huniq p hgp
            subst hp
            have hx : x ≠ b := fun e => hpx (by rw [e])
            rw [if_pos rfl, getKid_setKid_ne _ _ _ _ hx]
          · rw [if_neg hk]

theorem walk_relink (kids : Key → Kids) (pk : Key) (b : String) (c : Key)
    (h : getKid b (kids pk) = some c) : ∀ (p : Path) (k : Key),
    walkKids (fun k => if k = pk then setKid b c (kids k) else kids k) k p = walkKids kids k p := by
  have hg : ∀ k b', getKid b' (if k = pk then setKid b c (kids k) else kids k) = getKid b' (kids k) := by
    intro k b'
    by_cases hk : k = pk
    · subst hk
      simp only [↓reduceIte]
      by_cases hb : b' = b
      · subst hb; rw [getKid_setKid_same, h]
      · exact getKid_setKid_ne _ _ _ _ hb
    · simp [hk]
  intro p
  induction p with
  | nil => intro k; rfl
  | cons x rest ih =>
    intro k
    simp only [walkKids]
    rw [hg k x]
    cases getKid x (kids k) with
    | none => rfl
    | some c' => exact ih c'

theorem getKid_of_walk (kids : Key → Kids) (q : Path) (b : String) (pk c : Key)
    (hq : walkKids kids .root q = some pk) (hd : walkKids kids .root (q ++ [b]) = some c) :
    getKid b (kids pk) = some c := by
  rw [walkKids_snoc, hq] at hd
  simpa using hd

theorem mem_of_getKid {b : String} {l : Kids} {c : Key} (h : getKid b l = some c) : (b, c) ∈ l := by
  induction l with
  | nil => cases h
  | cons x xs ih =>
    unfold getKid at h
    by_cases hx : x.1 = b
    · rw [if_pos hx] at h; cases h
      have : x = (b, x.2) := by rw [← hx]
      rw [this]; exact List.mem_cons_self
    · rw [if_neg hx] at h; exact List.mem_cons_of_mem _ (ih h)

theorem mem_insertKid {kv x : String × Key} {l : Kids} : x ∈ insertKid kv l ↔ x = kv ∨ x ∈ l := by
  induction l with
  | nil => simp [insertKid]
  | cons y ys ih =>
    unfold insertKid
    split
    · simp
    · simp only [List.mem_cons, ih]
      exact or_left_comm

theorem mem_sortKids {x : String × Key} {l : Kids} : x ∈ sortKids l ↔ x ∈ l := by
  induction l with
  | nil => simp [sortKids]
  | cons y ys ih =>
    show x ∈ insertKid y (sortKids ys) ↔ _
    rw [mem_insertKid, ih]; simp

theorem dSetChild_kids (s : DState) (pid : Key) (b : String) (id : Key) (isDir : Bool) :
    (dSetChild s pid b id isDir).kids = fun k => if k = pid then setKid b id (s.kids k) else s.kids k := by
  unfold dSetChild
  cases isDir
  · rfl
  · simp only [↓reduceIte]
    split <;> rfl

theorem dSetChild_nodes_dir {s : DState} {pid : Key} {bp : DbAttr} (h : s.nodes pid = some bp) (b : String)
    (id : Key) :
    (dSetChild s pid b id true).nodes = fun k => if k = pid then some (bumpNumLink bp) else s.nodes k := by
  simp [dSetChild, h, setNode]

theorem dSetChild_chunks (s : DState) (pid : Key) (b : String) (id : Key) (isDir : Bool) :
    (dSetChild s pid b id isDir).chunks = s.chunks := by
  unfold dSetChild
  cases isDir
  · simp
  · simp only [↓reduceIte]
    split <;> simp [setNode]

theorem mAddChild_nl (ms : List MEnt) (s : MState) (p : Key) (b : String) (c k : Key) :
    (mAddChild ms s p b c).nl k = s.nl k + if k = p ∧ keyType ms c = "dir" then 1 else 0 := by
  unfold mAddChild
  by_cases hd : keyType ms c = "dir"
  · by_cases hk : k = p <;> simp [hd, hk]
  · simp [hd]

theorem mGetOrCreateDir_hlSources (ms : List MEnt) : ∀ (rev : List String) (s : MState),
    (mGetOrCreateDir ms s rev).1.hlSources = s.hlSources := by
  intro rev
  induction rev with
  | nil =>
    intro s
    simp only [mGetOrCreateDir]
    split <;> rfl
  | cons b rest ih =>
    intro s
    simp only [mGetOrCreateDir]
    split
    · rfl
    · simp only [mAddChild]
      rw [ih]

/-! ## Lists -/

theorem take_reverse_cons (b : String) (rest : List String) (n : Nat) (hn : n ≤ rest.length) :
    ((b :: rest).reverse).take n = rest.reverse.take n := by
  simp only [List.reverse_cons]
  rw [List.take_append_of_le_length (by simpa using hn)]

theorem enum_drop {α : Type} (l : List α) (i : Nat) (h : i < l.length) :
    enumFrom' i (l.drop i) = (i, l[i]) :: enumFrom' (i + 1) (l.drop (i + 1)) := by
  rw [List.drop_eq_getElem_cons h]; rfl

theorem enum_drop_nil {α : Type} (l : List α) (i : Nat) (h : l.length ≤ i) :
    enumFrom' i (l.drop i) = [] := by
  rw [List.drop_eq_nil_of_le h]; rfl

theorem take_succ_filter (ms : List MEnt) (i : Nat) (m : MEnt) (hm : ms[i]? = some m) (P : MEnt → Bool) :
    (ms.take (i + 1)).filter P = (ms.take i).filter P ++ (if P m then [m] else []) := by
  rw [List.take_add_one, hm]
  simp only [Option.toList_some, List.filter_append]
  congr 1
  by_cases h : P m <;> simp [List.filter, h]

theorem eq_take_cons_drop {α : Type} (l : List α) (r : Nat) (a : α) (h : l[r]? = some a) :
    l = l.take r ++ a :: l.drop (r + 1) ∧ (l.take r).length = r := by
  obtain ⟨hr, e⟩ := List.getElem?_eq_some_iff.mp h
  refine ⟨?_, by simp; omega⟩
  rw [← e, ← List.drop_eq_getElem_cons hr, List.take_append_drop]

theorem idx_of_nodup {α β : Type} (f : α → β) (P : α → Bool) (l : List α)
    (hn : ((l.filter P).map f).Nodup) (i j : Nat) (hi : i < l.length) (hj : j < l.length)
    (pi : P l[i] = true) (pj : P l[j] = true) (hf : f l[i] = f l[j]) : i = j := by
  rw [List.Nodup, List.pairwise_map, List.pairwise_filter, List.pairwise_iff_getElem] at hn
  rcases Nat.lt_trichotomy i j with h | h | h
  · exact absurd hf (hn i j hi hj h pi pj)
  · exact h
  · exact absurd hf.symm (hn j i hj hi h pj pi)

theorem length_filter_ne (a : Path) : ∀ (H : List Path), H.Nodup →
    H.length ≤ (H.filter fun b => !b == a).length + 1 := by
  intro H
  induction H with
  | nil => intro _; simp
  | cons x xs ih =>
    intro hnd
    obtain ⟨h1, h2⟩ := List.nodup_cons.mp hnd
    by_cases hxa : x = a
    · subst hxa
      have hf : (xs.filter fun b => !b == x) = xs := by
        rw [List.filter_eq_self]
        intro b hb
        have : b ≠ x := fun e => h1 (e ▸ hb)
        simp [this]
      have hb : (!x == x) = false := by simp
      simp only [List.filter, hb, hf, List.length_cons]; omega
    · have := ih h2
      have hb : (!x == a) = true := by simp [hxa]
      simp only [List.filter, hb, List.length_cons]; omega

theorem length_le_eraseDups : ∀ (n : Nat) (N H : List Path), N.length = n → H.Nodup →
    (∀ x, x ∈ H → x ∈ N) → H.length ≤ N.eraseDups.length := by
  intro n
  induction n using Nat.strongRecOn with
  | _ n ih =>
    intro N H hn hnd hsub
    cases N with
    | nil =>
      cases H with
      | nil => simp
      | cons x xs => exact absurd (hsub x (by simp)) (by simp)
    | cons a N' =>
      rw [List.eraseDups_cons]
      have hlen : (N'.filter fun b => !b == a).length < n := by
        have := List.length_filter_le (fun b => !b == a) N'
        simp at hn; omega
      have hH' : (H.filter fun b => !b == a).Nodup := hnd.filter _
      have hsub' : ∀ x, x ∈ (H.filter fun b => !b == a) → x ∈ (N'.filter fun b => !b == a) := by
        intro x hx
        obtain ⟨hxH, hxa⟩ := List.mem_filter.mp hx
        have hxN := hsub x hxH
        have hne : x ≠ a := by simpa using hxa
        rcases List.mem_cons.mp hxN with e | e
        · exact absurd e hne
        · exact List.mem_filter.mpr ⟨e, hxa⟩
      have := ih _ hlen _ _ rfl hH' hsub'
      have h2 := length_filter_ne a H hnd
      simp only [List.length_cons]
      omega

/-! ## Pass 1, names, `lastIdx` -/

theorem pass1Go_length (lp : Path) (lr : Option Int) (es : List Entry) :
    (pass1Go lp lr es).length = es.length := by
  induction es generalizing lp lr with
  | nil => rfl
  | cons e es ih => simp [pass1Go, ih]

theorem pass1Go_getElem (es : List Entry) : ∀ (lp : Path) (lr : Option Int) (i : Nat) (m : MEnt),
    (pass1Go lp lr es)[i]? = some m →
      es[i]? = some m.e ∧ (m.e.type ≠ "chunk" → m.path = cleanName m.e.name) := by
  induction es with
  | nil => intro lp lr i m h; simp [pass1Go] at h
  | cons e es ih =>
    intro lp lr i m h
    cases i with
    | zero =>
      simp only [pass1Go, List.getElem?_cons_zero, Option.some.injEq] at h
      subst h
      refine ⟨by simp [pass1Ent], ?_⟩
      intro hc
      simp only [pass1Ent] at hc ⊢
      simp [hc]
    | succ i =>
      simp only [pass1Go, List.getElem?_cons_succ] at h
      simpa using ih _ _ i m h

theorem pass1_length (es : List Entry) : (pass1 es).length = es.length := pass1Go_length _ _ _

theorem pass1_getElem (es : List Entry) (i : Nat) (m : MEnt) (h : (pass1 es)[i]? = some m) :
    es[i]? = some m.e ∧ (m.e.type ≠ "chunk" → m.path = cleanName m.e.name) :=
  pass1Go_getElem es _ _ i m h

/-- `lastRegEnt.Size` after the first `i` entries, starting from `lr` -/
def lrFrom (lr : Option Int) : List Entry → Nat → Option Int
  | _, 0 => lr
  | [], _ + 1 => lr
  | e :: es, i + 1 => lrFrom (if e.type = "reg" then some e.size else lr) es i

theorem lrFrom_succ (es : List Entry) : ∀ (lr : Option Int) (i : Nat) (e : Entry), es[i]? = some e →
    lrFrom lr es (i + 1) = if e.type = "reg" then some e.size else lrFrom lr es i := by
  induction es with
  | nil => intro lr i e h; simp at h
  | cons x xs ih =>
    intro lr i e h
    cases i with
    | zero =>
      simp only [List.getElem?_cons_zero, Option.some.injEq] at h; subst h
      simp [lrFrom]
    | succ i =>
      simp only [List.getElem?_cons_succ] at h
      simp only [lrFrom]
      exact ih _ i e h

/-- `lp'` is the loop's `lastPath` before entry `i`: the start value at `i = 0`, else the path given to entry `i - 1` -/
theorem pass1Go_state (es : List Entry) : ∀ (lp : Path) (lr : Option Int) (i : Nat) (m : MEnt),
    (pass1Go lp lr es)[i]? = some m →
      ∃ lp', m = (pass1Ent lp' (lrFrom lr es i) m.e).1 ∧
        (i = 0 → lp' = lp) ∧
        (∀ j, i = j + 1 → ∃ mp, (pass1Go lp lr es)[j]? = some mp ∧ lp' = mp.path) := by
  induction es with
  | nil => intro lp lr i m h; simp [pass1Go] at h
  | cons e es ih =>
    intro lp lr i m h
    cases i with
    | zero =>
      simp only [pass1Go, List.getElem?_cons_zero, Option.some.injEq] at h
      subst h
      exact ⟨lp, rfl, fun _ => rfl, fun j hj => by omega⟩
    | succ i =>
      simp only [pass1Go, List.getElem?_cons_succ] at h
      obtain ⟨lp', h1, h2, h3⟩ := ih _ _ i m h
      refine ⟨lp', ?_, fun h0 => by omega, ?_⟩
      · exact h1
      intro j hj
      have hji : i = j := by omega
      subst hji
      cases i with
      | zero =>
        refine ⟨(pass1Ent lp lr e).1, by simp [pass1Go], ?_⟩
        rw [h2 rfl]
        simp [pass1Ent]
      | succ i' =>
        obtain ⟨mp, hmp, hlp⟩ := h3 i' rfl
        exact ⟨mp, by simpa [pass1Go] using hmp, hlp⟩

theorem pass1_chunk_path {es : List Entry} {i : Nat} {m mp : MEnt}
    (hm : (pass1 es)[i + 1]? = some m) (hp : (pass1 es)[i]? = some mp) (hc : m.e.type = "chunk") :
    m.path = mp.path := by
  obtain ⟨lp', h1, _, h3⟩ := pass1Go_state es [] none (i + 1) m hm
  obtain ⟨mp', hmp', hlp⟩ := h3 i rfl
  have : mp' = mp := by
    unfold pass1 at hp; rw [hp] at hmp'; exact (Option.some.inj hmp').symm
  subst this
  rw [h1]
  simp [pass1Ent, hc, hlp]

theorem pass1_entry {es : List Entry} {u : Nat} {m : MEnt} (hm : (pass1 es)[u]? = some m) :
    ∃ hu : u < es.length, es[u] = m.e := by
  obtain ⟨he, _⟩ := pass1_getElem es u m hm
  exact List.getElem?_eq_some_iff.mp he

theorem pass1_nonchunk_size {es : List Entry} {r : Nat} {mr : MEnt}
    (hmr : (pass1 es)[r]? = some mr) (hnc : mr.e.type ≠ "chunk") : mr.chunkSize = regEff mr.e := by
  obtain ⟨lp', hst, _, _⟩ := pass1Go_state es [] none r mr hmr
  have hcs := congrArg MEnt.chunkSize hst
  rw [hcs]
  simp only [pass1Ent, hnc, false_and, ↓reduceIte, regEff]
  by_cases h0 : mr.e.chunkSize = 0
  · by_cases hs : mr.e.size = 0
    · simp [h0, hs]
    · simp [h0, hs]
  · simp [h0]

theorem path_split (d : Path) (hne : d ≠ []) : d = parentDir d ++ [baseName d] := by
  unfold parentDir baseName
  have := List.dropLast_concat_getLast hne
  rw [List.getLast?_eq_some_getLast hne]
  simpa using this.symm

def NonChunkAt (ms : List MEnt) (j : Nat) (p : Path) : Prop :=
  ∃ m, ms[j]? = some m ∧ m.e.type ≠ "chunk" ∧ m.path = p

theorem lastIdxFrom_some (ms : List MEnt) (p : Path) : ∀ (k j : Nat), lastIdxFrom ms p k = some j →
    k ≤ j ∧ NonChunkAt ms (j - k) p := by
  induction ms with
  | nil => intro k j h; simp [lastIdxFrom] at h
  | cons m rest ih =>
    intro k j h
    unfold lastIdxFrom at h
    cases hr : lastIdxFrom rest p (k + 1) with
    | some j' =>
      rw [hr] at h
      simp only [Option.some.injEq] at h; subst h
      obtain ⟨h1, m', h2, h3⟩ := ih (k + 1) j' hr
      refine ⟨by omega, m', ?_, h3⟩
      have : j' - k = (j' - (k + 1)) + 1 := by omega
      rw [this]; simpa using h2
    | none =>
      rw [hr] at h
      simp only at h
      split at h
      · rename_i hm
        simp only [Option.some.injEq] at h; subst h
        exact ⟨Nat.le_refl _, m, by simp, hm.1, hm.2⟩
      · cases h

theorem lastIdxFrom_ge (ms : List MEnt) (p : Path) : ∀ (k t : Nat), NonChunkAt ms t p →
    ∃ j, lastIdxFrom ms p k = some j ∧ k + t ≤ j := by
  induction ms with
  | nil => intro k t ⟨m, h, _⟩; simp at h
  | cons m rest ih =>
    intro k t ⟨m', h1, h2, h3⟩
    unfold lastIdxFrom
    cases t with
    | zero =>
      simp only [List.getElem?_cons_zero, Option.some.injEq] at h1; subst h1
      cases hr : lastIdxFrom rest p (k + 1) with
      | some j' =>
        have := (lastIdxFrom_some rest p (k + 1) j' hr).1
        exact ⟨j', rfl, by omega⟩
      | none => exact ⟨k, by simp [h2, h3], by omega⟩
    | succ t =>
      simp only [List.getElem?_cons_succ] at h1
      obtain ⟨j, hj, hle⟩ := ih (k + 1) t ⟨m', h1, h2, h3⟩
      rw [hj]
      exact ⟨j, rfl, by omega⟩

theorem lastIdx_nonChunk {ms : List MEnt} {p : Path} {j : Nat} (h : lastIdx ms p = some j) :
    NonChunkAt ms j p := by
  have := lastIdxFrom_some ms p 0 j h
  simpa using this.2

theorem lastIdx_eq_none_iff (ms : List MEnt) (p : Path) :
    lastIdx ms p = none ↔ ∀ j, ¬ NonChunkAt ms j p := by
  constructor
  · intro h j hj
    obtain ⟨j', hj', _⟩ := lastIdxFrom_ge ms p 0 j hj
    unfold lastIdx at h; rw [h] at hj'; cases hj'
  · intro h
    cases hl : lastIdx ms p with
    | none => rfl
    | some j => exact absurd (lastIdx_nonChunk hl) (h j)

theorem lastIdx_ge {ms : List MEnt} {p : Path} {j : Nat} (h : NonChunkAt ms j p) :
    ∃ L, lastIdx ms p = some L ∧ j ≤ L := by
  obtain ⟨L, hL, hle⟩ := lastIdxFrom_ge ms p 0 j h
  exact ⟨L, hL, by omega⟩

theorem keyType_imp (ms : List MEnt) (p : Path) : keyType ms (.imp p) = "dir" := rfl

theorem keyType_ent {ms : List MEnt} {j : Nat} {m : MEnt} (hm : ms[j]? = some m) :
    keyType ms (.ent j) = m.e.type := by simp [keyType, hm]

def IsDirKey (ms : List MEnt) : Key → Prop
  | .root => True
  | .imp _ => True
  | .ent j => ∃ m, ms[j]? = some m ∧ m.e.type = "dir"

theorem isDirKey_keyType {ms : List MEnt} {k : Key} (h : ¬ IsDirKey ms k) : keyType ms k ≠ "dir" := by
  cases k with
  | root => exact absurd trivial h
  | imp p => exact absurd trivial h
  | ent j =>
    intro e
    apply h
    cases hm : ms[j]? with
    | none => simp [keyType, hm] at e
    | some m =>
      refine ⟨m, hm, ?_⟩
      simpa [keyType, hm] using e

theorem validTypes_cases {t : String} (h : t ∈ validTypes) (hc : t ≠ "chunk") (hh : t ≠ "hardlink") :
    t = "reg" ∨ t = "dir" ∨ t = "symlink" ∨ t = "char" ∨ t = "block" ∨ t = "fifo" := by
  simp only [validTypes, List.mem_cons, List.not_mem_nil, or_false] at h
  rcases h with h | h | h | h | h | h | h | h
  · exact Or.inr (Or.inl h)
  · exact Or.inl h
  · exact Or.inr (Or.inr (Or.inl h))
  · exact absurd h hh
  · exact Or.inr (Or.inr (Or.inr (Or.inl h)))
  · exact Or.inr (Or.inr (Or.inr (Or.inr (Or.inl h))))
  · exact Or.inr (Or.inr (Or.inr (Or.inr (Or.inr h))))
  · exact absurd h hc

/-! ## Attributes and link counts in the db encoding -/

/-- the attributes the db store writes when it creates the node `k` -/
def attr0 (ms : List MEnt) : Key → Attr
  | .ent j =>
    match ms[j]? with
    | some m => attrOfEntry m.e (if m.e.type = "dir" then 2 else 1)
    | none => {}
  | _ => rootAttr

theorem attr0_mode_lt (ms : List MEnt) (k : Key) : (attr0 ms k).mode < 4294967296 := by
  cases k with
  | root => show rootAttr.mode < 4294967296; decide
  | imp p => show rootAttr.mode < 4294967296; decide
  | ent j =>
    simp only [attr0]
    split
    · exact goFileMode_lt _ _
    · decide

def eraseNL (b : DbAttr) : DbAttr := { b with numLink := none }

/-- NumLink of the memory store, with the root directory counted as if it already existed -/
def nlEff (sm : MState) (k : Key) : Int := if k = .root ∧ [] ∉ sm.imps then 2 else sm.nl k

theorem readNumLink_root : readNumLink (writeAttr {} rootAttr) = 2 := by decide

theorem eraseNL_bump (b : DbAttr) : eraseNL (bumpNumLink b) = eraseNL b := rfl

theorem readNumLink_bump (b : DbAttr) : readNumLink (bumpNumLink b) = readNumLink b + 1 := by
  simp [readNumLink, bumpNumLink]

theorem readNumLink_writeAttr (b : DbAttr) (a : Attr) :
    readNumLink (writeAttr b a) = if a.numLink ≠ 1 then a.numLink else readNumLink b := by
  rw [writeAttr_eq]
  unfold readNumLink putNZ
  by_cases h0 : a.numLink - 1 = 0 <;> simp [h0] <;> omega

theorem putNZ_idem (v : Int) : putNZ (putNZ none v) v = putNZ none v := by
  unfold putNZ; by_cases h : v = 0 <;> simp [h]

theorem eq_of_eraseNL {b w : DbAttr} (he : eraseNL b = eraseNL w) : b = { w with numLink := b.numLink } := by
  cases b; cases w
  simp only [eraseNL, DbAttr.mk.injEq] at he ⊢
  exact ⟨he.1, he.2.1, he.2.2.1, he.2.2.2.1, he.2.2.2.2.1, trivial, he.2.2.2.2.2.2⟩

theorem readAttr_eraseNL {b w : DbAttr} (he : eraseNL b = eraseNL w) :
    readAttr b = { readAttr w with numLink := (readAttr b).numLink } := by
  conv => lhs; rw [eq_of_eraseNL he]
  rfl

theorem readAttr_writeAttr_mode (b : DbAttr) (a : Attr) :
    (readAttr (writeAttr b a)).mode = if a.mode ≠ 0 then a.mode % 4294967296 else (readAttr b).mode := by
  rw [writeAttr_eq]
  unfold readAttr
  by_cases h0 : a.mode = 0 <;> simp [h0]

theorem writeAttr_idem (b : DbAttr) (a0 : Attr) (he : eraseNL b = eraseNL (writeAttr {} a0)) :
    writeAttr b { a0 with numLink := readNumLink b } = b := by
  have hnl : putNZ b.numLink (readNumLink b - 1) = b.numLink := by
    unfold putNZ readNumLink
    cases hb : b.numLink with
    | none => simp
    | some n => by_cases h0 : n = 0 <;> simp [h0]
  generalize readNumLink b = r at hnl ⊢
  rw [eq_of_eraseNL he]
  generalize b.numLink = n at hnl ⊢
  have h7 : ∀ {α : Type} (c : Prop) [Decidable c] (x y : α), (if c then x else if c then x else y) = if c then x else y :=
    fun c _ x y => by split <;> rfl
  -- every key is put twice with the same value
  rw [writeAttr_eq {} a0, writeAttr_eq]
  have hxf : ∀ xs o, xFirstOf (xFirstOf o xs) xs = xFirstOf o xs := fun xs o => by cases xs <;> rfl
  have hxe : ∀ xs o, xExtraOf (xExtraOf o xs) xs = xExtraOf o xs := fun xs o => by
    rcases xs with _ | ⟨f, _ | ⟨r, rs⟩⟩ <;> rfl
  simp only [DbAttr.mk.injEq, putNZ_idem, hnl, h7, hxf, hxe, true_and, and_true]
  cases a0.mtime <;> rfl

theorem attr_agree (b : DbAttr) (a0 : Attr) (nl : Int)
    (he : eraseNL b = eraseNL (writeAttr {} a0)) (hn : readNumLink b = nl)
    (hm : a0.mode < 4294967296) (hx : (a0.xattrs.map Prod.fst).Nodup) :
    normalise (readAttr b) = normalise { a0 with numLink := nl } ∧
      (readAttr b).mode = a0.mode ∧ (readAttr b).size = a0.size := by
  have hrt := readAttr_writeAttr a0 hm hx
  have hnl : normNlink (readAttr b).numLink = normNlink nl := by
    unfold readAttr readNumLink at *
    simp only
    cases hb : b.numLink with
    | none => rw [hb] at hn; simp at hn; rw [← hn]; exact normNlink_one_zero
    | some n => rw [hb] at hn; simp at hn; rw [← hn]
  have hrb := readAttr_eraseNL he
  have hw := readAttr_writeAttr_eq a0 hm hx
  refine ⟨?_, by rw [hrb, hw], by rw [hrb, hw]⟩
  have hn0 : normalise { a0 with numLink := nl } = { normalise a0 with nlink := normNlink nl } := rfl
  have hn1 : normalise { readAttr (writeAttr {} a0) with numLink := (readAttr b).numLink } =
      { normalise (readAttr (writeAttr {} a0)) with nlink := normNlink (readAttr b).numLink } := rfl
  rw [hn0, ← hrt, ← hnl, hrb, hn1]

/-! ## The chunk tables of one file -/

/-- the size pass 1 gives a chunk row of a file of size `sz` (`R.chunk_size`); the db loop's `R.dbChunkSize` is the same
on chunk entries (`R.dbChunkSize_chunk`), and on the fragment both are the model's `effSize` (`normSize_eff`) -/
def normSize (sz : Int) (e : Entry) : Int :=
  let cs := if e.chunkSize = 0 then sz - e.chunkOffset else e.chunkSize
  if cs = 0 ∧ e.size ≠ 0 then e.size else cs

/-- the filter of the model's `chunksOf`; the db store files those of positive size (`R.PpD`) -/
def Pp (p : Path) (m : MEnt) : Bool := m.e.type = "chunk" ∧ m.path = p

/-- what the model's `memRows` maps an index to -/
def rowM (m : MEnt) : Chunk :=
  { chunkOffset := m.e.chunkOffset, chunkSize := m.chunkSize, digest := memDigest m.e, offset := m.e.offset }

theorem memChunkIdxs_go_append (p : Path) (l1 l2 : List MEnt) : ∀ (i : Nat) (acc : List Nat),
    memChunkIdxs.go p (l1 ++ l2) i acc = memChunkIdxs.go p l2 (i + l1.length) (memChunkIdxs.go p l1 i acc) := by
  induction l1 with
  | nil => intro i acc; simp [memChunkIdxs.go]
  | cons m rest ih =>
    intro i acc
    simp only [List.cons_append, memChunkIdxs.go, List.length_cons]
    rw [ih]; congr 1; omega

theorem memChunkIdxs_go_nomatch (p : Path) (l : List MEnt) (h : ∀ m ∈ l, m.path ≠ p) : ∀ (i : Nat) (acc : List Nat),
    memChunkIdxs.go p l i acc = acc := by
  induction l with
  | nil => intro i acc; rfl
  | cons m rest ih =>
    intro i acc
    have hm := h m (by simp)
    simp only [memChunkIdxs.go, hm, and_false, false_and, ↓reduceIte]
    exact ih (fun x hx => h x (by simp [hx])) _ _

theorem memRows_append (ms : List MEnt) (a b : List Nat) :
    memRows ms (a ++ b) = memRows ms a ++ memRows ms b := by
  simp [memRows, List.filterMap_append]

theorem memRows_single (ms : List MEnt) (i : Nat) (m : MEnt) (h : ms[i]? = some m) :
    memRows ms [i] = [rowM m] := by
  simp [memRows, h, rowM]

theorem memChunkIdxs_go_rows (ms : List MEnt) (p : Path) : ∀ (d i : Nat) (acc : List Nat), ms.length - i = d →
    (∀ m ∈ ms.drop i, m.e.type = "reg" → m.path ≠ p) →
    memRows ms (memChunkIdxs.go p (ms.drop i) i acc) =
      memRows ms acc ++ ((ms.drop i).filter (Pp p)).map rowM ∧
    (memChunkIdxs.go p (ms.drop i) i acc).length = acc.length + ((ms.drop i).filter (Pp p)).length := by
  intro d
  induction d with
  | zero =>
    intro i acc hd _
    rw [List.drop_eq_nil_of_le (by omega)]
    simp [memChunkIdxs.go]
  | succ d ih =>
    intro i acc hd hno
    have hlt : i < ms.length := by omega
    rw [List.drop_eq_getElem_cons hlt] at hno ⊢
    have hnoreset : ¬ (ms[i].e.type = "reg" ∧ ms[i].path = p ∧ ms[i].e.chunkSize > 0 ∧ ms[i].e.chunkSize < ms[i].e.size) :=
      fun h => hno ms[i] (List.mem_cons_self ..) h.1 h.2.1
    simp only [memChunkIdxs.go, hnoreset, ↓reduceIte]
    have hrest := ih (i + 1) (if ms[i].e.type = "chunk" ∧ ms[i].path = p then acc ++ [i] else acc)
      (by omega) (fun m hm => hno m (List.mem_cons_of_mem _ hm))
    rw [hrest.1, hrest.2]
    by_cases hP : ms[i].e.type = "chunk" ∧ ms[i].path = p
    · have hPp : Pp p ms[i] = true := by simp [Pp, hP]
      simp only [hP, and_self, ↓reduceIte, List.filter, hPp, List.map_cons, List.length_cons, List.length_append,
        List.length_nil]
      rw [memRows_append, memRows_single ms i ms[i] (List.getElem?_eq_getElem hlt)]
      exact ⟨by simp, by omega⟩
    · have hPp : Pp p ms[i] = false := by simp [Pp]; exact fun h => (hP ⟨h, ·⟩)
      simp only [hP, ↓reduceIte, List.filter, hPp]
      exact ⟨trivial, trivial⟩

theorem memDigest_eq (e : Entry) (h : digestOK e = true) : memDigest e = e.chunkDigest := by
  unfold memDigest
  unfold digestOK at h
  by_cases hc : e.chunkDigest = ""
  · simp [hc] at h ⊢; exact h
  · simp [hc]

theorem normSize_eff (sz : Int) (e : Entry) (h : e.size = 0) : normSize sz e = effSize sz e := by
  simp [normSize, effSize, h]

theorem contig_of_ok (size : Int) : ∀ (l : List MEnt) (start : Int),
    (∀ m ∈ l, m.chunkSize = normSize size m.e) → contigOK size start (l.map (·.e)) = true →
    Contig start size (l.map rowM) ∧ (∀ m ∈ l, digestOK m.e = true ∧ normSize size m.e > 0) := by
  intro l
  induction l with
  | nil =>
    intro start _ h
    simp only [List.map_nil, contigOK, decide_eq_true_eq] at h
    exact ⟨h, fun _ hm => by cases hm⟩
  | cons c cs ih =>
    intro start hsz h
    simp only [List.map_cons, contigOK, Bool.and_eq_true, decide_eq_true_eq] at h
    obtain ⟨⟨⟨⟨h1, h2⟩, h3⟩, h4⟩, h5⟩ := h
    have hcs : c.chunkSize = effSize size c.e := by
      rw [hsz c (by simp), normSize_eff _ _ h2]
    obtain ⟨ih1, ih2⟩ := ih (start + effSize size c.e) (fun m hm => hsz m (by simp [hm])) h5
    refine ⟨⟨h1, by simp only [rowM]; rw [hcs]; exact h4, by simp only [rowM]; rw [hcs]; exact ih1⟩, ?_⟩
    intro m hm
    rcases List.mem_cons.mp hm with e | e
    · subst e; exact ⟨h3, by rw [normSize_eff _ _ h2]; exact h4⟩
    · exact ih2 m e

theorem contig_lt_of_ne_nil {rows : List Chunk} {s t : Int} (h : Contig s t rows) (hne : rows ≠ []) : s < t := by
  cases rows with
  | nil => exact absurd rfl hne
  | cons r rs => have := h.2.2.le; have := h.2.1; omega

/-- row tables that tile `[0, size)`: the memory store's shortcut for fewer than two rows and the
db store's recomputed table answer alike -/
theorem lookup_rows_agree (size : Int) (m d : List Chunk) (hc : Contig 0 size m)
    (he : d.map eraseSize = m.map eraseSize) (x : Int) (hx : 0 ≤ x) :
    (match m with
     | [] => ChunkTab.single 0 0 ""
     | [r] => ChunkTab.single r.chunkOffset r.chunkSize r.digest
     | _ => ChunkTab.table m).lookup x = (ChunkTab.table (readChunks d size)).lookup x := by
  rw [readChunks_contig d m size hc he]
  match m, hc with
  | [], hc =>
    simp only [Contig] at hc
    simp [ChunkTab.lookup, searchChunk, searchFirst, searchLoop, hx]
  | [r], hc =>
    obtain ⟨h1, h2, h3⟩ := hc
    simp only [ChunkTab.lookup]
    rw [searchChunk_contig [r] 0 size ⟨h1, h2, h3⟩ x]
    simp only [List.find?, covers]
    by_cases hlt : x ≥ r.chunkSize
    · have : ¬ (x < r.chunkOffset + r.chunkSize) := by omega
      simp [hlt, this]
    · have : x < r.chunkOffset + r.chunkSize := by omega
      simp [hlt, this]
  | _ :: _ :: _, _ => rfl

theorem readChunks_nil (size : Int) : readChunks [] size = [] := rfl

theorem lookup_empty_table (x : Int) : (ChunkTab.table (readChunks [] 0)).lookup x = none := by
  rw [readChunks_nil]; simp [ChunkTab.lookup, searchChunk]

/-! ## The view; acceptance by the two interpreters -/

theorem probeWalk_agree (tab1 tab2 : ChunkTab)
    (h : ∀ x, 0 ≤ x → tab1.lookup x = tab2.lookup x) :
    ∀ (fuel : Nat) (off : Int) (acc : List Int), 0 ≤ off →
      probeOffsets.walk tab1 fuel off acc = probeOffsets.walk tab2 fuel off acc := by
  intro fuel
  induction fuel with
  | zero => intro off acc _; rfl
  | succ fuel ih =>
    intro off acc hoff
    simp only [probeOffsets.walk]
    rw [h off hoff]
    cases tab2.lookup off with
    | none => rfl
    | some r =>
      obtain ⟨co, cs, d⟩ := r
      simp only
      split
      · rfl
      · rename_i hc
        apply ih
        omega

theorem probes_agree (tab1 tab2 : ChunkTab) (size : Int)
    (h : ∀ x, 0 ≤ x → tab1.lookup x = tab2.lookup x) :
    ((sortDedupInts (probeOffsets tab1 size)).filter (· ≥ 0)).map (fun x => (x, tab1.lookup x)) =
    ((sortDedupInts (probeOffsets tab2 size)).filter (· ≥ 0)).map (fun x => (x, tab2.lookup x)) := by
  have hp : probeOffsets tab1 size = probeOffsets tab2 size := by
    unfold probeOffsets
    exact probeWalk_agree tab1 tab2 h 2000 0 _ (Int.le_refl 0)
  rw [hp]
  apply List.map_congr_left
  intro x hx
  have : 0 ≤ x := by
    have := (List.mem_filter.mp hx).2
    simpa using this
  rw [h x this]

theorem mGetSource_nonhardlink (ms : List MEnt) (s : MState) (bound n : Nat) (k : Key)
    (h : keyType ms k ≠ "hardlink") : mGetSource ms s bound n k = some k := by
  unfold mGetSource; simp [h]

theorem mLookupResolved_imp (ms : List MEnt) (s : MState) {p : Path} (hl : lastIdx ms p = none) (hp : p ∈ s.imps) :
    mLookupResolved ms s p = some (impKey p) := by
  unfold mLookupResolved mLookup
  rw [hl]
  simp only [hp, ↓reduceIte]
  exact mGetSource_nonhardlink ms s _ 0 _ (by unfold impKey; split <;> simp [keyType])

theorem memTree_accept {es : List Entry} {smF : MState}
    (h : pass2 (pass1 es) (enumFrom' 0 (pass1 es)) { nl := initNl (pass1 es) } = some smF)
    (hroot : [] ∈ smF.imps) (hl : lastIdx (pass1 es) [] = none)
    (hsrc : ∀ org, org ∈ smF.hlSources → smF.kids org = []) :
    memTree es = .accept { root := .root, node := memNode (pass1 es) smF } := by
  unfold memTree
  simp only [h]
  have hany : (smF.hlSources.any fun org => ¬ (smF.kids org).isEmpty) = false := by
    rw [List.any_eq_false]
    intro org horg
    simp [hsrc org horg]
  simp only [hany, Bool.false_eq_true, ↓reduceIte]
  have hlen : lenM (pass1 es) smF ≠ 0 := by
    unfold lenM
    have : 0 < smF.imps.length := List.length_pos_of_mem hroot
    omega
  simp only [hlen, ↓reduceIte]
  rw [mLookupResolved_imp _ _ hl hroot]
  rfl

theorem dbTree_accept {es : List Entry} {sdF : DState} (h : dRun (enumFrom' 0 es) dInit = .inl sdF) :
    dbTree es = .accept { root := .root, node := dbNode sdF } := by
  unfold dbTree dInitNodes
  rw [h]

end SV.Toc
