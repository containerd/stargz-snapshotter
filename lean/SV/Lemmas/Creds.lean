/-
Lemmas for C18 (SV/Model/Creds.lean).  Keychain: `kstep_config` (one request, seen from one reference),
`config_origin` (where an entry comes from), `KInv`; `parseAuth_nonEmpty` / `parseAuth_on_mismatch`,
`multiCreds_spec`.  Fetcher: `Fits`;
every model function keeps "the requests are confined and `FState.inv` holds", up to
`newFetcherFrom_spec` and `frun_spec`.
-/
import SV.Model.Creds

namespace SV.Creds

section Keychain
variable (norm : String → Option Ref)

/-- Nothing is ever stored while the backend is not connected. -/
def KInv (s : KState) : Prop := s.connected = false → ∀ r, s.config r = none

theorem kinv_init : KInv ({} : KState) := fun _ _ => rfl

theorem kstep_config (s : KState) (op : KOp) (ref : Ref) :
    (kstep norm s op).1.config ref =
      if s.connected = true ∧ touches norm ref op = true then
        (match op with
          | .pull _ auth _ => some auth
          | _ => none)
      else s.config ref := by
  cases op with
  | connect => exact (if_neg fun h => nomatch h.2).symm
  | pull image _ _ | remove image _ =>
    cases hc : s.connected
    · simp [kstep, hc]
    · cases hn : norm image with
      | none => simp [kstep, touches, hc, hn]
      | some k =>
        by_cases hk : ref = k
        · simp [kstep, touches, hc, hn, hk]
        · have hk' : ¬ k = ref := fun h => hk h.symm
          simp [kstep, touches, hc, hn, hk, hk']

theorem kstep_connected (s : KState) (op : KOp) :
    (kstep norm s op).1.connected = true ↔ s.connected = true ∨ op = .connect := by
  cases op with
  | connect => exact ⟨fun _ => Or.inr rfl, fun _ => rfl⟩
  | pull image _ _ | remove image _ =>
    cases hc : s.connected <;> cases hn : norm image <;> simp [kstep, hc, hn]

theorem kstep_inv (s : KState) (op : KOp) (h : KInv s) : KInv (kstep norm s op).1 := by
  intro hc r
  have hs : ¬ s.connected = true := fun hs =>
    absurd (((kstep_connected norm s op).mpr (Or.inl hs)).symm.trans hc) nofun
  rw [kstep_config, if_neg fun h => hs h.1]
  exact h (Bool.eq_false_iff.mpr hs) r

theorem krun_cons (s : KState) (op : KOp) (ops : List KOp) :
    krun norm s (op :: ops) = krun norm (kstep norm s op).1 ops := rfl

theorem krun_append (s : KState) (a b : List KOp) :
    krun norm s (a ++ b) = krun norm (krun norm s a) b :=
  List.foldl_append

theorem krun_inv (ops : List KOp) : ∀ s, KInv s → KInv (krun norm s ops) :=
  fun _ h => ops.foldlRecOn _ h fun s h op _ => kstep_inv norm s op h

theorem krun_connected_mono (ops : List KOp) : ∀ s, s.connected = true →
    (krun norm s ops).connected = true :=
  fun _ h => ops.foldlRecOn (motive := (·.connected = true)) _ h
    fun s h op _ => (kstep_connected norm s op).mpr (Or.inl h)

theorem kstep_untouched (s : KState) (op : KOp) (ref : Ref) (h : touches norm ref op = false) :
    (kstep norm s op).1.config ref = s.config ref := by
  rw [kstep_config, h]
  exact if_neg fun h' => nomatch h'.2

theorem krun_untouched (ops : List KOp) (ref : Ref) : ∀ s,
    (∀ op ∈ ops, touches norm ref op = false) → (krun norm s ops).config ref = s.config ref :=
  fun s h => ops.foldlRecOn (motive := (·.config ref = s.config ref)) _ rfl
    fun s' e op hop => (kstep_untouched norm s' op ref (h op hop)).trans e

theorem kstep_pull_stores (s : KState) (image : String) (auth : Option AuthConfig) (ok : Bool)
    (ref : Ref) (hc : s.connected = true) (hn : norm image = some ref) :
    (kstep norm s (.pull image auth ok)).1.config ref = some auth := by
  rw [kstep_config, if_pos ⟨hc, beq_iff_eq.mpr hn⟩]

theorem kstep_remove_clears (s : KState) (hi : KInv s) (image : String) (ok : Bool) (ref : Ref)
    (hn : norm image = some ref) : (kstep norm s (.remove image ok)).1.config ref = none := by
  rw [kstep_config]
  split
  · rfl
  · next h => exact hi (Bool.eq_false_iff.mpr fun hc => h ⟨hc, beq_iff_eq.mpr hn⟩) ref

/-- Where an entry comes from: the start state, or the latest pull of the reference, which arrived on a
connected backend. -/
theorem config_origin (ops : List KOp) : ∀ s, KInv s → ∀ (ref : Ref) (a : Option AuthConfig),
    (krun norm s ops).config ref = some a →
    (s.config ref = some a ∧ ∀ op ∈ ops, touches norm ref op = false) ∨
    ∃ pre image ok post, ops = pre ++ KOp.pull image a ok :: post ∧ norm image = some ref ∧
      (krun norm s pre).connected = true ∧ ∀ op ∈ post, touches norm ref op = false := by
  induction ops with
  | nil => exact fun s _ ref a h => Or.inl ⟨h, nofun⟩
  | cons op ops ih =>
    intro s hi ref a h
    rcases ih _ (kstep_inv norm s op hi) ref a h with ⟨h1, h2⟩ | ⟨pre, image, ok, post, he, hn, hc, hp⟩
    · rw [kstep_config] at h1
      split at h1
      · -- `op` names `ref` on a connected backend: it is the pull the entry comes from
        next ht =>
        cases op with
        | pull image auth ok =>
          cases h1
          exact Or.inr ⟨[], image, ok, ops, rfl, beq_iff_eq.mp ht.2, ht.1, h2⟩
        | _ => cases h1
      · next ht =>
        cases hto : touches norm ref op with
        | false => exact Or.inl ⟨h1, List.forall_mem_cons.mpr ⟨hto, h2⟩⟩
        | true =>
          have hc : s.connected = false := Bool.eq_false_iff.mpr fun hc => ht ⟨hc, hto⟩
          exact absurd ((hi hc ref).symm.trans h1) nofun
    · exact Or.inr ⟨op :: pre, image, ok, post, congrArg (op :: ·) he, hn, hc, hp⟩

theorem config_none (ops : List KOp) (s : KState) (hi : KInv s) (ref : Ref) (h0 : s.config ref = none)
    (hp : ∀ image auth ok, KOp.pull image auth ok ∈ ops → norm image ≠ some ref) :
    (krun norm s ops).config ref = none := by
  cases hc : (krun norm s ops).config ref with
  | none => rfl
  | some a =>
    rcases config_origin norm ops s hi ref a hc with ⟨h, _⟩ | ⟨pre, image, ok, post, he, hn, _, _⟩
    · cases h0.symm.trans h
    · exact absurd hn (hp image a ok (he ▸ List.mem_append_right _ List.mem_cons_self))

theorem credentials_nonEmpty {s : KState} {host : String} {ref : Ref} {u p : Bytes}
    (h : credentials s host ref = .ok u p) (hne : u ≠ [] ∨ p ≠ []) :
    ∃ cfg, s.config ref = some cfg ∧ parseAuth cfg (aliasHost host) = .ok u p := by
  unfold credentials at h
  split at h
  · next cfg hc => exact ⟨cfg, hc, h⟩
  · cases h; exact absurd rfl (hne.elim id id)

theorem parseAuth_address (a : AuthConfig) (host : String) (h1 : a.serverAddress ≠ "") :
    parseAuth (some a) host =
      match urlHost a.serverAddress with
      | none => .err
      | some h => if host ≠ h then .ok [] [] else parseAuthForms a := by
  rw [parseAuth, if_pos h1]
  rfl

theorem parseAuth_on_mismatch (a : AuthConfig) (host : String) (h1 : a.serverAddress ≠ "")
    (h2 : urlHost a.serverAddress ≠ some host) :
    (parseAuth (some a) host = .ok [] [] ∧ urlHost a.serverAddress ≠ none) ∨
    (parseAuth (some a) host = .err ∧ urlHost a.serverAddress = none) := by
  rw [parseAuth_address a host h1]
  cases hu : urlHost a.serverAddress with
  | none => exact Or.inr ⟨rfl, rfl⟩
  | some hh => exact Or.inl ⟨if_pos fun e => h2 (hu.trans (congrArg some e.symm)), nofun⟩

theorem parseAuth_mismatch (a : AuthConfig) (host : String) (h1 : a.serverAddress ≠ "")
    (h2 : urlHost a.serverAddress ≠ some host) :
    parseAuth (some a) host = .ok [] [] ∨ parseAuth (some a) host = .err :=
  (parseAuth_on_mismatch a host h1 h2).imp And.left And.left

theorem parseAuth_nonEmpty (auth : Option AuthConfig) (host : String) (u s : Bytes)
    (h : parseAuth auth host = .ok u s) (hne : u ≠ [] ∨ s ≠ []) :
    ∃ a, auth = some a ∧ (a.serverAddress = "" ∨ urlHost a.serverAddress = some host) ∧
      parseAuthForms a = .ok u s := by
  have hemp : Res.ok [] [] ≠ .ok u s := fun e => by cases e; exact hne.elim (· rfl) (· rfl)
  cases auth with
  | none => exact absurd h hemp
  | some a =>
    refine ⟨a, rfl, ?_⟩
    by_cases h1 : a.serverAddress = ""
    · rw [parseAuth, if_neg (not_not_intro h1)] at h
      exact ⟨Or.inl h1, h⟩
    · rw [parseAuth_address a host h1] at h
      split at h
      · cases h
      · next hh hu =>
        split at h
        · exact absurd h hemp
        · next e => exact ⟨Or.inr (hu.trans (congrArg some (Decidable.not_not.mp e).symm)), h⟩

theorem multiCreds_cons_empty {g : String → Ref → Res} {host : String} {ref : Ref}
    (hg : g host ref = .ok [] []) (rest : List (String → Ref → Res)) :
    multiCreds (g :: rest) host ref = multiCreds rest host ref := by
  rw [multiCreds, hg]
  exact if_neg fun h => h.elim (· rfl) (· rfl)

theorem multiCreds_cons_nonEmpty {g : String → Ref → Res} {host : String} {ref : Ref}
    (hg : g host ref ≠ .ok [] []) (rest : List (String → Ref → Res)) :
    multiCreds (g :: rest) host ref = g host ref := by
  rw [multiCreds]
  cases hr : g host ref with
  | err => rfl
  | ok u s =>
    refine if_pos ?_
    by_cases hu : u = []
    · exact Or.inr fun hs => hg (by rw [hr, hu, hs])
    · exact Or.inl hu

theorem multiCreds_skip_empty (pre rest : List (String → Ref → Res)) (host : String) (ref : Ref)
    (h : ∀ g ∈ pre, g host ref = .ok [] []) :
    multiCreds (pre ++ rest) host ref = multiCreds rest host ref := by
  induction pre with
  | nil => rfl
  | cons g pre ih =>
    rw [List.cons_append, multiCreds_cons_empty (h g List.mem_cons_self)]
    exact ih fun g' hg' => h g' (List.mem_cons_of_mem _ hg')

theorem multiCreds_spec (fs : List (String → Ref → Res)) (host : String) (ref : Ref) :
    multiCreds fs host ref = .ok [] [] ∨
    ∃ pre f post, fs = pre ++ f :: post ∧ (∀ g ∈ pre, g host ref = .ok [] []) ∧
      f host ref ≠ .ok [] [] ∧ multiCreds fs host ref = f host ref := by
  induction fs with
  | nil => exact Or.inl rfl
  | cons g gs ih =>
    by_cases hg : g host ref = .ok [] []
    · rw [multiCreds_cons_empty hg]
      refine ih.imp_right fun ⟨pre, f, post, he, hp, hf⟩ => ⟨g :: pre, f, post, congrArg (g :: ·) he, ?_, hf⟩
      exact List.forall_mem_cons.mpr ⟨hg, hp⟩
    · exact Or.inr ⟨[], g, gs, rfl, nofun, hg, multiCreds_cons_nonEmpty hg gs⟩

theorem hostHeadersFrom_spec (ms : List Bool) : ∀ (k i j : Nat),
    (hostHeadersFrom k ms)[i]? = some (some j) → j = k + i ∧ ms[i]? = some true := by
  induction ms with
  | nil => intro k i j h; cases i <;> cases h
  | cons m ms ih =>
    intro k i j h
    cases i with
    | zero => cases m <;> cases h; exact ⟨rfl, rfl⟩
    | succ i =>
      obtain ⟨h1, h2⟩ := ih (k + 1) i j h
      exact ⟨by omega, h2⟩

end Keychain

section Fetcher

/-- The header set `c` may travel to target `t`: `Req.confined` of any request with these two. -/
def Fits (c : Option Nat) (t : Target) : Prop := ∀ j, c = some j → t = .reg j

def AllConfined (l : List Req) : Prop := ∀ r ∈ l, r.confined

theorem allConfined_nil : AllConfined [] := fun _ h => nomatch h

theorem allConfined_append {a b : List Req} :
    AllConfined (a ++ b) ↔ AllConfined a ∧ AllConfined b :=
  List.forall_mem_append

/-- Every request `tr.RoundTrip` sends is the request it was given (the 401 retry is a clone). -/
theorem roundTrip_log (az : Authz) (k : ReqKind) (t : Target) (c : Option Nat) (sc : List Ans) :
    ∀ r ∈ (roundTrip az k t c sc).1, r = ⟨k, t, c⟩ := by
  intro r hr
  unfold roundTrip at hr
  dsimp only at hr
  repeat' split at hr
  all_goals simpa using hr

variable {az : Authz} {st : FState} {sc : List Ans} {l : List Req} {r : List Ans}

theorem roundTrip_confined {k : ReqKind} {t : Target} {c : Option Nat} {a : Ans}
    (h : roundTrip az k t c sc = (l, a, r)) (hf : Fits c t) : AllConfined l :=
  fun q hq => roundTrip_log az k t c sc q (h ▸ hq) ▸ hf

theorem FState.inv.org (h : st.inv) : Fits st.org (.reg st.host) :=
  fun j hj => by rw [h.1 j hj]

theorem FState.inv.fits (h : st.inv) : Fits st.hdr st.url := by
  intro j hj
  obtain ⟨e, hu⟩ := h.2 j hj
  rw [hu, e]

theorem FState.inv.home (h : st.inv) (hne : st.hdr ≠ none) : st.url = .reg st.host := by
  cases hh : st.hdr with
  | none => exact absurd hh hne
  | some j => exact (h.2 j hh).2

/-- `FState.inv` (Model/Creds.lean) from its three `Fits`-shaped consequences `.org`, `.fits`, `.home`: how
the `_spec` lemmas below rebuild it. -/
theorem FState.inv.intro (ho : Fits st.org (.reg st.host)) (hf : Fits st.hdr st.url)
    (hh : st.hdr ≠ none → st.url = .reg st.host) : st.inv :=
  ⟨fun j hj => (Target.reg.inj (ho j hj)).symm, fun j hj =>
    have hu := hh (hj ▸ nofun)
    ⟨(Target.reg.inj (hu ▸ hf j hj)).symm, hu⟩⟩

theorem redirectResult_spec (i : Nat) (c : Option Nat) (a : Ans) (u : Target) (h : Option Nat)
    (hr : redirectResult i c a = some (u, h)) :
    h = none ∨ (h = c ∧ u = .reg i ∧ a.isBody = true) := by
  unfold redirectResult at hr
  split at hr
  · cases hr; exact Or.inr ⟨rfl, rfl, rfl⟩
  · cases hr; exact Or.inr ⟨rfl, rfl, rfl⟩
  · cases hr; exact Or.inl rfl
  · cases hr

theorem redirect_spec {i : Nat} {c : Option Nat} {res : Option (Target × Option Nat)}
    (h : redirect az i c sc = (l, res, r)) (hc : Fits c (.reg i)) :
    AllConfined l ∧ ∀ u hd, res = some (u, hd) → Fits hd u ∧ (hd ≠ none → u = .reg i) := by
  unfold redirect at h
  split at h
  next l' a r' he =>
  cases h
  refine ⟨roundTrip_confined he hc, fun u hd hr => ?_⟩
  rcases redirectResult_spec i c a u hd hr with h1 | ⟨h1, h2, _⟩
  · exact ⟨fun j hj => (nomatch h1.symm.trans hj), fun hne => absurd h1 hne⟩
  · exact ⟨h1 ▸ h2 ▸ hc, fun _ => h2⟩

theorem getSize_confined {t : Target} {c : Option Nat} {ok : Bool} (h : getSize az t c sc = (l, ok, r))
    (hf : Fits c t) : AllConfined l := by
  unfold getSize at h
  split at h
  next l1 a1 r1 h1 =>
  have hc1 := roundTrip_confined h1 hf
  split at h
  · cases h; exact hc1
  · cases h; exact hc1
  · split at h
    next l2 a2 r2 h2 =>
    cases h
    exact allConfined_append.mpr ⟨hc1, roundTrip_confined h2 hf⟩

theorem newFetcherFrom_spec (az : Authz) (force : Bool) {hosts : List HostCfg} {i : Nat} {res : Option FState}
    (h : newFetcherFrom az force i hosts sc = (l, res, r)) :
    AllConfined l ∧ ∀ st, res = some st → st.inv := by
  induction hosts generalizing i sc l res r with
  | nil => cases h; exact ⟨allConfined_nil, nofun⟩
  | cons hc hs ih =>
    rw [newFetcherFrom] at h
    split at h
    · exact ih h
    · have horg : Fits (if hc.hasHeader then some i else none) (.reg i) := by
        intro j hj
        split at hj <;> cases hj
        rfl
      dsimp only at h
      split at h
      · next l1 r1 h1 =>
        cases h
        exact ⟨allConfined_append.mpr ⟨(redirect_spec h1 horg).1, (ih rfl).1⟩, (ih rfl).2⟩
      · next l1 u hd r1 h1 =>
        obtain ⟨hc1, hres⟩ := redirect_spec h1 horg
        obtain ⟨hf, hh⟩ := hres u hd rfl
        split at h
        · next l2 r2 h2 =>
          cases h
          exact ⟨allConfined_append.mpr ⟨allConfined_append.mpr ⟨hc1, getSize_confined h2 hf⟩, (ih rfl).1⟩,
            (ih rfl).2⟩
        · next l2 r2 h2 =>
          cases h
          exact ⟨allConfined_append.mpr ⟨hc1, getSize_confined h2 hf⟩, fun st hst => by
            cases hst; exact .intro horg hf hh⟩

theorem refreshURL_some {st' : FState} (h : (refreshURL az st sc).2.1 = some st') :
    ∃ u hd, redirectResult st.host st.org (roundTrip az .redirect (.reg st.host) st.org sc).2.1 = some (u, hd) ∧
      st' = { st with url := u, hdr := hd } := by
  unfold refreshURL redirect at h
  dsimp only at h
  split at h
  · next u hd _ he => cases h; exact ⟨u, hd, congrArg (·.2.1) he, rfl⟩
  · cases h

theorem refreshURL_spec {res : Option FState} (h : refreshURL az st sc = (l, res, r)) (hi : st.inv) :
    AllConfined l ∧ ∀ st', res = some st' → st'.inv := by
  unfold refreshURL at h
  split at h
  · next l1 u hd r1 h1 =>
    cases h
    obtain ⟨hc1, hres⟩ := redirect_spec h1 hi.org
    exact ⟨hc1, fun st' hst => by cases hst; exact .intro hi.org (hres u hd rfl).1 (hres u hd rfl).2⟩
  · next l1 r1 h1 => cases h; exact ⟨(redirect_spec h1 hi.org).1, nofun⟩

theorem fetch_spec {st' : FState} {ok : Bool} (h : fetch az st sc = (l, st', ok, r)) (hi : st.inv) :
    AllConfined l ∧ st'.inv := by
  unfold fetch at h
  split at h
  next l1 a r1 h1 =>
  have hc1 := roundTrip_confined h1 hi.fits
  split at h
  · cases h; exact ⟨hc1, hi⟩
  · cases h; exact ⟨hc1, hi⟩
  · -- 403: refresh and retry once
    split at h
    · next l2 r2 h2 => cases h; exact ⟨allConfined_append.mpr ⟨hc1, (refreshURL_spec h2 hi).1⟩, hi⟩
    · next l2 st2 r2 h2 =>
      obtain ⟨hc2, hi2⟩ := refreshURL_spec h2 hi
      split at h
      next l3 a3 r3 h3 =>
      cases h
      exact ⟨allConfined_append.mpr ⟨allConfined_append.mpr ⟨hc1, hc2⟩, roundTrip_confined h3 (hi2 _ rfl).fits⟩,
        hi2 _ rfl⟩
  · -- 400: single range mode and retry once
    split at h
    · cases h; exact ⟨hc1, hi⟩
    · cases h
      exact ⟨allConfined_append.mpr ⟨hc1, roundTrip_confined (t := st.url) rfl hi.fits⟩, hi⟩
  · cases h; exact ⟨hc1, hi⟩

theorem check_spec {st' : FState} {ok : Bool} (h : check az st sc = (l, st', ok, r)) (hi : st.inv) :
    AllConfined l ∧ st'.inv := by
  unfold check at h
  split at h
  next l1 a r1 h1 =>
  have hc1 := roundTrip_confined h1 hi.fits
  split at h
  · cases h; exact ⟨hc1, hi⟩
  · cases h; exact ⟨hc1, hi⟩
  · split at h
    · next l2 r2 h2 => cases h; exact ⟨allConfined_append.mpr ⟨hc1, (refreshURL_spec h2 hi).1⟩, hi⟩
    · next l2 st2 r2 h2 =>
      cases h
      exact ⟨allConfined_append.mpr ⟨hc1, (refreshURL_spec h2 hi).1⟩, (refreshURL_spec h2 hi).2 _ rfl⟩
  · cases h; exact ⟨hc1, hi⟩

theorem fstep_spec {cfg : FCfg} {op : FOp} {st' : FState} {ok : Bool} (h : fstep cfg st op = (l, st', ok, r))
    (hi : st.inv) : AllConfined l ∧ st'.inv := by
  cases op with
  | read sc => exact fetch_spec h hi
  | check sc => exact check_spec h hi
  | refresh sc =>
    rw [fstep] at h
    unfold newFetcher at h
    split at h
    · next l' st2 r' h' => cases h; exact ⟨(newFetcherFrom_spec _ _ h').1, (newFetcherFrom_spec _ _ h').2 _ rfl⟩
    · next l' r' h' => cases h; exact ⟨(newFetcherFrom_spec _ _ h').1, hi⟩

theorem frun_spec (cfg : FCfg) (ops : List FOp) : ∀ st, st.inv →
    AllConfined (frun cfg st ops).1 ∧ (frun cfg st ops).2.inv := by
  induction ops with
  | nil => exact fun st hi => ⟨allConfined_nil, hi⟩
  | cons op ops ih =>
    intro st hi
    unfold frun
    split
    next l st' ok r h =>
    obtain ⟨hc, hi'⟩ := fstep_spec h hi
    exact ⟨allConfined_append.mpr ⟨hc, (ih st' hi').1⟩, (ih st' hi').2⟩

end Fetcher

end SV.Creds
