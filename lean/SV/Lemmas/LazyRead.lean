/-
The lazy read stack of C02 / C15 (SV/Model/LazyRead.lean): the chunk lookup (`lookup_spec`), the hypotheses
`WF` and `Honest`, cache predicates kept by accepted stores (`Entrywise`, `Accepts`), one round of `file.ReadAt` (`serve`,
`readLoop_succ`) and the loop rule `readLoop_rule`, the store walk of prefetch (`cacheFiltered_cached`),
histories (`step_accepts`), prefetch as equations (`prefetchBody_eq`).
-/
import SV.Model.LazyRead

namespace SV.LazyRead

/-! ## `slice` -/

@[simp] theorem slice_length (b : Bytes) (lo len : Nat) :
    (slice b lo len).length = min len (b.length - lo) := by
  simp [slice]

theorem slice_length_of_fit {b : Bytes} {lo len : Nat} (h : lo + len ≤ b.length) :
    (slice b lo len).length = len := by
  rw [slice_length]
  exact Nat.min_eq_left (Nat.le_sub_of_add_le' h)

theorem slice_append (b : Bytes) (lo a c : Nat) :
    slice b lo a ++ slice b (lo + a) c = slice b lo (a + c) := by
  unfold slice
  rw [List.take_add, List.drop_drop]

theorem slice_slice (b : Bytes) (lo len lo' len' : Nat) (h : lo' + len' ≤ len) :
    slice (slice b lo len) lo' len' = slice b (lo + lo') len' := by
  unfold slice
  rw [List.drop_take, List.take_take, List.drop_drop, Nat.min_eq_left (Nat.le_sub_of_add_le' h)]

theorem slice_take_full (b : Bytes) (k lo len : Nat)
    (h : (slice (b.take k) lo len).length = len) : slice (b.take k) lo len = slice b lo len := by
  unfold slice at *
  rw [List.drop_take, List.take_take] at *
  rw [List.length_take] at h
  congr 1
  exact Nat.le_antisymm (Nat.min_le_left _ _) (Nat.le_trans (Nat.le_of_eq h.symm) (Nat.min_le_left _ _))

/-! ## The chunk lookup -/

theorem mid_between {i j : Nat} (h : i < j) : i ≤ (i + j) / 2 ∧ (i + j) / 2 < j := by omega

theorem searchLoop_spec (p : Nat → Bool) (m n : Nat) (hlow : ∀ k, k < m → p k = false)
    (hhigh : ∀ k, m ≤ k → k < n → p k = true) :
    ∀ fuel i j, i ≤ m → m ≤ j → j ≤ n → j - i ≤ fuel → searchLoop p fuel i j = m := by
  intro fuel
  induction fuel with
  | zero =>
    intro i j him hmj _ hf
    exact Nat.le_antisymm him (Nat.le_trans hmj (Nat.le_of_sub_eq_zero (Nat.le_zero.mp hf)))
  | succ fuel ih =>
    intro i j him hmj hjn hf
    rw [searchLoop]
    split
    · rename_i hij
      obtain ⟨h1, h2⟩ := mid_between hij
      simp only []
      generalize (i + j) / 2 = mid at h1 h2
      have hfuel : j - (mid + 1) ≤ fuel ∧ mid - i ≤ fuel := by omega
      by_cases hm : mid < m
      · rw [hlow mid hm]
        exact ih (mid + 1) j hm hmj hjn hfuel.1
      · rw [hhigh mid (Nat.le_of_not_lt hm) (Nat.lt_of_lt_of_le h2 hjn)]
        exact ih i mid him (Nat.le_of_not_lt hm) (Nat.le_trans (Nat.le_of_lt h2) hjn) hfuel.2
    · rename_i hij
      exact Nat.le_antisymm him (Nat.le_trans hmj (Nat.le_of_not_lt hij))

theorem searchLoop_range (p : Nat → Bool) : ∀ fuel i j, i ≤ j → i ≤ searchLoop p fuel i j ∧ searchLoop p fuel i j ≤ j := by
  intro fuel
  induction fuel with
  | zero => intro i j h; exact ⟨Nat.le_refl i, h⟩
  | succ fuel ih =>
    intro i j h
    rw [searchLoop]
    split
    · rename_i hij
      obtain ⟨h1, h2⟩ := mid_between hij
      simp only []
      split
      · have := ih _ j h2
        exact ⟨Nat.le_trans (Nat.le_succ_of_le h1) this.1, this.2⟩
      · have := ih i _ h1
        exact ⟨this.1, Nat.le_trans this.2 (Nat.le_of_lt h2)⟩
    · exact ⟨Nat.le_refl i, h⟩

theorem contigB_iff (s : Nat) (t : List Chunk) : contigB s t = true ↔ Contig s t := by
  induction t generalizing s with
  | nil => exact ⟨fun _ => trivial, fun _ => rfl⟩
  | cons c cs ih =>
    simp only [contigB, Contig, Bool.and_eq_true, beq_iff_eq, decide_eq_true_eq, ih, and_assoc]

instance (s : Nat) (t : List Chunk) : Decidable (Contig s t) :=
  decidable_of_iff _ (contigB_iff s t)

theorem contig_mem_bounds {s : Nat} {t : List Chunk} (h : Contig s t) (c : Chunk) (hc : c ∈ t) :
    s ≤ c.off ∧ 0 < c.size ∧ c.off + c.size ≤ s + total t := by
  induction t generalizing s with
  | nil => cases hc
  | cons d ds ih =>
    obtain ⟨h1, h2, h3⟩ := h
    rw [total]
    rcases List.mem_cons.mp hc with rfl | hc
    · exact ⟨Nat.le_of_eq h1.symm, h2, Nat.add_le_add (Nat.le_of_eq h1) (Nat.le_add_right _ _)⟩
    · have hb := ih h3 hc
      exact ⟨Nat.le_trans (Nat.le_add_right _ _) hb.1, hb.2.1, Nat.add_assoc _ _ _ ▸ hb.2.2⟩

theorem contig_disjoint {s : Nat} {t : List Chunk} (h : Contig s t) (c c' : Chunk) (hc : c ∈ t) (hc' : c' ∈ t) :
    c' = c ∨ c.off + c.size ≤ c'.off ∨ c'.off + c'.size ≤ c.off := by
  induction t generalizing s with
  | nil => cases hc
  | cons d ds ih =>
    obtain ⟨h1, _, h3⟩ := h
    rcases List.mem_cons.mp hc with rfl | hd <;> rcases List.mem_cons.mp hc' with rfl | hd'
    · exact Or.inl rfl
    · exact Or.inr (Or.inl (h1 ▸ (contig_mem_bounds h3 c' hd').1))
    · exact Or.inr (Or.inr (h1 ▸ (contig_mem_bounds h3 c hd).1))
    · exact ih h3 hd hd'

theorem contig_unique {s : Nat} {t : List Chunk} (h : Contig s t) (x : Nat) (c c' : Chunk)
    (hc : c ∈ t) (hc' : c' ∈ t) (h1 : c.off ≤ x) (h2 : x < c.off + c.size)
    (h1' : c'.off ≤ x) (h2' : x < c'.off + c'.size) : c' = c := by
  rcases contig_disjoint h c c' hc hc' with h | h | h
  · exact h
  · omega
  · omega

theorem chunkPred_iff {t : List Chunk} {x k : Nat} {e : Chunk} (he : t[k]? = some e) (hpos : 0 < e.size) :
    chunkPred t x k = true ↔ x < e.off + e.size := by
  simp only [chunkPred, he, Bool.or_eq_true, Bool.and_eq_true, decide_eq_true_eq]
  omega

theorem chunkPred_outside {s : Nat} {t : List Chunk} (h : Contig s t) (x k : Nat) :
    (x ≤ s → chunkPred t x k = true) ∧ (s + total t ≤ x → k < t.length → chunkPred t x k = false) := by
  cases hk : t[k]? with
  | none =>
    exact ⟨fun _ => by rw [chunkPred, hk],
      fun _ hlt => absurd (List.getElem?_eq_none_iff.mp hk) (Nat.not_le.mpr hlt)⟩
  | some e =>
    have hb := contig_mem_bounds h e (List.mem_of_getElem? hk)
    exact ⟨fun hx => (chunkPred_iff hk hb.2.1).mpr
        (Nat.lt_of_le_of_lt (Nat.le_trans hx hb.1) (Nat.lt_add_of_pos_right hb.2.1)),
      fun hx _ => Bool.eq_false_iff.mpr fun hp =>
        Nat.not_lt.mpr (Nat.le_trans hb.2.2 hx) ((chunkPred_iff hk hb.2.1).mp hp)⟩

theorem contig_find {s : Nat} {t : List Chunk} (h : Contig s t) (x : Nat) (h1 : s ≤ x) (h2 : x < s + total t) :
    ∃ i c, t[i]? = some c ∧ c.off ≤ x ∧ x < c.off + c.size ∧
      (∀ k, k < i → chunkPred t x k = false) ∧ (∀ k, i ≤ k → chunkPred t x k = true) := by
  induction t generalizing s with
  | nil => exact absurd h2 (Nat.not_lt.mpr h1)
  | cons c cs ih =>
    obtain ⟨hc, hpos, hcs⟩ := h
    have h0 : chunkPred (c :: cs) x 0 = true ↔ x < s + c.size := hc ▸ chunkPred_iff rfl hpos
    by_cases hx : x < s + c.size
    · refine ⟨0, c, rfl, hc ▸ h1, hc ▸ hx, fun k hk => absurd hk (Nat.not_lt_zero k), fun k _ => ?_⟩
      cases k with
      | zero => exact h0.mpr hx
      | succ k => exact (chunkPred_outside hcs x k).1 (Nat.le_of_lt hx)
    · obtain ⟨i, e, he, hb1, hb2, hlow, hhigh⟩ :=
        ih hcs (Nat.le_of_not_lt hx) (Nat.add_assoc _ _ _ ▸ h2)
      refine ⟨i + 1, e, he, hb1, hb2, fun k hk => ?_, fun k hk => ?_⟩
      · cases k with
        | zero => exact Bool.eq_false_iff.mpr (mt h0.mp hx)
        | succ k => exact hlow k (Nat.lt_of_succ_lt_succ hk)
      · cases k with
        | zero => exact absurd hk (Nat.not_succ_le_zero i)
        | succ k => exact hhigh k (Nat.le_of_succ_le_succ hk)

theorem search_lookup {t : List Chunk} (h : Contig 0 t) (x : Nat) :
    (x < total t → ∃ c, t[searchFirst t.length (chunkPred t x)]? = some c ∧ c ∈ t ∧ c.off ≤ x ∧ x < c.off + c.size) ∧
    (total t ≤ x → t[searchFirst t.length (chunkPred t x)]? = none) := by
  unfold searchFirst
  constructor
  · intro hx
    obtain ⟨i, c, hc, hb1, hb2, hlow, hhigh⟩ := contig_find h x (Nat.zero_le x) (Nat.zero_add _ ▸ hx)
    have hi : i ≤ t.length := Nat.le_of_lt (List.getElem?_eq_some_iff.mp hc).1
    rw [searchLoop_spec _ i t.length hlow (fun k hk _ => hhigh k hk) t.length 0 t.length (Nat.zero_le i) hi
      (Nat.le_refl _) (Nat.le_refl _)]
    exact ⟨c, hc, List.mem_of_getElem? hc, hb1, hb2⟩
  · intro hx
    rw [searchLoop_spec _ t.length t.length (fun k hk => (chunkPred_outside h x k).2 (Nat.zero_add _ ▸ hx) hk)
      (fun k h1 h2 => absurd h2 (Nat.not_lt.mpr h1)) t.length 0 t.length (Nat.zero_le _) (Nat.le_refl _)
      (Nat.le_refl _) (Nat.le_refl _)]
    exact List.getElem?_eq_none (Nat.le_refl _)

theorem lookup_spec (v : Variant) {t : List Chunk} (h : Contig 0 t) (x : Nat) :
    (x < total t → ∃ c, chunkEntryForOffset v t x = some c ∧ c ∈ t ∧ c.off ≤ x ∧ x < c.off + c.size) ∧
    (total t ≤ x → chunkEntryForOffset v t x = none) := by
  cases v with
  | db => exact search_lookup h x
  | mem =>
    unfold chunkEntryForOffset
    by_cases hl : t.length < 2
    · simp only [hl, if_true]
      match t, h, hl with
      | [], _, _ => exact ⟨fun hx => absurd hx (Nat.not_lt_zero x), fun _ => rfl⟩
      | [e], h, _ =>
        obtain ⟨h1, h2, _⟩ := h
        simp only [total, Nat.add_zero]
        constructor
        · intro hx
          exact ⟨e, if_neg (Nat.not_le.mpr hx), List.mem_singleton_self e, h1 ▸ Nat.zero_le x, by omega⟩
        · intro hx; exact if_pos hx
      | _ :: _ :: _, _, hl => exact absurd hl (by simp)
    · simp only [hl, if_false]
      exact search_lookup h x

theorem lookup_some {v : Variant} {t : List Chunk} (h : Contig 0 t) {x : Nat} {ch : Chunk}
    (hl : chunkEntryForOffset v t x = some ch) : ch ∈ t ∧ ch.off ≤ x ∧ x < ch.off + ch.size := by
  by_cases hx : x < total t
  · obtain ⟨c, hc, hm⟩ := (lookup_spec v h x).1 hx
    rw [hl] at hc; cases hc; exact hm
  · have hn := (lookup_spec v h x).2 (Nat.le_of_not_lt hx)
    rw [hl] at hn; cases hn

theorem lookup_none {v : Variant} {t : List Chunk} (h : Contig 0 t) {x : Nat}
    (hl : chunkEntryForOffset v t x = none) : total t ≤ x :=
  Nat.le_of_not_lt fun hx => by
    obtain ⟨c, hc, _⟩ := (lookup_spec v h x).1 hx
    rw [hl] at hc; cases hc

/-! ## Cache predicates, well-formed files -/

/-- The genuine bytes of chunk `id`. -/
def trueChunk (content : Nat → Bytes) (id : ChunkId) : Bytes := slice (content id.file) id.off id.size

/-- Every cached entry satisfies `Q`.  `CacheOK content` and `CacheExact content` (below) unfold to
it, so `Entrywise.put` / `.evict` / `.truncate` apply to them as they stand. -/
def Entrywise (Q : ChunkId → Bytes → Prop) (c : Cache) : Prop := ∀ id d, c id = some d → Q id d

/-- `CacheOK`: every cached entry is a prefix of the genuine chunk (an entry may have lost its tail,
it never holds foreign bytes). -/
def CacheOK (content : Nat → Bytes) (c : Cache) : Prop :=
  ∀ id d, c id = some d → ∃ k, d = (trueChunk content id).take k

def CacheExact (content : Nat → Bytes) (c : Cache) : Prop :=
  ∀ id d, c id = some d → d = trueChunk content id

/-- What is accepted from below is genuine: with verification on this is collision resistance of the
digest plus "the TOC records the digests of the tar payload" (C01/C03); with verification off it
says the blob bytes are the built ones. -/
def Honest (content : Nat → Bytes) (E : Env) (u : Under) : Prop :=
  ∀ id b, u id = some b → b.length = id.size → E.verify id b = true → b = trueChunk content id

/-- The chunk table of a file tiles its payload (for built layers: `SV.E2E.wf_file`). -/
structure WF (content : Nat → Bytes) (f : FileInfo) : Prop where
  contig : Contig 0 f.table
  cover : total f.table = (content f.id).length
  size : f.size = (content f.id).length

/-- `y` is a chunk boundary of `t`, or outside the table. -/
def NotInside (t : List Chunk) (y : Nat) : Prop := ∀ c ∈ t, ¬ (c.off < y ∧ y < c.off + c.size)

theorem notInside_end {s : Nat} {t : List Chunk} (h : Contig s t) {c : Chunk} (hc : c ∈ t) :
    NotInside t (c.off + c.size) := by
  intro c' hc'
  have := (contig_mem_bounds h c hc).2.1
  rcases contig_disjoint h c c' hc hc' with h | h | h
  · subst h; omega
  · omega
  · omega

theorem lookup_at_boundary {v : Variant} {t : List Chunk} (h : Contig 0 t) {x : Nat} {ch : Chunk}
    (hni : NotInside t x) (hl : chunkEntryForOffset v t x = some ch) : ch.off = x :=
  have ⟨hmem, h1, h2⟩ := lookup_some h hl
  Nat.le_antisymm h1 (Nat.le_of_not_lt fun hlt => hni ch hmem ⟨hlt, h2⟩)

def AllCached (f : FileInfo) (c : Cache) : Prop := ∀ ch ∈ f.table, c ⟨f.id, ch.off, ch.size⟩ ≠ none

def OpOK (content : Nat → Bytes) (E : Env) : Op → Prop
  | .read f _ _ u => WF content f ∧ Honest content E u
  | .store _ u => Honest content E u
  | .cacheFiles _ _ u => Honest content E u
  | .evict _ => True
  | .truncate _ _ => True

def NoTrunc : Op → Prop
  | .truncate _ _ => False
  | _ => True

theorem CacheExact.ok {content : Nat → Bytes} {c : Cache} (h : CacheExact content c) : CacheOK content c := by
  intro id d hd
  exact ⟨(trueChunk content id).length, by rw [h id d hd, List.take_length]⟩

theorem cacheOK_empty (content : Nat → Bytes) : CacheOK content Cache.empty := by
  intro id d h; cases h

theorem cacheExact_empty (content : Nat → Bytes) : CacheExact content Cache.empty := by
  intro id d h; cases h

theorem trueChunk_length {content : Nat → Bytes} {f : FileInfo} (hf : WF content f) (ch : Chunk)
    (hc : ch ∈ f.table) : (trueChunk content ⟨f.id, ch.off, ch.size⟩).length = ch.size := by
  have h := (contig_mem_bounds hf.contig ch hc).2.2
  rw [Nat.zero_add, hf.cover] at h
  exact slice_length_of_fit h

/-! ## Accepted stores -/

section
variable {content : Nat → Bytes} {E : Env} {u : Under} {P : Cache → Prop}

theorem Entrywise.put {Q : ChunkId → Bytes → Prop} {c : Cache} (h : Entrywise Q c) {id : ChunkId}
    {b : Bytes} (hb : Q id b) : Entrywise Q (c.put id b) := by
  intro k d hd
  unfold Cache.put at hd
  by_cases hk : k = id
  · rw [if_pos hk] at hd; cases hd; exact hk ▸ hb
  · rw [if_neg hk] at hd; exact h k d hd

theorem Entrywise.evict {Q : ChunkId → Bytes → Prop} {c : Cache} (h : Entrywise Q c) (id : ChunkId) :
    Entrywise Q (c.evict id) := by
  intro k d hd
  unfold Cache.evict at hd
  by_cases hk : k = id
  · rw [if_pos hk] at hd; cases hd
  · rw [if_neg hk] at hd; exact h k d hd

theorem Entrywise.truncate {Q : ChunkId → Bytes → Prop} {c : Cache} (h : Entrywise Q c)
    (hQ : ∀ id d k, Q id d → Q id (d.take k)) (id : ChunkId) (n : Nat) :
    Entrywise Q (c.truncate id n) := by
  intro k d hd
  unfold Cache.truncate at hd
  by_cases hk : k = id
  · rw [if_pos hk] at hd
    obtain ⟨d0, hc, rfl⟩ := Option.map_eq_some_iff.mp hd
    exact hQ k d0 n (h k d0 hc)
  · rw [if_neg hk] at hd; exact h k d hd

/-- `P` survives the store of every chunk that `verifyAndCache` accepts from `u`. -/
def Accepts (E : Env) (u : Under) (P : Cache → Prop) : Prop :=
  ∀ c id b, u id = some b → b.length = id.size → E.verify id b = true → P c → P (c.put id b)

theorem Honest.acceptsOK (hu : Honest content E u) :
    Accepts E u (CacheOK content) :=
  fun _ id b hb hl hv h => Entrywise.put h
    ⟨b.length, by rw [← hu id b hb hl hv, List.take_length]⟩

theorem Honest.acceptsExact (hu : Honest content E u) :
    Accepts E u (CacheExact content) :=
  fun _ id b hb hl hv h => Entrywise.put h (hu id b hb hl hv)

theorem accepts_keeps (E : Env) (u : Under) (k : ChunkId) : Accepts E u (fun c => c k ≠ none) := by
  intro c id b _ _ _ h
  show (if k = id then some b else c k) ≠ none
  split
  · exact Option.some_ne_none b
  · exact h

theorem preStore_inv (hP : Accepts E u P) :
    ∀ (l : List ChunkId) (c : Cache), P c → P (preStore E u c l).1 := by
  intro l
  induction l with
  | nil => intro c h; exact h
  | cons e es ih =>
    intro c h
    unfold preStore
    cases c e with
    | some d => exact ih c h
    | none =>
      cases hue : u e with
      | none => exact h
      | some b =>
        by_cases hv : b.length = e.size ∧ E.verify e b = true
        · simp only [hv, and_self, if_true]
          exact ih _ (hP c e b hue hv.1 hv.2 h)
        · simp only [hv, if_false]; exact h

theorem fetchChunk_inv (hP : Accepts E u P)
    (c : Cache) (id : ChunkId) (h : P c) : P (fetchChunk E u c id).1 := by
  unfold fetchChunk
  cases E.co id with
  | none => exact h
  | some others =>
    simp only []
    have hp := preStore_inv hP others c h
    generalize preStore E u c others = r at hp ⊢
    obtain ⟨c1, ok⟩ := r
    cases ok with
    | false => exact hp
    | true =>
      cases hui : u id with
      | none => exact hp
      | some b =>
        by_cases hv : b.length = id.size ∧ E.verify id b = true
        · simp only [hv, and_self, if_true]
          exact hP c1 id b hui hv.1 hv.2 hp
        · simp only [hv, if_false]; exact hp

/-- A successful `fetchChunk` of `id` returned `b` and left the cache `c'`. -/
structure Fetched (E : Env) (u : Under) (c' : Cache) (id : ChunkId) (b : Bytes) : Prop where
  under : u id = some b
  len : b.length = id.size
  verified : E.verify id b = true
  stored : c' id = some b

theorem fetchChunk_some (c : Cache) (id : ChunkId) (b : Bytes) :
    (fetchChunk E u c id).2 = some b → Fetched E u (fetchChunk E u c id).1 id b := by
  unfold fetchChunk
  cases E.co id with
  | none => intro h; cases h
  | some others =>
    simp only []
    obtain ⟨c1, ok⟩ := preStore E u c others
    cases ok with
    | false => intro h; cases h
    | true =>
      cases hui : u id with
      | none => intro h; cases h
      | some b0 =>
        by_cases hv : b0.length = id.size ∧ E.verify id b0 = true
        · simp only [hv, and_self, if_true]
          intro h; cases h
          exact ⟨hui, hv.1, hv.2, if_pos rfl⟩
        · simp only [hv, if_false]; intro h; cases h

/-! ## One round of `file.ReadAt` -/

/-- `expected` of `file.ReadAt`: how much of chunk `ch` a read of `[off, off + n)` takes. -/
def expected (off n : Nat) (ch : Chunk) : Nat := ch.size - (ch.off + ch.size - (off + n)) - (off - ch.off)

theorem expected_spec (off n nr : Nat) (ch : Chunk) (h2 : off + nr < ch.off + ch.size) (hnr : nr < n)
    (hlo : ch.off + (off - ch.off) = off + nr) :
    0 < expected off n ch ∧ off - ch.off + expected off n ch ≤ ch.size ∧ expected off n ch ≤ n - nr ∧
      (nr + expected off n ch = n ∨ off + (nr + expected off n ch) = ch.off + ch.size) := by
  unfold expected
  generalize off - ch.off = lo at *
  omega

def window (lo e : Nat) (d : Bytes) : Option Bytes :=
  if (slice d lo e).length = e then some (slice d lo e) else none

/-- What a round of `file.ReadAt` does to get the window `[lo, lo + e)` of chunk `id`: the cache entry
if it covers the window, else `fetchChunk` and the window of what that delivers. -/
def serve (E : Env) (u : Under) (c : Cache) (id : ChunkId) (lo e : Nat) : Cache × Option Bytes :=
  match (match c id with | some d => window lo e d | none => none) with
  | some s => (c, some s)
  | none =>
    match fetchChunk E u c id with
    | (c1, none) => (c1, none)
    | (c1, some b) => (c1, window lo e b)

theorem window_some {lo e : Nat} {d s : Bytes} (h : window lo e d = some s) :
    s = slice d lo e ∧ s.length = e := by
  unfold window at h
  split at h
  · cases h; exact ⟨rfl, ‹_›⟩
  · cases h

theorem serve_some {c : Cache} {id : ChunkId} {lo e : Nat} {s : Bytes} :
    (serve E u c id lo e).2 = some s →
      s.length = e ∧ ∃ d, s = slice d lo e ∧ (c id = some d ∨ (fetchChunk E u c id).2 = some d) := by
  unfold serve
  split
  · rename_i hs
    intro h; cases h
    cases hd : c id with
    | none => rw [hd] at hs; cases hs
    | some d =>
      rw [hd] at hs
      exact ⟨(window_some hs).2, d, (window_some hs).1, Or.inl rfl⟩
  · rcases fetchChunk E u c id with ⟨c2, _ | b⟩
    · intro h; cases h
    · intro hw
      exact ⟨(window_some hw).2, b, (window_some hw).1, Or.inr rfl⟩

theorem serve_inv (hP : Accepts E u P)
    (c : Cache) (id : ChunkId) (lo e : Nat) (h : P c) : P (serve E u c id lo e).1 := by
  have hf := fetchChunk_inv hP c id h
  unfold serve
  split
  · exact h
  · generalize fetchChunk E u c id = r at hf ⊢
    obtain ⟨c1, _ | b⟩ := r <;> exact hf

theorem serve_delivers (c : Cache) {id : ChunkId} {lo e : Nat} {t : Bytes}
    (ht : (fetchChunk E u c id).2 = some t) (hl : (slice t lo e).length = e) :
    (serve E u c id lo e).2 ≠ none := by
  unfold serve
  split
  · exact Option.some_ne_none _
  · generalize fetchChunk E u c id = r at ht ⊢
    obtain ⟨c1, r⟩ := r
    cases ht
    simp only [window, hl, if_true]
    exact Option.some_ne_none _

/-- A cache entry that lost its tail still serves every window it covers completely. -/
theorem serve_genuine (hu : Honest content E u)
    {c : Cache} (hc : CacheOK content c) {id : ChunkId} {lo e : Nat} {s : Bytes}
    (h : (serve E u c id lo e).2 = some s) : s = slice (trueChunk content id) lo e := by
  obtain ⟨hl, d, rfl, hd | hd⟩ := serve_some h
  · obtain ⟨k, rfl⟩ := hc id d hd
    exact slice_take_full _ k lo e hl
  · have hf := fetchChunk_some c id d hd
    rw [hu id d hf.under hf.len hf.verified]

/-- Reading a whole chunk straight into `p` (`lower = upper = 0`) is the window `[0, chunkSize)` of a
fetch that delivered `chunkSize` bytes, so the two miss branches of `file.ReadAt` are one. -/
theorem whole_or_window {α : Type} (K : Bytes → α) (Y : α) (b : Bytes) (cs lo up : Nat) (hb : b.length = cs) :
    (if lo = 0 ∧ up = 0 then K b
      else if (slice b lo (cs - up - lo)).length ≠ cs - up - lo then Y
      else K (slice b lo (cs - up - lo))) =
    match window lo (cs - up - lo) b with
    | none => Y
    | some s => K s := by
  unfold window
  by_cases hz : lo = 0 ∧ up = 0
  · have hs : slice b 0 cs = b := by
      unfold slice
      rw [List.drop_zero, List.take_of_length_le (Nat.le_of_eq hb)]
    rw [if_pos hz, hz.1, hz.2]
    simp only [Nat.sub_zero, hs, hb, if_true]
  · rw [if_neg hz]
    by_cases hsl : (slice b lo (cs - up - lo)).length = cs - up - lo
    · rw [if_neg (not_not_intro hsl), if_pos hsl]
    · rw [if_pos hsl, if_neg hsl]

theorem readLoop_succ (E : Env) (u : Under) (f : FileInfo) (off n fuel : Nat) (c : Cache) (acc : Bytes) :
    readLoop E u f off n (fuel + 1) c acc =
      if acc.length < n then
        match chunkEntryForOffset f.variant f.table (off + acc.length) with
        | none => (c, .ok acc)
        | some ch =>
          if ch.size = 0 ∨ expected off n ch = 0 ∨ expected off n ch > n - acc.length then (c, .err)
          else
            match serve E u c ⟨f.id, ch.off, ch.size⟩ (off - ch.off) (expected off n ch) with
            | (c1, none) => (c1, .err)
            | (c1, some s) => readLoop E u f off n fuel c1 (acc ++ s)
      else (c, .ok acc) := by
  rw [readLoop]
  unfold expected
  refine ite_congr rfl (fun _ => ?_) (fun _ => rfl)
  cases chunkEntryForOffset f.variant f.table (off + acc.length) with
  | none => rfl
  | some ch =>
    refine ite_congr rfl (fun _ => rfl) (fun _ => ?_)
    have hf := fetchChunk_some (E := E) (u := u) c ⟨f.id, ch.off, ch.size⟩
    unfold serve
    generalize fetchChunk E u c ⟨f.id, ch.off, ch.size⟩ = r at hf ⊢
    -- When the fetch delivers `b`, `whole_or_window` turns the two Go miss branches into `window _ _ b`.
    -- Then, whatever the fetch gave: the hit test `window _ _ d` is the same term on both sides.
    obtain ⟨c1, _ | b⟩ := r
    case' some =>
      simp only []
      rw [whole_or_window (fun s => readLoop E u f off n fuel c1 (acc ++ s)) (c1, .err) b _ _ _ (hf b rfl).len]
      generalize window _ _ b = w
      cases w
    all_goals
      cases c ⟨f.id, ch.off, ch.size⟩ with
      | none => rfl
      | some d =>
        simp only [← window.eq_1]
        generalize window _ _ d = hit
        cases hit <;> rfl

theorem round_fuel {n a e fuel : Nat} (hfuel : n - a < fuel + 1) (hpos : 0 < e) (hle : e ≤ n - a) :
    n - (a + e) < fuel ∧ a + e ≤ n := by
  omega

/-- `J`: what is known of cache and bytes produced so far; `R`: what is claimed of the result.  The loop
stops at the end of the request or of the file; else it serves a window of the chunk the position lies in.
In `round`, `lo` / `e` are the loop's `off - ch.off` / `expected off n ch`. -/
structure ReadRule (content : Nat → Bytes) (E : Env) (u : Under) (f : FileInfo) (off n : Nat)
    (J : Cache → Bytes → Prop) (R : Cache × Outcome → Prop) : Prop where
  stop : ∀ c acc, J c acc → acc.length ≤ n →
    (acc.length = n ∨ (content f.id).length ≤ off + acc.length) → R (c, .ok acc)
  round : ∀ c acc ch lo e, J c acc → ch ∈ f.table → ch.off + lo = off + acc.length → lo + e ≤ ch.size →
    acc.length < n ∧ 0 < e ∧ e ≤ n - acc.length →
    let r := serve E u c ⟨f.id, ch.off, ch.size⟩ lo e
    (r.2 = none → R (r.1, .err)) ∧ ∀ s, r.2 = some s → J r.1 (acc ++ s)

/-- The disjunction is the position invariant: the start of the request, its end, or a chunk boundary
(the round before took its chunk to its end). -/
theorem readLoop_rule {f : FileInfo} (hf : WF content f) {off n : Nat} {J : Cache → Bytes → Prop}
    {R : Cache × Outcome → Prop} (hr : ReadRule content E u f off n J R) :
    ∀ (fuel : Nat) (c : Cache) (acc : Bytes), n - acc.length < fuel → acc.length ≤ n →
      (acc.length = 0 ∨ acc.length = n ∨ NotInside f.table (off + acc.length)) → J c acc →
      R (readLoop E u f off n fuel c acc) := by
  intro fuel
  induction fuel with
  | zero => intro c acc h; exact absurd h (Nat.not_lt_zero _)
  | succ fuel ih =>
    intro c acc hfuel hle hb hJ
    rw [readLoop_succ]
    by_cases hlt : acc.length < n
    · rw [if_pos hlt]
      cases hlk : chunkEntryForOffset f.variant f.table (off + acc.length) with
      | none => exact hr.stop c acc hJ hle (Or.inr (hf.cover ▸ lookup_none hf.contig hlk))
      | some ch =>
        obtain ⟨hmem, h1, h2⟩ := lookup_some hf.contig hlk
        have hlo : ch.off + (off - ch.off) = off + acc.length := by
          rcases hb with h | h | h
          · rw [h] at h1 ⊢; exact Nat.add_sub_cancel' h1
          · exact absurd h (Nat.ne_of_lt hlt)
          · have heq := lookup_at_boundary hf.contig h hlk
            rw [Nat.sub_eq_zero_of_le (heq ▸ Nat.le_add_right off acc.length)]
            exact heq
        obtain ⟨hpos, hfit, hroom, hend⟩ := expected_spec off n acc.length ch h2 hlt hlo
        have hg : ¬ (ch.size = 0 ∨ expected off n ch = 0 ∨ expected off n ch > n - acc.length) := by
          rintro (h0 | h0 | h0)
          · rw [h0] at h2; exact Nat.lt_irrefl _ (Nat.lt_of_le_of_lt h1 h2)
          · exact Nat.ne_of_gt hpos h0
          · exact Nat.not_lt.mpr hroom h0
        have hstep := round_fuel hfuel hpos hroom
        simp only []
        rw [if_neg hg]
        have hrd := hr.round c acc ch (off - ch.off) (expected off n ch) hJ hmem hlo hfit ⟨hlt, hpos, hroom⟩
        have hlen := fun s => @serve_some E u c ⟨f.id, ch.off, ch.size⟩ (off - ch.off) (expected off n ch) s
        generalize serve E u c ⟨f.id, ch.off, ch.size⟩ (off - ch.off) (expected off n ch) = r at hrd hlen
        obtain ⟨c1, _ | s⟩ := r
        · exact hrd.1 rfl
        · have hl : (acc ++ s).length = acc.length + expected off n ch := by
            rw [List.length_append, (hlen s rfl).1]
          rw [← hl] at hstep
          refine ih c1 (acc ++ s) hstep.1 hstep.2 ?_ (hrd.2 s rfl)
          rw [hl]
          -- the round ends the request, or took `ch` to its end
          rcases hend with h | h
          · exact Or.inr (Or.inl h)
          · exact Or.inr (Or.inr (h ▸ notInside_end hf.contig hmem))
    · rw [if_neg hlt]
      exact hr.stop c acc hJ hle (Or.inl (Nat.le_antisymm hle (Nat.le_of_not_lt hlt)))

theorem fileReadAt_rule {f : FileInfo} (hf : WF content f) {off n : Nat} {J : Cache → Bytes → Prop}
    {R : Cache × Outcome → Prop} (hr : ReadRule content E u f off n J R) {c : Cache} (hJ : J c []) :
    R (fileReadAt E u f c off n) :=
  readLoop_rule hf hr (n + 1) c [] (Nat.lt_succ_self _) (Nat.zero_le _) (Or.inl rfl) hJ

theorem fileReadAt_inv {f : FileInfo} (hf : WF content f) (hP : Accepts E u P) (c : Cache) (off n : Nat)
    (h : P c) : P (fileReadAt E u f c off n).1 :=
  fileReadAt_rule hf (J := fun c _ => P c) (R := fun r => P r.1)
    ⟨fun _ _ h _ _ => h, fun c _ ch lo e h _ _ _ _ =>
      have h1 := serve_inv hP c ⟨f.id, ch.off, ch.size⟩ lo e h
      ⟨fun _ => h1, fun _ _ => h1⟩⟩ h

theorem acc_final {b acc : Bytes} {off n : Nat} (ha : acc = slice b off acc.length) (hle : acc.length ≤ n)
    (hend : acc.length = n ∨ b.length ≤ off + acc.length) : acc = slice b off n := by
  refine ha.trans ?_
  rcases hend with h | h
  · rw [h]
  · have hd : (b.drop off).length ≤ acc.length := by rw [List.length_drop]; omega
    unfold slice
    rw [List.take_of_length_le hd, List.take_of_length_le (Nat.le_trans hd hle)]

theorem acc_served {f : FileInfo} {ch : Chunk} {off lo e : Nat} {acc s : Bytes}
    (ha : acc = slice (content f.id) off acc.length) (hlo : ch.off + lo = off + acc.length)
    (hfit : lo + e ≤ ch.size) (hs : s = slice (trueChunk content ⟨f.id, ch.off, ch.size⟩) lo e)
    (hl : s.length = e) : acc ++ s = slice (content f.id) off (acc ++ s).length := by
  have h1 : s = slice (content f.id) (off + acc.length) s.length := by
    rw [hl, hs, trueChunk, slice_slice _ _ _ _ _ hfit, hlo]
  rw [List.length_append, ← slice_append, ← ha, ← h1]

/-- The Go loop terminates: every round appends at least one byte, so `n + 1` rounds suffice for
ANY chunk table, cache and lower layer (no hypothesis). -/
theorem readLoop_ne_diverge (E : Env) (u : Under) (f : FileInfo) (off n : Nat) :
    ∀ (fuel : Nat) (c : Cache) (acc : Bytes), n - acc.length < fuel →
      (readLoop E u f off n fuel c acc).2 ≠ .diverge := by
  intro fuel
  induction fuel with
  | zero => intro c acc h; exact absurd h (Nat.not_lt_zero _)
  | succ fuel ih =>
    intro c acc hfuel
    rw [readLoop_succ]
    split
    · split
      · exact Outcome.noConfusion
      · split
        · exact Outcome.noConfusion
        · rename_i ch _ hg
          rcases hs : serve E u c ⟨f.id, ch.off, ch.size⟩ (off - ch.off) (expected off n ch) with ⟨c1, _ | s⟩
          · exact Outcome.noConfusion
          · apply ih
            rw [List.length_append, (serve_some (congrArg Prod.snd hs)).1]
            exact (round_fuel hfuel (Nat.pos_of_ne_zero fun h => hg (Or.inr (Or.inl h)))
              (Nat.le_of_not_lt fun h => hg (Or.inr (Or.inr h)))).1
    · exact Outcome.noConfusion

theorem fileReadAt_ne_diverge (E : Env) (u : Under) (f : FileInfo) (c : Cache) (off n : Nat) :
    (fileReadAt E u f c off n).2 ≠ .diverge :=
  readLoop_ne_diverge E u f off n (n + 1) c [] (Nat.lt_succ_self _)

theorem fileReadAt_exact {f : FileInfo}
    (hf : WF content f) (hu : Honest content E u) (c : Cache) (hc : CacheOK content c) (off n : Nat) :
    CacheOK content (fileReadAt E u f c off n).1 ∧
      ∀ b, (fileReadAt E u f c off n).2 = .ok b → b = slice (content f.id) off n := by
  refine fileReadAt_rule hf (J := fun c acc => CacheOK content c ∧ acc = slice (content f.id) off acc.length)
    (R := fun r => CacheOK content r.1 ∧ ∀ b, r.2 = .ok b → b = slice (content f.id) off n)
    ⟨?_, ?_⟩ ⟨hc, rfl⟩
  · intro c acc ⟨hc, ha⟩ hle hend
    refine ⟨hc, fun b hb => ?_⟩
    cases hb
    exact acc_final ha hle hend
  · intro c acc ch lo e ⟨hc, ha⟩ _ hlo hfit _
    have hc1 := serve_inv hu.acceptsOK c ⟨f.id, ch.off, ch.size⟩ lo e hc
    exact ⟨fun _ => ⟨hc1, fun b hb => by cases hb⟩,
      fun s hs => ⟨hc1, acc_served ha hlo hfit (serve_genuine hu hc hs) (serve_some hs).1⟩⟩

theorem fileReadAt_cached (u : Under) {f : FileInfo}
    (hf : WF content f) (c : Cache) (hc : CacheExact content c) (hall : AllCached f c) (off n : Nat) :
    fileReadAt E u f c off n = (c, .ok (slice (content f.id) off n)) := by
  refine fileReadAt_rule hf (J := fun c' acc => c' = c ∧ acc = slice (content f.id) off acc.length)
    (R := fun r => r = (c, .ok (slice (content f.id) off n))) ⟨?_, ?_⟩ ⟨rfl, rfl⟩
  · intro c' acc ⟨hc', ha⟩ hle hend
    rw [hc', ← acc_final ha hle hend]
  · intro c' acc ch lo e ⟨hc', ha⟩ hmem hlo hfit _
    subst hc'
    -- the entry is there, complete, and covers the window: the round is a hit
    cases hd : c' ⟨f.id, ch.off, ch.size⟩ with
    | none => exact absurd hd (hall ch hmem)
    | some d =>
      have hdt := hc _ d hd
      have hl : (slice d lo e).length = e :=
        slice_length_of_fit (by rw [hdt, trueChunk_length hf ch hmem]; exact hfit)
      simp only [serve, hd, window, hl, if_true]
      refine ⟨fun hs => (by cases hs), fun s hs => ?_⟩
      cases hs
      exact ⟨trivial, acc_served ha hlo hfit (by rw [hdt]) hl⟩

/-! ## The store walk -/

theorem storeChunk_inv (hP : Accepts E u P)
    (c : Cache) (id : ChunkId) (h : P c) : P (storeChunk E u c id).1 := by
  have hf := fetchChunk_inv hP c id h
  unfold storeChunk
  cases c id with
  | some d => exact h
  | none =>
    generalize fetchChunk E u c id = r at hf ⊢
    obtain ⟨c1, _ | b⟩ := r <;> exact hf

theorem storeChunk_stores (c : Cache) (id : ChunkId) :
    (storeChunk E u c id).2 = true → (storeChunk E u c id).1 id ≠ none := by
  have hf := fetchChunk_some (E := E) (u := u) c id
  unfold storeChunk
  cases hc : c id with
  | some d => intro _ h; exact Option.some_ne_none d (hc.symm.trans h)
  | none =>
    generalize fetchChunk E u c id = r at hf ⊢
    obtain ⟨c1, _ | b⟩ := r
    · intro h; cases h
    · intro _; rw [(hf b rfl).stored]; exact Option.some_ne_none b

theorem cacheFileLoop_inv (hP : Accepts E u P) (f : FileInfo) :
    ∀ (fuel nr : Nat) (c : Cache), P c → P (cacheFileLoop E u f fuel nr c).1 := by
  intro fuel
  induction fuel with
  | zero => intro nr c h; exact h
  | succ fuel ih =>
    intro nr c h
    unfold cacheFileLoop
    split
    · split
      · exact h
      · rename_i ch _
        have h1 := storeChunk_inv hP c ⟨f.id, ch.off, ch.size⟩ h
        generalize storeChunk E u c ⟨f.id, ch.off, ch.size⟩ = r at h1 ⊢
        obtain ⟨c1, _ | _⟩ := r
        · exact h1
        · exact ih _ c1 h1
    · exact h

theorem cacheFileLoop_all {f : FileInfo} (hf : WF content f) :
    ∀ (fuel nr : Nat) (c : Cache), NotInside f.table nr →
      (∀ ch ∈ f.table, ch.off < nr → c ⟨f.id, ch.off, ch.size⟩ ≠ none) →
      (cacheFileLoop E u f fuel nr c).2 = true → AllCached f (cacheFileLoop E u f fuel nr c).1 := by
  intro fuel
  induction fuel with
  | zero => intro nr c _ _ h; cases h
  | succ fuel ih =>
    intro nr c hni hdone
    unfold cacheFileLoop
    -- past the end of the table everything has been stored
    have hfin : total f.table ≤ nr → AllCached f c := fun hge ch hch =>
      have hb := contig_mem_bounds hf.contig ch hch
      hdone ch hch (Nat.lt_of_lt_of_le (Nat.lt_add_of_pos_right hb.2.1)
        (Nat.le_trans hb.2.2 (Nat.zero_add _ ▸ hge)))
    by_cases hlt : nr < f.size
    · rw [if_pos hlt]
      cases hlk : chunkEntryForOffset f.variant f.table nr with
      | none => exact fun _ => hfin (lookup_none hf.contig hlk)
      | some ch =>
        have hmem := (lookup_some hf.contig hlk).1
        have hoff := lookup_at_boundary hf.contig hni hlk
        simp only []
        have h3 := fun k => storeChunk_inv (accepts_keeps E u k) c ⟨f.id, ch.off, ch.size⟩
        have h4 := storeChunk_stores (E := E) (u := u) c ⟨f.id, ch.off, ch.size⟩
        generalize storeChunk E u c ⟨f.id, ch.off, ch.size⟩ = r at h3 h4 ⊢
        obtain ⟨c1, _ | _⟩ := r
        · intro h; cases h
        · refine ih (nr + ch.size) c1 (hoff ▸ notInside_end hf.contig hmem) ?_
          intro ch' hch' hlt'
          by_cases hbefore : ch'.off < nr
          · exact h3 _ (hdone ch' hch' hbefore)
          · have : ch' = ch := contig_unique hf.contig ch'.off ch ch' hmem hch'
              (hoff ▸ Nat.le_of_not_lt hbefore) (hoff ▸ hlt') (Nat.le_refl _)
              (Nat.lt_add_of_pos_right (contig_mem_bounds hf.contig ch' hch').2.1)
            subst this
            exact h4 rfl
    · rw [if_neg hlt]
      exact fun _ => hfin (hf.cover ▸ hf.size ▸ Nat.le_of_not_lt hlt)

theorem cacheFiltered_inv (hP : Accepts E u P)
    (filter : Nat → Bool) :
    ∀ (fs : List FileInfo) (c : Cache), P c → P (cacheFiltered E u filter fs c).1 := by
  intro fs
  induction fs with
  | nil => intro c h; exact h
  | cons f fs ih =>
    intro c h
    unfold cacheFiltered
    split
    · have h1 : P (cacheFile E u f c).1 := cacheFileLoop_inv hP f _ _ c h
      generalize cacheFile E u f c = r at h1 ⊢
      obtain ⟨c1, _ | _⟩ := r
      · exact h1
      · exact ih c1 h1
    · exact ih c h

theorem cacheFiltered_all (filter : Nat → Bool) :
    ∀ (fs : List FileInfo) (c : Cache), (∀ f ∈ fs, WF content f) →
      (cacheFiltered E u filter fs c).2 = true →
      ∀ f ∈ fs, filter f.firstOff = true → AllCached f (cacheFiltered E u filter fs c).1 := by
  intro fs
  induction fs with
  | nil => intro c _ _ f hf; cases hf
  | cons g gs ih =>
    intro c hwf
    have hwf' : ∀ x ∈ gs, WF content x := fun x hx => hwf x (List.mem_cons_of_mem _ hx)
    unfold cacheFiltered
    by_cases hfl : filter g.firstOff = true
    · rw [if_pos hfl]
      have hall : (cacheFile E u g c).2 = true → AllCached g (cacheFile E u g c).1 :=
        cacheFileLoop_all (hwf g List.mem_cons_self) (g.size + 1) 0 c (fun _ _ h => Nat.not_lt_zero _ h.1)
          (fun _ _ h => absurd h (Nat.not_lt_zero _))
      generalize cacheFile E u g c = r at hall ⊢
      obtain ⟨c1, _ | _⟩ := r
      · intro h; cases h
      · intro hok f hfm hflt
        rcases List.mem_cons.mp hfm with rfl | hin
        · exact fun ch hch => cacheFiltered_inv (accepts_keeps E u _) filter gs c1 (hall rfl ch hch)
        · exact ih c1 hwf' hok f hin hflt
    · rw [if_neg hfl]
      intro hok f hfm hflt
      rcases List.mem_cons.mp hfm with rfl | hin
      · exact absurd hflt hfl
      · exact ih c hwf' hok f hin hflt

theorem cacheFiltered_cached {filter : Nat → Bool} {fs : List FileInfo} {c : Cache}
    (hwf : ∀ f ∈ fs, WF content f) (hu : Honest content E u) (hc : CacheExact content c)
    (hok : (cacheFiltered E u filter fs c).2 = true) :
    CacheExact content (cacheFiltered E u filter fs c).1 ∧
      ∀ f ∈ fs, filter f.firstOff = true → AllCached f (cacheFiltered E u filter fs c).1 :=
  ⟨cacheFiltered_inv hu.acceptsExact filter fs c hc, cacheFiltered_all filter fs c hwf hok⟩

/-! ## Histories -/

theorem step_accepts {op : Op} (c : Cache) (hop : OpOK content E op)
    (hacc : ∀ u, Honest content E u → Accepts E u P) (hev : ∀ id, op = .evict id → P c → P (c.evict id))
    (htr : ∀ id k, op = .truncate id k → P c → P (c.truncate id k)) (hc : P c) : P (step E c op).1 := by
  cases op with
  | read f off n u => exact fileReadAt_inv hop.1 (hacc u hop.2) c off n hc
  | store id u => exact storeChunk_inv (hacc u hop) c id hc
  | cacheFiles fl fs u => exact cacheFiltered_inv (hacc u hop) fl fs c hc
  | evict id => exact hev id rfl hc
  | truncate id k => exact htr id k rfl hc

theorem runOps_inv :
    ∀ (ops : List Op) (c : Cache), (∀ op ∈ ops, ∀ c, P c → P (step E c op).1) → P c → P (runOps E ops c) := by
  intro ops
  induction ops with
  | nil => intro c _ h; exact h
  | cons op ops ih =>
    intro c hops hc
    exact ih _ (fun o ho => hops o (List.mem_cons_of_mem _ ho)) (hops op List.mem_cons_self c hc)

end

theorem runOps_ok {content : Nat → Bytes} {E : Env} :
    ∀ (ops : List Op) (c : Cache), (∀ op ∈ ops, OpOK content E op) → CacheOK content c →
      CacheOK content (runOps E ops c) :=
  fun ops c hops => runOps_inv ops c fun op ho c =>
    step_accepts c (hops op ho) (fun _ hu => hu.acceptsOK) (fun id _ h => Entrywise.evict h id)
      fun id k _ h => Entrywise.truncate h (fun _ _ k ⟨m, hm⟩ => ⟨min k m, hm ▸ List.take_take⟩) id k

theorem runOps_exact {content : Nat → Bytes} {E : Env} :
    ∀ (ops : List Op) (c : Cache), (∀ op ∈ ops, OpOK content E op ∧ NoTrunc op) → CacheExact content c →
      CacheExact content (runOps E ops c) := by
  intro ops c hops
  exact runOps_inv ops c fun op ho c =>
    step_accepts c (hops op ho).1 (fun _ hu => hu.acceptsExact) (fun id _ h => Entrywise.evict h id)
      fun id k e => (e ▸ (hops op ho).2 : NoTrunc (.truncate id k)).elim

/-! ## Prefetch -/

theorem backgroundFetch_fresh {L : Layer} {E : Env} {u : Under} {s : LState} (hfresh : s.bgOnce = false) :
    backgroundFetch L E u s =
      ({ s with cache := (cacheFiltered E u (fun _ => true) L.files s.cache).1, bgOnce := true },
        if (cacheFiltered E u (fun _ => true) L.files s.cache).2 then .ok else .failed) := by
  unfold backgroundFetch
  rw [hfresh]
  rcases cacheFiltered E u (fun _ => true) L.files s.cache with ⟨c, _ | _⟩ <;> rfl

theorem prefetchRange_none {L : Layer} (cfg : Nat) (hnp : L.noPrefetch = true) :
    prefetchRange L cfg = none := by
  rw [prefetchRange, if_pos hnp]

theorem prefetchRange_landmark {L : Layer} (cfg : Nat) {lo : Nat} (hnp : L.noPrefetch = false)
    (hlm : L.prefetchOff = some lo) : prefetchRange L cfg = some lo := by
  rw [prefetchRange, hnp, hlm]
  rfl

theorem prefetchRange_plain {L : Layer} (cfg : Nat) (hnp : L.noPrefetch = false)
    (hlm : L.prefetchOff = none) : prefetchRange L cfg = some (min L.blobSize cfg) := by
  rw [prefetchRange, hnp, hlm]
  show some (if cfg > L.blobSize then L.blobSize else cfg) = _
  split
  · rename_i h; exact congrArg some (Nat.min_eq_left (Nat.le_of_lt h)).symm
  · rename_i h; exact congrArg some (Nat.min_eq_right (Nat.le_of_not_lt h)).symm

theorem prefetch_fresh {L : Layer} {E : Env} {B : BlobCfg} {cfg threshold : Nat} {blobOk : Bool}
    {u : Under} {s : LState} (hfresh : s.prefetchOnce = false) :
    prefetch L E B cfg threshold blobOk u s =
      prefetchBody L E B cfg threshold blobOk u { s with prefetchOnce := true } := by
  unfold prefetch
  rw [hfresh]
  rfl

theorem prefetchBody_none {L : Layer} {E : Env} {B : BlobCfg} {cfg threshold : Nat} {blobOk : Bool}
    {u : Under} {s : LState} (hr : prefetchRange L cfg = none) :
    prefetchBody L E B cfg threshold blobOk u s = ({ s with waiterClosed := true }, .ok) := by
  simp only [prefetchBody, hr]

/-- `layer.prefetch` when a range is chosen, in one piece: the waiter ends up released on every
path, so the early release at the threshold does not show in the final state. -/
theorem prefetchBody_eq {L : Layer} {E : Env} {B : BlobCfg} {cfg threshold : Nat} {blobOk : Bool}
    {u : Under} {s : LState} {r : Nat} (hr : prefetchRange L cfg = some r) :
    prefetchBody L E B cfg threshold blobOk u s =
      let s2 : LState := { s with
        waiterClosed := true, cacheCalls := s.cacheCalls ++ [(0, r)],
        requested := max s.requested (cacheRegionEnd B.chunk B.prefetchChunk L.blobSize r) }
      if blobOk then
        ({ s2 with prefetchSize := r, cache := (cacheFiltered E u (fun o => decide (o < r)) L.files s.cache).1 },
          if (cacheFiltered E u (fun o => decide (o < r)) L.files s.cache).2 then .ok else .failed)
      else (s2, .failed) := by
  unfold prefetchBody
  rw [hr]
  simp only []
  by_cases hth : threshold > 0 ∧ r > threshold
  all_goals
    simp only [hth, and_self, if_true, if_false]
    cases blobOk with
    | false => rfl
    | true =>
      simp only []
      rcases cacheFiltered E u (fun o => decide (o < r)) L.files s.cache with ⟨c, _ | _⟩ <;> rfl

theorem cacheRegionEnd_le (chunk prefetchChunk size r : Nat) :
    cacheRegionEnd chunk prefetchChunk size r ≤ size ∧
      cacheRegionEnd chunk prefetchChunk size r ≤ r + chunk := by
  unfold cacheRegionEnd
  split
  · split
    · exact ⟨Nat.min_le_left _ _, Nat.le_trans (Nat.min_le_right _ _) (Nat.le_add_left _ _)⟩
    · exact ⟨Nat.zero_le _, Nat.zero_le _⟩
  · refine ⟨Nat.min_le_left _ _, Nat.le_trans (Nat.min_le_right _ _) ?_⟩
    rw [Nat.add_mul, Nat.one_mul]
    exact Nat.add_le_add_right (Nat.le_trans (Nat.div_mul_le_self _ _) (Nat.sub_le _ _)) _

end SV.LazyRead
