/-
Fragments that lie inside `SpecConformingR`: TOCs without repeated names (`spec_of_nodup`), and a TOC followed by
repetitions of some of its directory entries (`specR_snoc_dup`, `specR_append_dups`, `spec_of_dups`).
-/
import SV.Lemmas.TocCommon

namespace SV.Toc.R

theorem spec_of_nodup {es : List Entry} (sc : SpecConforming es) : SpecConformingR es := by
  refine ⟨sc.types, sc.nonEmpty, sc.noRoot, ?_, ?_, sc.hardlinks, sc.chunkAfterData, sc.files, sc.noOffset,
    sc.xattrs⟩
  · intro i hi j hj hci hcj hp
    left
    exact idx_of_nodup (fun m : MEnt => m.path) ncB (pass1 es) sc.names i j hi hj (by simpa [ncB] using hci) (by simpa [ncB] using hcj) hp
  · intro i hi hc n hn h0 j hj hcj hpj
    obtain ⟨h1, h2⟩ := sc.parents i hi hc n hn h0 j hj hcj hpj
    exact ⟨h1, j, hj, h2, hcj, hpj⟩

theorem pass1Go_append (a b : List Entry) : ∀ (lp : Path) (lr : Option Int),
    ∃ lp' lr', pass1Go lp lr (a ++ b) = pass1Go lp lr a ++ pass1Go lp' lr' b := by
  induction a with
  | nil => intro lp lr; exact ⟨lp, lr, rfl⟩
  | cons e es ih =>
    intro lp lr
    obtain ⟨lp', lr', h⟩ := ih (pass1Ent lp lr e).2.1 (pass1Ent lp lr e).2.2
    exact ⟨lp', lr', by simp only [List.cons_append, pass1Go, h]⟩

/-- `dup` lists repetitions of directory entries of `es'`: each names an index of a `dir` entry and
carries an entry that differs from it at most in the spelling of the name -/
def DupOf (es' : List Entry) (dup : List (Nat × Entry)) : Prop :=
  ∀ d ∈ dup, ∃ h : d.1 < es'.length,
    es'[d.1].type = "dir" ∧ d.2.type = "dir" ∧ cleanName d.2.name = cleanName es'[d.1].name ∧
    { d.2 with name := "" } = { es'[d.1] with name := "" }

theorem attr_of_noname {a b : Entry} (h : { a with name := "" } = { b with name := "" }) :
    attrOfEntry a 0 = attrOfEntry b 0 ∧ a.type = b.type ∧ a.offset = b.offset ∧ a.xattrs = b.xattrs := by
  have : a = { b with name := a.name } := by
    cases a; cases b
    simp only [Entry.mk.injEq, true_and] at h ⊢
    exact h
  rw [this]
  exact ⟨rfl, rfl, rfl, rfl⟩

theorem getElem_snoc_old {α : Type} (l : List α) (a : α) {j : Nat} (hj : j < l.length) :
    ∃ hj' : j < (l ++ [a]).length, (l ++ [a])[j] = l[j] :=
  ⟨by rw [List.length_append]; exact Nat.lt_add_right 1 hj, List.getElem_append_left hj⟩

theorem getElem_snoc {α : Type} (l : List α) (a : α) (i : Nat) (hi : i < (l ++ [a]).length) :
    (∃ h : i < l.length, (l ++ [a])[i] = l[i]) ∨ (i = l.length ∧ (l ++ [a])[i] = a) := by
  by_cases h : i < l.length
  · exact .inl ⟨h, List.getElem_append_left h⟩
  · have e : i = l.length := by
      rw [List.length_append, List.length_singleton] at hi
      exact Nat.le_antisymm (Nat.le_of_lt_succ hi) (Nat.le_of_not_lt h)
    subst e
    exact .inr ⟨rfl, List.getElem_concat_length rfl hi⟩

theorem pass1_snoc (es : List Entry) {d : Entry} (hd : d.type ≠ "chunk") :
    ∃ md, pass1 (es ++ [d]) = pass1 es ++ [md] ∧ md.e = d ∧ md.path = cleanName d.name := by
  obtain ⟨lp, lr, h⟩ := pass1Go_append es [d] [] none
  exact ⟨(pass1Ent lp lr d).1, h, rfl, by simp [pass1Ent, hd]⟩

/-- `d` repeats the directory entry at index `s`: same fields, any spelling of the same clean name -/
theorem specR_snoc_dup {es : List Entry} (sc : SpecConformingR es) {s : Nat} (hs : s < es.length) {d : Entry}
    (h1 : es[s].type = "dir") (h2 : d.type = "dir") (h3 : cleanName d.name = cleanName es[s].name)
    (h4 : { d with name := "" } = { es[s] with name := "" }) : SpecConformingR (es ++ [d]) := by
  have dc : "dir" ≠ "chunk" := by decide
  obtain ⟨md, hms, hmd, hpd⟩ := pass1_snoc es (d := d) (by rw [h2]; exact dc)
  obtain ⟨aE, _, oE, xE⟩ := attr_of_noname h4
  have hs' : s < (pass1 es).length := by rw [pass1_length]; exact hs
  obtain ⟨hse, hsp⟩ := pass1_getElem es s _ (List.getElem?_eq_getElem hs')
  rw [List.getElem?_eq_getElem hs, Option.some.injEq] at hse
  have tS : (pass1 es)[s].e.type = "dir" := by rw [← hse]; exact h1
  have cS : (pass1 es)[s].e.type ≠ "chunk" := by rw [tS]; exact dc
  -- the new element after pass 1: a directory with the name and the attributes of entry `s`
  have tD : md.e.type = "dir" := by rw [hmd]; exact h2
  have pD : md.path = (pass1 es)[s].path := by rw [hpd, h3, hse]; exact (hsp cS).symm
  have aD : attrOfEntry md.e 0 = attrOfEntry (pass1 es)[s].e 0 := by rw [hmd, ← hse]; exact aE
  -- every element of the longer list stands for an old one, not behind it: itself, or the directory `s`
  have src : ∀ i (hi : i < (pass1 es ++ [md]).length), ∃ k, ∃ hk : k < (pass1 es).length,
      k ≤ i ∧ (k = i ∨ (pass1 es)[k].e.type = "dir") ∧ (pass1 es ++ [md])[i].path = (pass1 es)[k].path ∧
      (pass1 es ++ [md])[i].e.type = (pass1 es)[k].e.type ∧
      attrOfEntry (pass1 es ++ [md])[i].e 0 = attrOfEntry (pass1 es)[k].e 0 := by
    intro i hi
    rcases getElem_snoc _ md i hi with ⟨h, e⟩ | ⟨h, e⟩ <;> rw [e]
    · exact ⟨i, h, Nat.le_refl i, .inl rfl, rfl, rfl, rfl⟩
    · exact ⟨s, hs', by rw [h]; exact Nat.le_of_lt hs', .inr tS, pD, tD.trans tS.symm, aD⟩
  refine { types := ?types, nonEmpty := ?nonEmpty, noRoot := ?noRoot, names := ?names, parents := ?parents,
           hardlinks := ?hardlinks, chunkAfterData := ?chunkAfterData, files := ?files, noOffset := ?noOffset, xattrs := ?xattrs }
  case types =>
    intro i hi
    rcases getElem_snoc es d i hi with ⟨h, e⟩ | ⟨_, e⟩ <;> rw [e]
    · exact sc.types i h
    · rw [h2]; decide
  case nonEmpty =>
    obtain ⟨hs2, e⟩ := getElem_snoc_old es d hs
    exact ⟨s, hs2, by rw [e, h1]; exact dc⟩
  case noRoot =>
    rw [hms]
    intro i hi hc
    obtain ⟨k, hk, _, _, pk, tk, _⟩ := src i hi
    rw [tk] at hc; rw [pk]
    exact sc.noRoot k hk hc
  case names =>
    rw [hms]
    intro i hi j hj hci hcj hp
    obtain ⟨k, hk, _, oi, pi, ti, ai⟩ := src i hi
    obtain ⟨l, hl, _, oj, pj, tj, aj⟩ := src j hj
    rw [ti] at hci; rw [tj] at hcj; rw [pi, pj] at hp; rw [ti, tj, ai, aj]
    rcases sc.names k hk l hl hci hcj hp with e | h
    · -- the same old entry: `i` and `j` are the same index, or that entry is a directory
      subst e
      rcases oi, oj with ⟨ei | dk, ej | dk⟩
      · exact .inl (ei.symm.trans ej)
      all_goals exact .inr ⟨dk, dk, rfl⟩
    · exact .inr h
  case parents =>
    rw [hms]
    intro i hi hc n hn h0 j hj hcj hpj
    obtain ⟨k, hk, hki, _, pi, ti, _⟩ := src i hi
    obtain ⟨l, hl, _, _, pj, tj, _⟩ := src j hj
    rw [ti] at hc; rw [pi] at hn hpj ⊢; rw [tj] at hcj ⊢; rw [pj] at hpj
    obtain ⟨a, f, hf, hfk, cf, pf⟩ := sc.parents k hk hc n hn h0 l hl hcj hpj
    obtain ⟨hf', ef⟩ := getElem_snoc_old _ md hf
    exact ⟨a, f, hf', Nat.lt_of_lt_of_le hfk hki, by rw [ef]; exact cf, by rw [ef]; exact pf⟩
  case hardlinks =>
    rw [hms]
    intro i hi hh
    rcases getElem_snoc _ md i hi with ⟨h, e⟩ | ⟨_, e⟩ <;> rw [e] at hh ⊢
    · obtain ⟨j, hj, hji, a⟩ := sc.hardlinks i h hh
      obtain ⟨hj', ej⟩ := getElem_snoc_old _ md hj
      exact ⟨j, hj', hji, by rw [ej]; exact a⟩
    · rw [tD] at hh; exact absurd hh (by decide)
  case chunkAfterData =>
    intro i hi hc
    rcases getElem_snoc es d i hi with ⟨h, e⟩ | ⟨_, e⟩ <;> rw [e] at hc
    · obtain ⟨h0, a⟩ := sc.chunkAfterData i h hc
      obtain ⟨_, e'⟩ := getElem_snoc_old es d (Nat.lt_of_le_of_lt (Nat.sub_le i 1) h)
      exact ⟨h0, by rw [e']; exact a⟩
    · rw [h2] at hc; exact absurd hc dc
  case files =>
    rw [hms]
    intro i hi hreg
    rcases getElem_snoc _ md i hi with ⟨h, e⟩ | ⟨_, e⟩ <;> rw [e] at hreg ⊢
    · have : ∀ p, chunksOf (pass1 es ++ [md]) p = chunksOf (pass1 es) p := by
        intro p; simp [chunksOf, tD]
      rw [this]; exact sc.files i h hreg
    · rw [tD] at hreg; exact absurd hreg (by decide)
  case noOffset =>
    intro i hi hr hc
    rcases getElem_snoc es d i hi with ⟨h, e⟩ | ⟨_, e⟩ <;> rw [e] at hr hc ⊢
    · exact sc.noOffset i h hr hc
    · rw [oE]; exact sc.noOffset s hs (by rw [h1]; decide) (by rw [h1]; exact dc)
  case xattrs =>
    intro i hi
    rcases getElem_snoc es d i hi with ⟨h, e⟩ | ⟨_, e⟩ <;> rw [e]
    · exact sc.xattrs i h
    · rw [xE]; exact sc.xattrs s hs

theorem specR_append_dups {es : List Entry} (sc : SpecConformingR es) (dup : List (Nat × Entry))
    (hdup : DupOf es dup) : SpecConformingR (es ++ dup.map Prod.snd) := by
  induction dup generalizing es with
  | nil => rw [List.map_nil, List.append_nil]; exact sc
  | cons x xs ih =>
    obtain ⟨hs, h1, h2, h3, h4⟩ := hdup x List.mem_cons_self
    rw [List.map_cons, List.append_cons]
    apply ih (specR_snoc_dup sc hs h1 h2 h3 h4)
    -- the indices of the other repetitions name the same entries of the longer list
    intro y hy
    obtain ⟨hy', h⟩ := hdup y (List.mem_cons_of_mem _ hy)
    obtain ⟨hy2, e⟩ := getElem_snoc_old es x.2 hy'
    exact ⟨hy2, by rw [e]; exact h⟩

theorem spec_of_dups {es' : List Entry} (sc : SpecConforming es') (dup : List (Nat × Entry))
    (hdup : DupOf es' dup) : SpecConformingR (es' ++ dup.map Prod.snd) :=
  specR_append_dups (spec_of_nodup sc) dup hdup

end SV.Toc.R
