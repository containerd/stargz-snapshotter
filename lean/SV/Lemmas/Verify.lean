/-
Lemmas for C01 (SV/Model/Verify.lean).  `Pres`, `Honest`, `OutGood`: what the cache-level primitives
preserve, build and hand out.  `InvF`, `Inv`: the invariant of one layer object.  `Next`: its moves, each
with its answer; every operation but a re-resolve is one (`step_next`; `step_cases` for all) and file data
comes out of one kind of move only (`Next.data`).  `Frame`: what survives until the next re-resolve.
-/
import SV.Model.Verify
namespace SV.Verify
set_option linter.unusedSectionVars false

section
variable {β δ : Type} [DecidableEq δ] (H : β → δ)

def PiecesGood (P : Nat → β → Prop) (ps : List (Nat × β)) : Prop := ∀ p ∈ ps, P p.1 p.2

def TocGood (t : Toc δ) : Nat → β → Prop := fun c b => t.dig c = some (H b)

/-- `D` is all the trusted manifest pins; with an uninterpreted `H` this is the strongest statement that
needs no collision assumption (for an injective `H` it is `TocGood` of the TOC of the layer). -/
def Pinned (parse : β → Toc δ) (D : δ) : Nat → β → Prop :=
  fun c b => ∃ tb, H tb = D ∧ (parse tb).dig c = some (H b)

/-- The ghost bit is honest; for the cache (keys) and for the writers in flight (chunk numbers) alike. -/
def CacheInv {κ : Type} (P : Nat → β → Prop) (ca : List (κ × Entry β)) : Prop :=
  ∀ ke ∈ ca, ke.2.ver = true → PiecesGood P ke.2.pieces

def AllVer (ca : Cache β) : Prop := ∀ ke ∈ ca, ke.2.ver = true

/-- What a cache-level primitive that reads TOC `t` with `reader.verify = vf` preserves; `P` is anything
that "matches the digest `t` records" implies. -/
structure Pres (t : Toc δ) (vf : Bool) (ca ca' : Cache β) : Prop where
  inv : ∀ P : Nat → β → Prop, (∀ c b, TocGood H t c b → P c b) → CacheInv P ca → CacheInv P ca'
  ver : vf = true → AllVer ca → AllVer ca'

/-- An entry such a primitive put together, having found cache `ca`, is as good as `ca`: its ghost bit is
honest if those of `ca` are, and it is set if the reader verifies and `ca` is all-verified. -/
structure Honest (t : Toc δ) (vf : Bool) (ca : Cache β) (e : Entry β) : Prop where
  good : ∀ P : Nat → β → Prop, (∀ c b, TocGood H t c b → P c b) → CacheInv P ca → e.ver = true →
    PiecesGood P e.pieces
  ver : vf = true → AllVer ca → e.ver = true

/-- Pieces such a primitive hands out, having found cache `ca`. -/
def OutGood (t : Toc δ) (vf : Bool) (ca : Cache β) (ps : List (Nat × β)) : Prop :=
  ∀ P : Nat → β → Prop, (∀ c b, TocGood H t c b → P c b) → CacheInv P ca → vf = true → AllVer ca →
    PiecesGood P ps

def Res.Quiet : Res β → Prop
  | .data _ => False
  | _ => True

theorem PiecesGood.nil {P : Nat → β → Prop} : PiecesGood P ([] : List (Nat × β)) := nofun

theorem PiecesGood.append {P : Nat → β → Prop} {ps qs : List (Nat × β)}
    (hp : PiecesGood P ps) (hq : PiecesGood P qs) : PiecesGood P (ps ++ qs) :=
  List.forall_mem_append.mpr ⟨hp, hq⟩

theorem PiecesGood.cons {P : Nat → β → Prop} {c : Nat} {b : β} {qs : List (Nat × β)}
    (hc : P c b) (hq : PiecesGood P qs) : PiecesGood P ((c, b) :: qs) :=
  List.forall_mem_cons.mpr ⟨hc, hq⟩

theorem digOk_iff (dg : Option δ) (b : β) : digOk H dg b = true ↔ dg = some (H b) := by
  unfold digOk
  cases dg with
  | none => simp
  | some d =>
    simp only [decide_eq_true_eq, Option.some.injEq]
    exact eq_comm

theorem chunkOk_iff (t : Toc δ) (c : Nat) (b : β) :
    chunkOk H t c b = true ↔ t.dig c = some (H b) := digOk_iff H (t.dig c) b

theorem checked {t : Toc δ} {vf : Bool} {c : Nat} {b : β} (hc : ¬ (vf && !chunkOk H t c b) = true)
    (hv : vf = true) : t.dig c = some (H b) := by
  subst hv
  cases hck : chunkOk H t c b with
  | true => exact (chunkOk_iff H t c b).mp hck
  | false => rw [hck] at hc; exact absurd rfl hc

theorem cget_mem {ca : Cache β} {k : Key} {e : Entry β} (h : cget ca k = some e) : (k, e) ∈ ca := by
  induction ca with
  | nil => cases h
  | cons x rest ih =>
    obtain ⟨k', e'⟩ := x
    unfold cget at h
    split at h
    · next hk => cases h; exact hk ▸ List.mem_cons_self
    · exact List.mem_cons_of_mem _ (ih h)

theorem CacheInv.cons {κ : Type} {P : Nat → β → Prop} {ca : List (κ × Entry β)} {k : κ} {e : Entry β}
    (h : CacheInv P ca) (he : e.ver = true → PiecesGood P e.pieces) : CacheInv P ((k, e) :: ca) :=
  List.forall_mem_cons.mpr ⟨he, h⟩

theorem CacheInv.snoc {κ : Type} {P : Nat → β → Prop} {ca : List (κ × Entry β)} {k : κ} {e : Entry β}
    (h : CacheInv P ca) (he : e.ver = true → PiecesGood P e.pieces) : CacheInv P (ca ++ [(k, e)]) :=
  List.forall_mem_append.mpr ⟨h, fun | _, .head _ => he⟩

theorem AllVer.cput {ca : Cache β} {k : Key} {e : Entry β}
    (h : AllVer ca) (he : e.ver = true) : AllVer (cput ca k e) :=
  List.forall_mem_cons.mpr ⟨he, h⟩

/-! ## cache-level primitives -/

section
variable {t : Toc δ} {vf : Bool} {ca ca' : Cache β} {e : Entry β}

theorem Pres.refl : Pres H t vf ca ca := ⟨fun _ _ => id, fun _ => id⟩

theorem Pres.trans {a b c : Cache β} (h1 : Pres H t vf a b) (h2 : Pres H t vf b c) : Pres H t vf a c :=
  ⟨fun P hP h => h2.inv P hP (h1.inv P hP h), fun hv h => h2.ver hv (h1.ver hv h)⟩

theorem Pres.cput (hp : Pres H t vf ca ca') (k : Key) (he : Honest H t vf ca e) : Pres H t vf ca (cput ca' k e) :=
  ⟨fun P hP h => (hp.inv P hP h).cons (he.good P hP h), fun hv h => (hp.ver hv h).cput (he.ver hv h)⟩

theorem Honest.hit {k : Key} (h : cget ca k = some e) : Honest H t vf ca e :=
  ⟨fun _ _ hi => hi _ (cget_mem h), fun _ ha => ha _ (cget_mem h)⟩

theorem Honest.fetched {c : Nat} {b : β} (hc : vf = true → TocGood H t c b) :
    Honest H t vf ca ⟨[(c, b)], vf⟩ :=
  ⟨fun _ hP _ hv => PiecesGood.cons (hP _ _ (hc hv)) PiecesGood.nil, fun hv _ => hv⟩

theorem Honest.append {e1 e2 : Entry β} (h1 : Honest H t vf ca e1) (h2 : Honest H t vf ca e2) :
    Honest H t vf ca ⟨e1.pieces ++ e2.pieces, e1.ver && e2.ver⟩ :=
  ⟨fun P hP hi hv =>
    (h1.good P hP hi (Bool.and_eq_true_iff.mp hv).1).append (h2.good P hP hi (Bool.and_eq_true_iff.mp hv).2),
   fun hv ha => Bool.and_eq_true_iff.mpr ⟨h1.ver hv ha, h2.ver hv ha⟩⟩

theorem Honest.of_pres {ca1 : Cache β} (hp : Pres H t vf ca ca1) (h : Honest H t vf ca1 e) :
    Honest H t vf ca e :=
  ⟨fun P hP hi => h.good P hP (hp.inv P hP hi), fun hv ha => h.ver hv (hp.ver hv ha)⟩

theorem Honest.out (h : Honest H t vf ca e) : OutGood H t vf ca e.pieces :=
  fun P hP hi hv ha => h.good P hP hi (h.ver hv ha)

end

theorem fetchOne_spec {t : Toc δ} {vf : Bool} {ca ca' : Cache β} {c : Nat} {reply : Option β} {b : β}
    (h : fetchOne H t vf ca c reply = some (ca', b)) :
    Pres H t vf ca ca' ∧ Honest H t vf ca ⟨[(c, b)], vf⟩ := by
  unfold fetchOne at h
  split at h
  · cases h
  · split at h
    · cases h
    · next hc =>
      cases h
      have he := Honest.fetched H (ca := ca) (checked H hc)
      exact ⟨(Pres.refl H).cput H _ he, he⟩

theorem preReads_spec {t : Toc δ} {vf : Bool} {l : List (Nat × Option β)} {ca ca' : Cache β} {ok : Bool}
    (h : preReads H t vf ca l = (ca', ok)) : Pres H t vf ca ca' := by
  induction l generalizing ca with
  | nil => cases h; exact Pres.refl H
  | cons x rest ih =>
    obtain ⟨c, r⟩ := x
    unfold preReads at h
    split at h
    · exact ih h
    · split at h
      · cases h; exact Pres.refl H
      · next hf => exact (fetchOne_spec H hf).1.trans H (ih h)

theorem readChunk_spec {t : Toc δ} {vf : Bool} {ca ca' : Cache β} {st : Step β}
    {r : Option (List (Nat × β))} (h : readChunk H t vf ca st = (ca', r)) :
    Pres H t vf ca ca' ∧ ∀ ps, r = some ps → OutGood H t vf ca ps := by
  unfold readChunk at h
  split at h
  · next e he => cases h; exact ⟨Pres.refl H, fun | _, rfl => (Honest.hit H he).out⟩
  · split at h
    · next hp => cases h; exact ⟨preReads_spec H hp, nofun⟩
    · next hp =>
      have hpres := preReads_spec H hp
      split at h
      · cases h; exact ⟨hpres, nofun⟩
      · next hf =>
        cases h
        obtain ⟨hp2, he⟩ := fetchOne_spec H hf
        exact ⟨hpres.trans H hp2, fun | _, rfl => (he.of_pres H hpres).out⟩

theorem readSteps_spec {t : Toc δ} {vf : Bool} {steps : List (Step β)} {ca ca' : Cache β}
    {r : Option (List (Nat × β))} (h : readSteps H t vf ca steps = (ca', r)) :
    Pres H t vf ca ca' ∧ ∀ ps, r = some ps → OutGood H t vf ca ps := by
  induction steps generalizing ca ca' r with
  | nil => cases h; exact ⟨Pres.refl H, fun | _, rfl => fun _ _ _ _ _ => PiecesGood.nil⟩
  | cons st rest ih =>
    unfold readSteps at h
    split at h
    · next hc => cases h; exact ⟨(readChunk_spec H hc).1, nofun⟩
    · next hc =>
      obtain ⟨hp1, ho1⟩ := readChunk_spec H hc
      split at h
      · next hr => cases h; exact ⟨hp1.trans H (ih hr).1, nofun⟩
      · next hr =>
        cases h
        obtain ⟨hp2, ho2⟩ := ih hr
        refine ⟨hp1.trans H hp2, fun | _, rfl => fun P hP hi hv ha => ?_⟩
        exact (ho1 _ rfl P hP hi hv ha).append (ho2 _ rfl P hP (hp1.inv P hP hi) hv (hp1.ver hv ha))

theorem mergeChunks_spec {t : Toc δ} {vf : Bool} {adv : Nat → Option β} {pre : Nat → List (Nat × Option β)}
    {cs : List Nat} {ca ca' : Cache β} {r : Option (Entry β)}
    (h : mergeChunks H t vf adv pre ca cs = (ca', r)) :
    Pres H t vf ca ca' ∧ ∀ e, r = some e → Honest H t vf ca e := by
  induction cs generalizing ca ca' r with
  | nil => cases h; exact ⟨Pres.refl H, fun | _, rfl => ⟨fun _ _ _ _ => PiecesGood.nil, fun _ _ => rfl⟩⟩
  | cons c rest ih =>
    unfold mergeChunks at h
    split at h
    · next e0 he0 =>
      split at h
      · next hr => cases h; exact ⟨(ih hr).1, nofun⟩
      · next e' hr => cases h; exact ⟨(ih hr).1, fun | _, rfl => (Honest.hit H he0).append H ((ih hr).2 e' rfl)⟩
    · split at h
      · next hp => cases h; exact ⟨preReads_spec H hp, nofun⟩
      · next hp =>
        have hpres := preReads_spec H hp
        split at h
        · cases h; exact ⟨hpres, nofun⟩
        · split at h
          · cases h; exact ⟨hpres, nofun⟩
          · next hc =>
            split at h
            · next hr => cases h; exact ⟨hpres.trans H (ih hr).1, nofun⟩
            · next e' hr =>
              cases h
              have he' := ((ih hr).2 e' rfl).of_pres H hpres
              exact ⟨hpres.trans H (ih hr).1, fun | _, rfl => (Honest.fetched H (checked H hc)).append H he'⟩

/-! ## the operations as equations -/

theorem removeNth_eq_eraseIdx {α : Type} : ∀ (l : List α) (i : Nat), removeNth l i = l.eraseIdx i
  | [], _ => rfl
  | _ :: _, 0 => rfl
  | x :: xs, n + 1 => congrArg (x :: ·) (removeNth_eq_eraseIdx xs n)

/-- The three outcomes of the critical section of `readAndCache`: nothing to commit; a chunk that
matched `dg`; a chunk that failed before `VerifyTOC` took its decision, recorded. -/
theorem prefetchDecideWith_cases (s : St β δ) (c : Nat) (reply : Option β) (dg : Option δ) :
    (∃ r, prefetchDecideWith H s c reply dg = (s, r, none) ∧ r.Quiet) ∨
    (∃ b, dg = some (H b) ∧ prefetchDecideWith H s c reply dg = (s, .ok, some ⟨[(c, b)], true⟩)) ∨
    (∃ b, s.prohibit = false ∧
      prefetchDecideWith H s c reply dg = ({ s with lastVerifyErr := true }, .ok, some ⟨[(c, b)], false⟩)) := by
  cases hg : cget s.cache (.chunk c) with
  | some e => exact Or.inl ⟨.ok, by simp only [prefetchDecideWith, hg], trivial⟩
  | none =>
    cases reply with
    | none => exact Or.inl ⟨.err, by simp only [prefetchDecideWith, hg], trivial⟩
    | some b =>
      cases hck : digOk H dg b with
      | true =>
        exact Or.inr (Or.inl ⟨b, (digOk_iff H _ _).mp hck, by simp only [prefetchDecideWith, hg, hck, if_true]⟩)
      | false =>
        cases hp : s.prohibit with
        | true =>
          exact Or.inl ⟨.err, by simp only [prefetchDecideWith, hg, hck, hp, Bool.false_eq_true, if_true, if_false],
            trivial⟩
        | false =>
          exact Or.inr (Or.inr ⟨b, rfl,
            by simp only [prefetchDecideWith, hg, hck, hp, Bool.false_eq_true, if_false]⟩)

theorem prefetchBegin_eq (s : St β δ) (c : Nat) (reply : Option β) :
    prefetchBegin H s c reply = prefetchBeginWith H s c reply (s.toc.dig c) := rfl

theorem prefetch_eq (s : St β δ) (c : Nat) (reply : Option β) :
    prefetch H s c reply = prefetchWith H s c reply (s.toc.dig c) := rfl

theorem verifyTOC_cases (s : St β δ) (D : δ) :
    (verifyTOC H s D = ({ s with prohibit := true }, .err) ∧ (s.lastVerifyErr = true ∨ H s.tocBytes ≠ D)) ∨
    (verifyTOC H s D = ({ s with prohibit := true, verifyFlag := true }, .ok) ∧
      s.lastVerifyErr = false ∧ H s.tocBytes = D) := by
  unfold verifyTOC
  cases hl : s.lastVerifyErr with
  | true => exact Or.inl ⟨by simp, Or.inl rfl⟩
  | false =>
    by_cases hd : H s.tocBytes = D
    · exact Or.inr ⟨by simp [hd], rfl, hd⟩
    · exact Or.inl ⟨by simp [hd], Or.inr hd⟩

theorem layerVerify_cases (s : St β δ) (D : δ) :
    (s.layerR = .skipped ∧ layerVerify H s D = (s, .err)) ∨
    (s.layerR ≠ .skipped ∧ layerVerify H s D = ({ s with prohibit := true }, .err) ∧
      (s.lastVerifyErr = true ∨ H s.tocBytes ≠ D)) ∨
    (s.layerR ≠ .skipped ∧
      layerVerify H s D = ({ s with prohibit := true, verifyFlag := true, layerR := .verified }, .ok) ∧
      s.lastVerifyErr = false ∧ H s.tocBytes = D) := by
  unfold layerVerify
  cases hr : s.layerR with
  | skipped => exact Or.inl ⟨rfl, rfl⟩
  | none | verified =>
    rcases verifyTOC_cases H s D with ⟨h, hc⟩ | ⟨h, hl, hd⟩
    · exact Or.inr (Or.inl ⟨nofun, by rw [h, hr], hc⟩)
    · exact Or.inr (Or.inr ⟨nofun, by rw [h], hl, hd⟩)

theorem layerVerify_ok {s : St β δ} {D : δ} (h : (layerVerify H s D).2 = .ok) :
    H s.tocBytes = D ∧ (layerVerify H s D).1.layerR = .verified := by
  rcases layerVerify_cases H s D with ⟨_, h'⟩ | ⟨_, h', _⟩ | ⟨_, h', _, hd⟩ <;> rw [h'] at h ⊢
  · cases h
  · cases h
  · exact ⟨hd, rfl⟩

theorem verify_err {s : St β δ} {D : δ} (hl : s.lastVerifyErr = true ∨ H s.tocBytes ≠ D) :
    (verifyTOC H s D).2 = .err ∧ (layerVerify H s D).2 = .err := by
  have hno : ¬ (s.lastVerifyErr = false ∧ H s.tocBytes = D) :=
    fun h => hl.elim (fun hl => absurd (hl.symm.trans h.1) nofun) (· h.2)
  constructor
  · rcases verifyTOC_cases H s D with ⟨h, _⟩ | ⟨_, h⟩
    · rw [h]
    · exact absurd h hno
  · rcases layerVerify_cases H s D with ⟨_, h⟩ | ⟨_, h, _⟩ | ⟨_, _, h⟩
    · rw [h]
    · rw [h]
    · exact absurd h hno

/-- `RootNode` cannot fail after a successful `Verify` (the layer then has a reader), so the store's
`Lookup` answers what `layer.Verify` answers. -/
theorem storeLookup_eq (s : St β δ) (D : δ) : storeLookup H s D = layerVerify H s D := by
  unfold storeLookup
  rcases layerVerify_cases H s D with ⟨_, h⟩ | ⟨_, h, _⟩ | ⟨_, h, _⟩ <;> rw [h] <;> rfl

/-- After `SkipVerify` the layer has a reader, whatever it had before: `RootNode` cannot fail. -/
theorem rootNode_layerSkip (s : St β δ) : rootNode (layerSkip s) = .ok := by
  unfold layerSkip
  cases hr : s.layerR <;> simp only [rootNode, hr]

theorem mount_eq (s : St β δ) (l : Labels δ) :
    mount H s l =
      if s.cfg.disableVerification then (layerSkip s, .ok) else
      match l.toc with
      | some none => (s, .err)
      | some (some D) => layerVerify H s D
      | none => if l.skip && s.cfg.allowNoVerification then (layerSkip s, .ok) else (s, .err) := by
  unfold mount
  simp only [rootNode_layerSkip]
  split
  · rfl
  · cases hl : l.toc with
    | none => rfl
    | some x =>
      cases x with
      | none => rfl
      | some D => exact storeLookup_eq H s D

theorem mount_digest {s : St β δ} {l : Labels δ} {D : δ} (hc : s.cfg.disableVerification = false)
    (hl : l.toc = some (some D)) : mount H s l = layerVerify H s D := by
  rw [mount_eq, hc, hl]
  rfl

theorem prefetchBegin_bad {s : St β δ} {c : Nat} {b : β} (hmiss : cget s.cache (.chunk c) = none)
    (hbad : chunkOk H s.toc c b = false) :
    prefetchBegin H s c (some b) =
      if s.prohibit then (s, .err)
      else ({ s with lastVerifyErr := true, pending := s.pending ++ [(c, ⟨[(c, b)], false⟩)] }, .ok) := by
  have hbad' : digOk H (s.toc.dig c) b = false := hbad
  simp only [prefetchBegin, prefetchDecide, prefetchDecideWith, hmiss, hbad', Bool.false_eq_true, if_false]
  cases s.prohibit <;> rfl

/-! ## the invariant -/

/-- The flag part of the invariant.  Every `Op` keeps all of `Inv`; this part is stated on its own because
it is what the variant `prefetchWith` (a clone-based prefetch comparing with a digest nobody checked) still
keeps (`invF_prefetchWith`) while it breaks the rest. -/
structure InvF (s : St β δ) : Prop where
  /-- an unverified writer in flight has been recorded in `lastVerifyErr` -/
  pend : ∀ p ∈ s.pending, p.2.ver = false → s.lastVerifyErr = true
  /-- unless the layer was skip-verified or a failure is on record, every cache entry was compared
  with a digest before insertion -/
  clean : s.layerR ≠ .skipped → s.lastVerifyErr = false → AllVer s.cache
  /-- a verified layer verifies reads, aborts failing prefetches, and has no failure on record -/
  ver : s.layerR = .verified → s.verifyFlag = true ∧ s.prohibit = true ∧ s.lastVerifyErr = false

theorem InvF.verifies {s : St β δ} (hi : InvF s) (hv : s.layerR = .verified) : s.verifyFlag = true :=
  (hi.ver hv).1

theorem InvF.aborts {s : St β δ} (hi : InvF s) (hv : s.layerR = .verified) : s.prohibit = true :=
  (hi.ver hv).2.1

theorem InvF.noErr {s : St β δ} (hi : InvF s) (hv : s.layerR = .verified) : s.lastVerifyErr = false :=
  (hi.ver hv).2.2

abbrev Pin (parse : β → Toc δ) (s : St β δ) : Nat → β → Prop := Pinned H parse (H s.tocBytes)

structure Inv (parse : β → Toc δ) (s : St β δ) : Prop extends InvF s where
  /-- the TOC in use is the one parsed from the bytes that were hashed -/
  tocEq : s.toc = parse s.tocBytes
  /-- the ghost bit of a cache entry is honest: "compared" means "pinned by the TOC digest" -/
  good : CacheInv (Pin H parse s) s.cache
  /-- ... and so is the ghost bit of a writer in flight -/
  pgood : CacheInv (Pin H parse s) s.pending

theorem Inv.pin {parse : β → Toc δ} {s : St β δ} (hi : Inv H parse s) (c : Nat) (b : β)
    (h : TocGood H s.toc c b) : Pin H parse s c b :=
  ⟨s.tocBytes, rfl, hi.tocEq ▸ h⟩

theorem inv_init (parse : β → Toc δ) (cfg : Cfg) (tb : β) : Inv H parse (init parse cfg tb) :=
  ⟨⟨fun _ h => (nomatch h), fun _ _ _ h => (nomatch h), fun h => (nomatch h)⟩, rfl, fun _ h => (nomatch h),
    fun _ h => (nomatch h)⟩

theorem InvF.record {s : St β δ} (hi : InvF s) (hp : s.prohibit = false) :
    InvF { s with lastVerifyErr := true } :=
  ⟨fun _ _ _ => rfl, fun _ => nofun, fun hv => absurd ((hi.aborts hv).symm.trans hp) nofun⟩

theorem InvF.addPending {s : St β δ} (hi : InvF s) {c : Nat} {e : Entry β}
    (hb : e.ver = false → s.lastVerifyErr = true) :
    InvF { s with pending := s.pending ++ [(c, e)] } :=
  ⟨List.forall_mem_append.mpr ⟨hi.pend, fun | _, .head _ => hb⟩, hi.clean, hi.ver⟩

theorem InvF.putChunk {s : St β δ} (hi : InvF s) {k : Key} {e : Entry β}
    (hb : e.ver = false → s.lastVerifyErr = true) :
    InvF { s with cache := cput s.cache k e } := by
  refine ⟨hi.pend, fun h1 h2 => (hi.clean h1 h2).cput ?_, hi.ver⟩
  cases hv : e.ver with
  | true => rfl
  | false => exact absurd ((hb hv).symm.trans h2) nofun

theorem InvF.prohibit {s : St β δ} (hi : InvF s) : InvF { s with prohibit := true } :=
  ⟨hi.pend, hi.clean, fun hv => ⟨hi.verifies hv, rfl, hi.noErr hv⟩⟩

/-- Replacing the cache by what a cache-level primitive made of it keeps the invariant, provided
the layer has a reader (reads are impossible before). -/
theorem InvF.setCache {s : St β δ} (hi : InvF s) (hr : s.layerR ≠ .none) {ca : Cache β}
    (hp : s.verifyFlag = true → AllVer s.cache → AllVer ca) : InvF { s with cache := ca } := by
  refine ⟨hi.pend, fun h1 h2 => ?_, hi.ver⟩
  have hv : s.layerR = .verified := by
    cases hx : s.layerR with
    | none => exact absurd hx hr
    | skipped => exact absurd hx h1
    | verified => rfl
  exact hp (hi.verifies hv) (hi.clean h1 h2)

/-- The variant with an unchecked clone digest keeps the flag part all the same. -/
theorem invF_prefetchWith {s : St β δ} (hi : InvF s) (c : Nat) (reply : Option β) (dg : Option δ) :
    InvF (prefetchWith H s c reply dg).1 := by
  unfold prefetchWith
  rcases prefetchDecideWith_cases H s c reply dg with ⟨r, h, _⟩ | ⟨b, _, h⟩ | ⟨b, hp, h⟩
  · rw [h]; exact hi
  · rw [h]; exact hi.putChunk nofun
  · rw [h]; exact (hi.record hp).putChunk (fun _ => rfl)

/-- What one operation other than a re-resolve can do to the state of a layer object, and what it
answers.  `sk` is what it takes to skip-verify (a bare `SkipVerify`, or one of the two configuration
switches).  File data is handed out by the last move only. -/
inductive Next (parse : β → Toc δ) (sk : Prop) (s : St β δ) : St β δ × Res β → Prop
  | same {r : Res β} (hq : r.Quiet) : Next parse sk s (s, r)
  /-- a writer whose chunk matched a digest that pins it (given the TOC in use is the parsed one) -/
  | begun (c : Nat) (b : β) (hb : s.toc = parse s.tocBytes → Pin H parse s c b) :
      Next parse sk s ({ s with pending := s.pending ++ [(c, ⟨[(c, b)], true⟩)] }, .ok)
  /-- a writer whose chunk failed, before `VerifyTOC` took its decision: recorded -/
  | begunBad (c : Nat) (b : β) (hp : s.prohibit = false) :
      Next parse sk s ({ s with lastVerifyErr := true, pending := s.pending ++ [(c, ⟨[(c, b)], false⟩)] }, .ok)
  | commit (i c : Nat) (e : Entry β) (h : s.pending[i]? = some (c, e)) :
      Next parse sk s ({ s with pending := removeNth s.pending i, cache := cput s.cache (.chunk c) e }, .ok)
  /-- `VerifyTOC` ran and failed (failure on record or wrong digest): only `prohibit` is set; a skip-verified
  layer refuses without it (`same`) -/
  | refused : Next parse sk s ({ s with prohibit := true }, .err)
  | verified (hr : s.layerR ≠ .skipped) (hl : s.lastVerifyErr = false) :
      Next parse sk s ({ s with prohibit := true, verifyFlag := true, layerR := .verified }, .ok)
  | skipped (hk : sk) (hr : s.layerR = .none) : Next parse sk s ({ s with layerR := .skipped }, .ok)
  /-- a cache-level primitive of the reader ran; what it hands out is as good as the cache it found -/
  | cached (ca : Cache β) (r : Res β) (hr : s.layerR ≠ .none)
      (hp : Pres H s.toc s.verifyFlag s.cache ca)
      (ho : ∀ ps, r = .data ps → OutGood H s.toc s.verifyFlag s.cache ps) :
      Next parse sk s ({ s with cache := ca }, r)

theorem Next.invF {parse : β → Toc δ} {sk : Prop} {s s' : St β δ} {r : Res β}
    (hn : Next H parse sk s (s', r)) (hi : InvF s) : InvF s' := by
  cases hn with
  | same => exact hi
  | begun c b _ => exact hi.addPending nofun
  | begunBad c b hp => exact (hi.record hp).addPending fun _ => rfl
  | commit i c e h =>
    have hm := List.mem_of_getElem? h
    have h1 := hi.putChunk (k := .chunk c) (hi.pend _ hm)
    exact ⟨fun p hp => hi.pend p (List.mem_of_mem_eraseIdx (removeNth_eq_eraseIdx _ _ ▸ hp)), h1.clean, h1.ver⟩
  | refused => exact hi.prohibit
  | verified hr hl => exact ⟨hi.pend, fun _ _ => hi.clean hr hl, fun _ => ⟨rfl, rfl, hl⟩⟩
  | skipped _ hr => exact ⟨hi.pend, fun h => absurd rfl h, nofun⟩
  | cached ca _ hr hp => exact hi.setCache hr hp.ver

theorem Next.inv {parse : β → Toc δ} {sk : Prop} {s s' : St β δ} {r : Res β}
    (hn : Next H parse sk s (s', r)) (hi : Inv H parse s) : Inv H parse s' := by
  have hf := hn.invF H hi.toInvF
  cases hn with
  | same => exact hi
  | begun c b hb =>
    exact ⟨hf, hi.tocEq, hi.good, hi.pgood.snoc fun _ => PiecesGood.cons (hb hi.tocEq) PiecesGood.nil⟩
  | begunBad c b _ => exact ⟨hf, hi.tocEq, hi.good, hi.pgood.snoc nofun⟩
  | commit i c e h =>
    exact ⟨hf, hi.tocEq, hi.good.cons (hi.pgood _ (List.mem_of_getElem? h)),
      fun p hp => hi.pgood p (List.mem_of_mem_eraseIdx (removeNth_eq_eraseIdx _ _ ▸ hp))⟩
  | refused => exact ⟨hf, hi.tocEq, hi.good, hi.pgood⟩
  | verified _ _ => exact ⟨hf, hi.tocEq, hi.good, hi.pgood⟩
  | skipped _ _ => exact ⟨hf, hi.tocEq, hi.good, hi.pgood⟩
  | cached ca _ _ hp =>
    exact ⟨hf, hi.tocEq, hp.inv _ hi.pin hi.good, hi.pgood⟩

theorem Next.data {parse : β → Toc δ} {sk : Prop} {s : St β δ} {x : St β δ × Res β} {ps : List (Nat × β)}
    (hn : Next H parse sk s x) (h : x.2 = .data ps) (hi : Inv H parse s) :
    s.layerR ≠ .none ∧ (s.layerR = .verified → PiecesGood (Pin H parse s) ps) := by
  obtain ⟨s', r⟩ := x
  cases h
  cases hn with
  | same hq => exact hq.elim
  | cached ca _ hr _ ho =>
    refine ⟨hr, fun hv => ?_⟩
    exact ho ps rfl _ hi.pin hi.good (hi.verifies hv) (hi.clean (hv ▸ nofun) (hi.noErr hv))

/-- Relation between a state and a later state of the SAME layer object. -/
structure Frame (s s' : St β δ) : Prop where
  cfg : s'.cfg = s.cfg
  tocBytes : s'.tocBytes = s.tocBytes
  toc : s'.toc = s.toc
  lve : s.lastVerifyErr = true → s'.lastVerifyErr = true
  proh : s.prohibit = true → s'.prohibit = true
  verified : s.layerR = .verified → s'.layerR = .verified
  skipped : s.layerR = .skipped → s'.layerR = .skipped

theorem Frame.refl (s : St β δ) : Frame s s := ⟨rfl, rfl, rfl, id, id, id, id⟩

theorem Frame.trans {a b c : St β δ} (h1 : Frame a b) (h2 : Frame b c) : Frame a c :=
  ⟨h2.cfg.trans h1.cfg, h2.tocBytes.trans h1.tocBytes, h2.toc.trans h1.toc,
   fun h => h2.lve (h1.lve h), fun h => h2.proh (h1.proh h), fun h => h2.verified (h1.verified h),
   fun h => h2.skipped (h1.skipped h)⟩

theorem Frame.pin (parse : β → Toc δ) {s s' : St β δ} (h : Frame s s') : Pin H parse s' = Pin H parse s := by
  unfold Pin
  rw [h.tocBytes]

theorem Next.frame {parse : β → Toc δ} {sk : Prop} {s s' : St β δ} {r : Res β}
    (hn : Next H parse sk s (s', r)) : Frame s s' := by
  cases hn with
  | begunBad c b _ => exact ⟨rfl, rfl, rfl, fun _ => rfl, id, id, id⟩
  | refused => exact ⟨rfl, rfl, rfl, id, fun _ => rfl, id, id⟩
  | verified hr _ => exact ⟨rfl, rfl, rfl, id, fun _ => rfl, fun _ => rfl, fun h => absurd h hr⟩
  | skipped _ hr => exact ⟨rfl, rfl, rfl, id, id, fun h => absurd (hr.symm.trans h) nofun, fun _ => rfl⟩
  | _ => exact ⟨rfl, rfl, rfl, id, id, id, id⟩

theorem Next.strict {parse : β → Toc δ} {sk : Prop} {s s' : St β δ} {r : Res β}
    (hn : Next H parse sk s (s', r)) (hk : ¬ sk) (h : s.layerR ≠ .skipped) : s'.layerR ≠ .skipped := by
  cases hn with
  | verified _ _ => exact nofun
  | skipped hk' _ => exact absurd hk' hk
  | _ => exact h

theorem prefetchBeginWith_next (parse : β → Toc δ) (sk : Prop) (s : St β δ) (c : Nat) (reply : Option β)
    (dg : Option δ) (hdg : ∀ b, dg = some (H b) → s.toc = parse s.tocBytes → Pin H parse s c b) :
    Next H parse sk s (prefetchBeginWith H s c reply dg) := by
  unfold prefetchBeginWith
  rcases prefetchDecideWith_cases H s c reply dg with ⟨r, h, hq⟩ | ⟨b, hd, h⟩ | ⟨b, hp, h⟩
  · rw [h]; exact .same hq
  · rw [h]; exact .begun c b (hdg b hd)
  · rw [h]; exact .begunBad c b hp

theorem layerVerify_next (parse : β → Toc δ) (sk : Prop) (s : St β δ) (D : δ) :
    Next H parse sk s (layerVerify H s D) := by
  rcases layerVerify_cases H s D with ⟨_, h⟩ | ⟨_, h, _⟩ | ⟨hr, h, hl, _⟩
  · rw [h]; exact .same trivial
  · rw [h]; exact .refused
  · rw [h]; exact .verified hr hl

theorem layerSkip_next (parse : β → Toc δ) {sk : Prop} (hk : sk) (s : St β δ) :
    Next H parse sk s (layerSkip s, .ok) := by
  unfold layerSkip
  cases hr : s.layerR with
  | none => exact .skipped hk hr
  | _ => exact .same trivial

theorem mount_next (parse : β → Toc δ) {sk : Prop} (s : St β δ) (l : Labels δ)
    (hk : s.cfg.disableVerification = true ∨ s.cfg.allowNoVerification = true → sk) :
    Next H parse sk s (mount H s l) := by
  rw [mount_eq]
  split
  · next hd => exact layerSkip_next H parse (hk (Or.inl hd)) s
  · split
    · exact .same trivial
    · exact layerVerify_next H parse sk s _
    · split
      · next ha => exact layerSkip_next H parse (hk (Or.inr (Bool.and_eq_true_iff.mp ha).2)) s
      · exact .same trivial

theorem rawRead_next (parse : β → Toc δ) (sk : Prop) (s : St β δ) (hr : s.layerR ≠ .none)
    (steps : List (Step β)) : Next H parse sk s (rawRead H s steps) := by
  unfold rawRead
  split
  · next ca h => exact .cached ca _ hr (readSteps_spec H h).1 nofun
  · next ca ps h => exact .cached ca _ hr (readSteps_spec H h).1 fun | _, rfl => (readSteps_spec H h).2 ps rfl

theorem rawPassthrough_next (parse : β → Toc δ) (sk : Prop) (s : St β δ) (hr : s.layerR ≠ .none)
    (f : Nat) (adv : Nat → Option β) (pre : Nat → List (Nat × Option β)) (fb : Bool) :
    Next H parse sk s (rawPassthrough H s f adv pre fb) := by
  have hq : (if fb then Res.ok else .err : Res β).Quiet := by cases fb <;> trivial
  unfold rawPassthrough
  dsimp only
  split
  · exact .same hq
  · split
    · next ca h => exact .cached ca _ hr (mergeChunks_spec H h).1 nofun
    · next ca e h =>
      obtain ⟨hp, he⟩ := mergeChunks_spec H h
      exact .cached _ _ hr (hp.cput H _ (he e rfl)) (by cases fb <;> nofun)

theorem rawReadFd_next (parse : β → Toc δ) (sk : Prop) (s : St β δ) (hr : s.layerR ≠ .none) (f : Nat) :
    Next H parse sk s (rawReadFd s f) := by
  unfold rawReadFd
  split
  · next e he =>
    exact .cached s.cache _ hr (Pres.refl H) fun | _, rfl => (Honest.hit H he).out
  · exact .same trivial

/-- `read`, `passthrough`, `readFd`: without a reader (`l.r == nil`) an error and nothing else. -/
theorem needsReader_next {parse : β → Toc δ} {sk : Prop} {s : St β δ} {x : St β δ × Res β}
    (h : s.layerR ≠ .none → Next H parse sk s x) :
    Next H parse sk s (match s.layerR with
      | .none => (s, .err)
      | _ => x) := by
  cases hr : s.layerR with
  | none => exact .same trivial
  | _ => exact h (hr ▸ nofun)

def Op.isEvict : Op β δ → Bool
  | .evict _ => true
  | _ => false

def Op.isLayerSkip : Op β δ → Bool
  | .layerSkip => true
  | _ => false

theorem step_next (parse : β → Toc δ) (s : St β δ) (o : Op β δ) (ho : o.isEvict = false) :
    Next H parse (o.isLayerSkip = true ∨ s.cfg.disableVerification = true ∨ s.cfg.allowNoVerification = true)
      s (step H parse s o) := by
  cases o with
  | prefetchBegin c r =>
    exact prefetchBeginWith_next H parse _ s c r _ fun b hb ht => ⟨s.tocBytes, rfl, ht ▸ hb⟩
  | prefetchBeginClone c r tb' =>
    show Next H parse _ s (prefetchBeginClone H parse s c r tb')
    unfold prefetchBeginClone
    split
    · next heq => exact prefetchBeginWith_next H parse _ s c r _ fun b hb _ => ⟨tb', heq, hb⟩
    · exact .same trivial
  | prefetchCommit i =>
    show Next H parse _ s (prefetchCommit s i)
    unfold prefetchCommit
    split
    · exact .same trivial
    · next c e h => exact .commit i c e h
  | layerVerify D => exact layerVerify_next H parse _ s D
  | layerSkip => exact layerSkip_next H parse (Or.inl rfl) s
  | mount l => exact mount_next H parse s l Or.inr
  | storeLookup D =>
    show Next H parse _ s (storeLookup H s D)
    rw [storeLookup_eq]
    exact layerVerify_next H parse _ s D
  | read steps => exact needsReader_next H fun hr => rawRead_next H parse _ s hr steps
  | passthrough f adv pre fb => exact needsReader_next H fun hr => rawPassthrough_next H parse _ s hr f adv pre fb
  | readFd f => exact needsReader_next H fun hr => rawReadFd_next H parse _ s hr f
  | evict tb => cases ho

theorem step_cases (parse : β → Toc δ) (s : St β δ) (o : Op β δ) {P : St β δ × Res β → Prop}
    (hev : ∀ tb, P (init parse s.cfg tb, .ok))
    (hn : ∀ x, Next H parse
      (o.isLayerSkip = true ∨ s.cfg.disableVerification = true ∨ s.cfg.allowNoVerification = true) s x → P x) :
    P (step H parse s o) := by
  cases ho : o.isEvict with
  | true => cases o <;> cases ho; exact hev _
  | false => exact hn _ (step_next H parse s o ho)

theorem inv_step (parse : β → Toc δ) {s : St β δ} (hi : Inv H parse s) (o : Op β δ) :
    Inv H parse (step H parse s o).1 :=
  step_cases H parse s o (inv_init H parse s.cfg) fun _ hn => hn.inv H hi

theorem inv_run (parse : β → Toc δ) (ops : List (Op β δ)) {s : St β δ} (hi : Inv H parse s) :
    Inv H parse (run H parse s ops) := by
  induction ops generalizing s with
  | nil => exact hi
  | cons o rest ih => exact ih (inv_step H parse hi o)

theorem frame_step (parse : β → Toc δ) (s : St β δ) (o : Op β δ) (h : o.isEvict = false) :
    Frame s (step H parse s o).1 :=
  (step_next H parse s o h).frame H

/-- No `evict` in the list: the operations all reach the same layer object. -/
def NoEvict (ops : List (Op β δ)) : Prop := ∀ o ∈ ops, o.isEvict = false

theorem frame_run (parse : β → Toc δ) (ops : List (Op β δ)) (s : St β δ) (hn : NoEvict ops) :
    Frame s (run H parse s ops) := by
  induction ops generalizing s with
  | nil => exact Frame.refl s
  | cons o rest ih =>
    exact (frame_step H parse s o (hn o List.mem_cons_self)).trans
      (ih _ fun o' ho' => hn o' (List.mem_cons_of_mem _ ho'))

theorem step_cfg (parse : β → Toc δ) (s : St β δ) (o : Op β δ) : (step H parse s o).1.cfg = s.cfg :=
  step_cases H parse s o (fun _ => rfl) fun _ hn => (hn.frame H).cfg

theorem run_cfg (parse : β → Toc δ) (ops : List (Op β δ)) (s : St β δ) : (run H parse s ops).cfg = s.cfg := by
  induction ops generalizing s with
  | nil => rfl
  | cons o rest ih => exact (ih _).trans (step_cfg H parse s o)

theorem step_data (parse : β → Toc δ) {s : St β δ} (hi : Inv H parse s) (o : Op β δ) (ps : List (Nat × β))
    (h : (step H parse s o).2 = .data ps) :
    s.layerR ≠ .none ∧ (s.layerR = .verified → PiecesGood (Pin H parse s) ps) :=
  step_cases H parse s o (P := fun x => x.2 = .data ps → _) (fun _ => nofun) (fun _ hn h => hn.data H h hi) h

theorem verified_reads (parse : β → Toc δ) {s : St β δ} (hi : Inv H parse s) (hv : s.layerR = .verified)
    (ops : List (Op β δ)) (hne : NoEvict ops) (o : Op β δ) (ps : List (Nat × β))
    (h : (step H parse (run H parse s ops) o).2 = .data ps) : PiecesGood (Pin H parse s) ps := by
  have hf := frame_run H parse ops s hne
  exact hf.pin H parse ▸ (step_data H parse (inv_run H parse ops hi) o ps h).2 (hf.verified hv)

theorem strict_step (parse : β → Toc δ) (s : St β δ) (o : Op β δ)
    (hd : s.cfg.disableVerification = false) (ha : s.cfg.allowNoVerification = false)
    (ho : o.isLayerSkip = false) (h : s.layerR ≠ .skipped) :
    (step H parse s o).1.layerR ≠ .skipped :=
  step_cases H parse s o (fun _ => nofun) fun _ hn => hn.strict H (by rw [ho, hd, ha]; decide) h

theorem strict_run (parse : β → Toc δ) (ops : List (Op β δ)) (s : St β δ)
    (hd : s.cfg.disableVerification = false) (ha : s.cfg.allowNoVerification = false)
    (hn : ∀ o ∈ ops, o.isLayerSkip = false) (h : s.layerR ≠ .skipped) :
    (run H parse s ops).layerR ≠ .skipped := by
  induction ops generalizing s with
  | nil => exact h
  | cons o rest ih =>
    exact ih _ (step_cfg H parse s o ▸ hd) (step_cfg H parse s o ▸ ha)
      (fun x hx => hn x (List.mem_cons_of_mem _ hx)) (strict_step H parse s o hd ha (hn o List.mem_cons_self) h)

end
end SV.Verify
