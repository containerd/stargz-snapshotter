/-
The model of `regionSet` (fs/remote/util.go, `SV/Model/Region.lean`): coverage (`cov`) and
well-formedness (`WF`) under `add`, `countCov`, the number of covered bytes in which C06 states
`FetchedSize`, and the hull of a region list (`superRegion_of_ne_nil`).
-/
import SV.Model.Region

namespace SV.Region

theorem cov_nil (x : Int) : ¬ cov x [] := by
  simp [cov]

theorem cov_cons (x : Int) (l : Region) (rs : List Region) :
    cov x (l :: rs) ↔ (l.b ≤ x ∧ x ≤ l.e) ∨ cov x rs := by
  simp [cov]

theorem cov_append (x : Int) (as bs : List Region) :
    cov x (as ++ bs) ↔ cov x as ∨ cov x bs := by
  simp only [cov, List.mem_append, or_and_right, exists_or]

theorem cov_reverse (x : Int) (as : List Region) : cov x as.reverse ↔ cov x as := by
  simp [cov]

theorem covb_iff (x : Int) (rs : List Region) : covb x rs = true ↔ cov x rs := by
  simp [covb, cov]

theorem interval_union_iff {a b c d x : Int} (h1 : a ≤ c) (h2 : c ≤ b + 1) (h3 : b ≤ d) :
    (a ≤ x ∧ x ≤ d) ↔ (a ≤ x ∧ x ≤ b) ∨ (c ≤ x ∧ x ≤ d) := by
  omega

theorem interval_subset {a b c d x : Int} (h1 : c ≤ a) (h2 : b ≤ d) (h : a ≤ x ∧ x ≤ b) : c ≤ x ∧ x ≤ d :=
  ⟨Int.le_trans h1 h.1, Int.le_trans h.2 h2⟩

/-- Every branch of the loop that drops `l` continues with a region covering exactly `l` and `r`
together, so no assumption on the lists is needed. -/
theorem cov_addScan (x : Int) (pre : List Region) (r : Region) (post : List Region) :
    cov x (addScan pre r post) ↔ cov x pre ∨ (r.b ≤ x ∧ x ≤ r.e) ∨ cov x post := by
  fun_induction addScan pre r post with
  | case1 r post => rw [cov_cons, or_iff_right (cov_nil x)]
  | case2 l pre r post h1 =>
    rw [cov_cons x l pre, or_comm (b := cov x pre), or_assoc, cov_append, cov_reverse, cov_cons,
      ← or_assoc (b := r.b ≤ x ∧ x ≤ r.e), or_iff_left_of_imp (interval_subset h1.1 h1.2)]
  | case3 l pre r post _ h2 ih =>
    rw [cov_cons x l pre, or_comm (b := cov x pre), or_assoc, ih,
      interval_union_iff (x := x) h2.1 h2.2.1 h2.2.2, or_assoc]
  | case4 l pre r post _ _ h3 ih =>
    rw [cov_cons x l pre, or_comm (b := cov x pre), or_assoc, ih,
      interval_union_iff (x := x) h3.1 h3.2.1 h3.2.2, or_assoc,
      or_left_comm (b := l.b ≤ x ∧ x ≤ l.e)]
  | case5 l pre r post _ _ _ h4 ih =>
    rw [cov_cons x l pre, or_comm (b := cov x pre), or_assoc, ih,
      ← or_assoc (a := l.b ≤ x ∧ x ≤ l.e), or_iff_right_of_imp (interval_subset h4.1 h4.2)]
  | case6 l pre r post =>
    rw [cov_cons x l pre, or_comm (b := cov x pre), or_assoc, cov_append, cov_reverse, cov_cons,
      cov_cons]
  | case7 l pre r post _ _ _ _ _ ih =>
    rw [cov_cons x l pre, or_comm (b := cov x pre), or_assoc, ih, cov_cons,
      or_left_comm (b := l.b ≤ x ∧ x ≤ l.e)]

theorem wf_nil : WF [] := ⟨nofun, List.Pairwise.nil⟩

theorem wf_sublist {as bs : List Region} (h : WF bs) (hs : as.Sublist bs) : WF as :=
  ⟨fun l hl => h.1 l (hs.subset hl), h.2.sublist hs⟩

theorem wf_insert {as bs : List Region} {r : Region} (h : WF (as ++ bs)) (hr : r.b ≤ r.e)
    (ha : ∀ a ∈ as, a.e + 1 < r.b) (hb : ∀ c ∈ bs, r.e + 1 < c.b) : WF (as ++ r :: bs) := by
  obtain ⟨hne, hp⟩ := h
  rw [List.pairwise_append] at hp
  refine ⟨fun l hl => ?_, List.pairwise_append.mpr ⟨hp.1, List.pairwise_cons.mpr ⟨hb, hp.2.1⟩, ?_⟩⟩
  · rcases List.mem_append.mp hl with h | h
    · exact hne l (List.mem_append_left _ h)
    · rcases List.mem_cons.mp h with rfl | h
      · exact hr
      · exact hne l (List.mem_append_right _ h)
  · intro a haa c hc
    rcases List.mem_cons.mp hc with rfl | hc
    · exact ha a haa
    · exact hp.2.2 a haa c hc

/-- The loop invariant of `regionSet.add`. -/
theorem addScan_wf (pre : List Region) (r : Region) (post : List Region) :
    WF (pre.reverse ++ post) → r.b ≤ r.e → (∀ p ∈ post, r.e + 1 < p.b) →
    WF (addScan pre r post) := by
  fun_induction addScan pre r post with
  | case1 r post => exact fun h hr hrp => wf_insert (as := []) h hr nofun hrp
  | case2 l pre r post => exact fun h _ _ => by rwa [List.reverse_cons, List.append_assoc] at h
  | case3 l pre r post _ h2 ih =>
    exact fun h hr hrp => ih (wf_sublist h (by simp)) (Int.le_trans h2.1 hr) hrp
  | case4 l pre r post _ _ h3 ih =>
    intro h hr hrp
    rw [List.reverse_cons, List.append_assoc, List.singleton_append] at h
    exact ih (wf_sublist h (List.Sublist.append_left (List.sublist_cons_self l post) _))
      (Int.le_trans h3.1 (h.1 l (List.mem_append_right _ (List.mem_cons_self ..))))
      (List.pairwise_cons.mp (List.pairwise_append.mp h.2).2.1).1
  | case5 l pre r post _ _ _ _ ih => exact fun h hr hrp => ih (wf_sublist h (by simp)) hr hrp
  | case6 l pre r post _ _ _ _ h5 =>
    intro h hr hrp
    rw [List.reverse_cons, List.append_assoc, List.singleton_append] at h
    have := wf_insert (as := pre.reverse ++ [l]) (bs := post) (r := r)
      (by rw [List.append_assoc]; exact h) hr
      (fun a ha => by
        rcases List.mem_append.mp ha with ha | ha
        · have := (List.pairwise_append.mp h.2).2.2 a ha l (List.mem_cons_self ..); omega
        · rw [List.mem_singleton.mp ha]; omega) hrp
    rwa [List.append_assoc] at this
  | case7 l pre r post _ _ _ _ _ ih =>
    intro h hr hrp
    rw [List.reverse_cons, List.append_assoc, List.singleton_append] at h
    refine ih h hr (fun p hp => ?_)
    rcases List.mem_cons.mp hp with rfl | hp
    · omega
    · exact hrp p hp

/-- `Sb` / `Se`: any properties of start and end points (grid alignment, non-negativity, …). -/
theorem addScan_ends (Sb Se : Int → Prop) (pre : List Region) (r : Region) (post : List Region) :
    (∀ l ∈ pre, Sb l.b ∧ Se l.e) → Sb r.b → Se r.e → (∀ l ∈ post, Sb l.b ∧ Se l.e) →
    ∀ l ∈ addScan pre r post, Sb l.b ∧ Se l.e := by
  -- the two branches that end the loop keep `a` and all of `pre`
  have hstop : ∀ (a : Region) (pre post' : List Region), (∀ l ∈ a :: pre, Sb l.b ∧ Se l.e) →
      (∀ l ∈ post', Sb l.b ∧ Se l.e) → ∀ l ∈ pre.reverse ++ a :: post', Sb l.b ∧ Se l.e := by
    intro a pre post' hpre hp
    obtain ⟨ha, hpre'⟩ := List.forall_mem_cons.mp hpre
    simp only [List.forall_mem_append, List.mem_reverse, List.forall_mem_cons]
    exact ⟨hpre', ha, hp⟩
  fun_induction addScan pre r post with
  | case1 r post => exact fun _ hb he hpost => List.forall_mem_cons.mpr ⟨⟨hb, he⟩, hpost⟩
  | case2 a pre r post => exact fun hpre _ _ hpost => hstop a pre post hpre hpost
  | case3 a pre r post _ _ ih =>
    exact fun hpre _ he hpost => ih (List.forall_mem_cons.mp hpre).2 (List.forall_mem_cons.mp hpre).1.1 he hpost
  | case4 a pre r post _ _ _ ih =>
    exact fun hpre hb _ hpost => ih (List.forall_mem_cons.mp hpre).2 hb (List.forall_mem_cons.mp hpre).1.2 hpost
  | case5 a pre r post _ _ _ _ ih =>
    exact fun hpre hb he hpost => ih (List.forall_mem_cons.mp hpre).2 hb he hpost
  | case6 a pre r post =>
    exact fun hpre hb he hpost => hstop a pre _ hpre (List.forall_mem_cons.mpr ⟨⟨hb, he⟩, hpost⟩)
  | case7 a pre r post _ _ _ _ _ ih =>
    exact fun hpre hb he hpost => ih (List.forall_mem_cons.mp hpre).2 hb he
      (List.forall_mem_cons.mpr ⟨(List.forall_mem_cons.mp hpre).1, hpost⟩)

theorem cov_add (rs : List Region) (r : Region) (x : Int) :
    cov x (add rs r) ↔ cov x rs ∨ (r.b ≤ x ∧ x ≤ r.e) := by
  rw [add, cov_addScan, cov_reverse, or_iff_left (cov_nil x)]

theorem wf_add {rs : List Region} {r : Region} (h : WF rs) (hr : r.b ≤ r.e) : WF (add rs r) :=
  addScan_wf rs.reverse r [] (by rw [List.reverse_reverse, List.append_nil]; exact h) hr
    nofun

theorem cov_foldl_add (x : Int) (hist : List Region) : ∀ rs : List Region,
    cov x (hist.foldl add rs) ↔ cov x rs ∨ ∃ r ∈ hist, r.b ≤ x ∧ x ≤ r.e := by
  induction hist with
  | nil => exact fun rs => (or_iff_left fun ⟨_, h, _⟩ => nomatch h).symm
  | cons r hist ih =>
    intro rs
    rw [List.foldl_cons, ih, cov_add, or_assoc]
    simp only [List.mem_cons, or_and_right, exists_or, exists_eq_left]

theorem wf_foldl_add (hist : List Region) (hne : ∀ r ∈ hist, r.b ≤ r.e) :
    ∀ rs : List Region, WF rs → WF (hist.foldl add rs) := by
  induction hist with
  | nil => exact fun _ h => h
  | cons r hist ih =>
    exact fun rs h => ih (fun r' h' => hne r' (List.mem_cons_of_mem _ h')) _
      (wf_add h (hne r (List.mem_cons_self ..)))

theorem add_ends (Sb Se : Int → Prop) (rs : List Region) (r : Region)
    (he : ∀ l ∈ rs, Sb l.b ∧ Se l.e) (hb : Sb r.b) (hee : Se r.e) :
    ∀ l ∈ add rs r, Sb l.b ∧ Se l.e :=
  addScan_ends Sb Se rs.reverse r [] (fun l hl => he l (List.mem_reverse.mp hl)) hb hee
    nofun

theorem foldl_add_ends (Sb Se : Int → Prop) (hist : List Region) :
    ∀ rs : List Region, (∀ r ∈ hist, Sb r.b ∧ Se r.e) →
      (∀ l ∈ rs, Sb l.b ∧ Se l.e) → ∀ l ∈ hist.foldl add rs, Sb l.b ∧ Se l.e :=
  fun _ hh he => hist.foldlRecOn _ he fun rs he r hr => add_ends Sb Se rs r he (hh r hr).1 (hh r hr).2

/-- One step of the `superRegion` loop. -/
def superStep (s reg : Region) : Region :=
  let s := if reg.b < s.b then { s with b := reg.b } else s
  if reg.e > s.e then { s with e := reg.e } else s

theorem superStep_b (s reg : Region) : (superStep s reg).b = min s.b reg.b := by
  unfold superStep
  simp only [apply_ite Region.b, ite_self]
  rw [Int.min_def]
  by_cases h : reg.b < s.b
  · rw [if_pos h, if_neg (Int.not_le.mpr h)]
  · rw [if_neg h, if_pos (Int.not_lt.mp h)]

theorem superStep_e (s reg : Region) : (superStep s reg).e = max s.e reg.e := by
  unfold superStep
  simp only [apply_ite Region.e, ite_self]
  rw [Int.max_def]
  by_cases h : reg.e > s.e
  · rw [if_pos h, if_pos (Int.le_of_lt h)]
  · rw [if_neg h]
    by_cases h' : s.e ≤ reg.e
    · rw [if_pos h', Int.le_antisymm h' (Int.not_lt.mp h)]
    · rw [if_neg h']

theorem superFold_bounds : ∀ (l : List Region) (s : Region),
    (l.foldl superStep s).b ≤ s.b ∧ s.e ≤ (l.foldl superStep s).e ∧
    ∀ x ∈ l, (l.foldl superStep s).b ≤ x.b ∧ x.e ≤ (l.foldl superStep s).e
  | [], s => ⟨Int.le_refl _, Int.le_refl _, nofun⟩
  | a :: l, s => by
    obtain ⟨i1, i2, i3⟩ := superFold_bounds l (superStep s a)
    rw [superStep_b] at i1
    rw [superStep_e] at i2
    refine ⟨Int.le_trans i1 (Int.min_le_left ..), Int.le_trans (Int.le_max_left ..) i2, fun x hx => ?_⟩
    rcases List.mem_cons.mp hx with rfl | hx
    · exact ⟨Int.le_trans i1 (Int.min_le_right ..), Int.le_trans (Int.le_max_right ..) i2⟩
    · exact i3 x hx

theorem superFold_attained : ∀ (l : List Region) (s : Region),
    ((l.foldl superStep s).b = s.b ∨ ∃ x ∈ l, (l.foldl superStep s).b = x.b) ∧
    ((l.foldl superStep s).e = s.e ∨ ∃ x ∈ l, (l.foldl superStep s).e = x.e)
  | [], _ => ⟨Or.inl rfl, Or.inl rfl⟩
  | a :: l, s => by
    obtain ⟨ib, ie⟩ := superFold_attained l (superStep s a)
    rw [superStep_b] at ib
    rw [superStep_e] at ie
    constructor
    · rcases ib with h | ⟨x, hx, h⟩
      · rcases Int.le_total s.b a.b with h' | h'
        · exact Or.inl (h.trans (Int.min_eq_left h'))
        · exact Or.inr ⟨a, List.mem_cons_self .., h.trans (Int.min_eq_right h')⟩
      · exact Or.inr ⟨x, List.mem_cons_of_mem _ hx, h⟩
    · rcases ie with h | ⟨x, hx, h⟩
      · rcases Int.le_total a.e s.e with h' | h'
        · exact Or.inl (h.trans (Int.max_eq_left h'))
        · exact Or.inr ⟨a, List.mem_cons_self .., h.trans (Int.max_eq_right h')⟩
      · exact Or.inr ⟨x, List.mem_cons_of_mem _ hx, h⟩

theorem superRegion_of_ne_nil : ∀ {rs : List Region}, rs ≠ [] →
    ∃ r, superRegion rs = some r ∧ (∀ x ∈ rs, r.b ≤ x.b ∧ x.e ≤ r.e) ∧
      (∃ x ∈ rs, r.b = x.b) ∧ (∃ x ∈ rs, r.e = x.e)
  | [], h => absurd rfl h
  | r0 :: rest, _ =>
    let ⟨ib, ie⟩ := superFold_attained (r0 :: rest) r0
    ⟨(r0 :: rest).foldl superStep r0, rfl, (superFold_bounds (r0 :: rest) r0).2.2,
      ib.elim (fun h => ⟨r0, List.mem_cons_self .., h⟩) id,
      ie.elim (fun h => ⟨r0, List.mem_cons_self .., h⟩) id⟩

/-- Number of byte positions in `[0,N)` covered by the set: the specification side of
`fetchedSize_counts_distinct_bytes`. -/
def countCov (N : Nat) (rs : List Region) : Nat :=
  (List.range N).countP (fun (x : Nat) => covb (x : Int) rs)

theorem countP_or_disjoint {α} (p q : α → Bool) (xs : List α)
    (h : ∀ x ∈ xs, ¬ (p x = true ∧ q x = true)) :
    xs.countP (fun x => p x || q x) = xs.countP p + xs.countP q := by
  induction xs with
  | nil => rfl
  | cons a xs ih =>
    have ha := h a (List.mem_cons_self ..)
    rw [List.countP_cons, List.countP_cons, List.countP_cons,
      ih (fun x hx => h x (List.mem_cons_of_mem _ hx))]
    cases hp : p a <;> cases hq : q a
    · rfl
    · simp only [Bool.false_or, if_true, Bool.false_eq_true, if_false]; omega
    · simp only [Bool.true_or, if_true, Bool.false_eq_true, if_false]; omega
    · exact absurd ⟨hp, hq⟩ ha

theorem count_interval (b e : Int) (hb : 0 ≤ b) (N : Nat) :
    (((List.range N).countP (fun (x : Nat) => decide (b ≤ (x : Int)) && decide ((x : Int) ≤ e)) : Nat) : Int)
      = max 0 (min (e + 1) N - b) := by
  induction N with
  | zero => rw [List.range_zero, List.countP_nil]; omega
  | succ n ih =>
    rw [List.range_succ, List.countP_append, List.countP_singleton, Int.natCast_add, ih]
    simp only [Bool.and_eq_true, decide_eq_true_eq]
    by_cases h : b ≤ (n : Int) ∧ (n : Int) ≤ e
    · rw [if_pos h]; omega
    · rw [if_neg h]; omega

theorem countCov_cons (N : Nat) (l : Region) (rs : List Region) (h : WF (l :: rs)) :
    countCov N (l :: rs) = countCov N [l] + countCov N rs := by
  unfold countCov
  have : ∀ x : Nat, covb (x : Int) (l :: rs) = (covb (x : Int) [l] || covb (x : Int) rs) := by
    intro x; simp [covb]
  simp only [this]
  apply countP_or_disjoint
  intro x _ ⟨h1, h2⟩
  rw [covb_iff] at h1 h2
  obtain ⟨l', hl', h1⟩ := h1
  simp at hl'; subst hl'
  obtain ⟨c, hc, h2⟩ := h2
  have := (List.pairwise_cons.mp h.2).1 c hc
  omega

theorem totalSize_eq_count (N : Nat) (rs : List Region) (h : WF rs)
    (hin : ∀ l ∈ rs, 0 ≤ l.b ∧ l.e < N) :
    totalSize rs = (countCov N rs : Int) := by
  induction rs with
  | nil => simp [totalSize, countCov, covb]
  | cons l rs ih =>
    have hwf' : WF rs := wf_sublist h (List.sublist_cons_self ..)
    rw [countCov_cons N l rs h, totalSize, ih hwf' (fun l' h' => hin l' (List.mem_cons_of_mem _ h'))]
    have hl := hin l (List.mem_cons_self ..)
    have hle := h.1 l (List.mem_cons_self ..)
    have hc := count_interval l.b l.e hl.1 N
    have : countCov N [l] = (List.range N).countP (fun (x : Nat) => decide (l.b ≤ (x : Int)) && decide ((x : Int) ≤ l.e)) := by
      unfold countCov; congr 1; funext x; simp [covb]
    rw [this]; push_cast; rw [hc]; unfold Region.size; omega

theorem countCov_le (N : Nat) (rs : List Region) : countCov N rs ≤ N := by
  unfold countCov
  exact Nat.le_trans (List.countP_le_length ..) (by simp)

theorem countCov_mono (N : Nat) (rs rs' : List Region) (h : ∀ x, cov x rs → cov x rs') :
    countCov N rs ≤ countCov N rs' := by
  unfold countCov
  apply List.countP_mono_left
  intro x _ hx
  rw [covb_iff] at *
  exact h _ hx

theorem totalSize_le (N : Nat) {rs : List Region} (h : WF rs) (hin : ∀ l ∈ rs, 0 ≤ l.b ∧ l.e < N) :
    totalSize rs ≤ N := by
  rw [totalSize_eq_count N rs h hin]
  exact Int.ofNat_le.mpr (countCov_le N rs)

theorem totalSize_mono (N : Nat) {rs rs' : List Region} (h : WF rs)
    (hin : ∀ l ∈ rs, 0 ≤ l.b ∧ l.e < N) (h' : WF rs') (hin' : ∀ l ∈ rs', 0 ≤ l.b ∧ l.e < N)
    (hsub : ∀ x, cov x rs → cov x rs') : totalSize rs ≤ totalSize rs' := by
  rw [totalSize_eq_count N rs h hin, totalSize_eq_count N rs' h' hin']
  exact Int.ofNat_le.mpr (countCov_mono N rs rs' hsub)

end SV.Region
