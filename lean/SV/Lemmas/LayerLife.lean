import SV.Model.LayerLife
import SV.Lemmas.RefcountMono
import SV.Props.C10
/-
Lemmas for C12 (layer life cycle).  Both caches of the resolver are `SV.Refcount.TTL` states reachable by TTL
operations (`Reach`), and the `Reach.*` lemmas wrap C10's property theorems: hence the import of `SV.Props.C10`;
where C10 states no property (`mOk`, `tokLt`, `Stores.mem_iff`), its invariant is read through `Reach.inv`.
The invariant `Inv s p` couples each cache to its objects through `Link` (`BInv`, `LInv`) and the blob closures to
the layers (`XInv`, `FInv`); a cache operation moves one refCounter (`Frame`) and with its callback keeps `Link`
(`Link.fire`).  `RB` and `RS` say what `resolveBlob` and `Resolve` do.
`LInv` here is not `SV.Refcount.LInv`, although `SV.Refcount` is open; the `TTL.*` below are `SV.LayerLife.TTL.*`.
-/
namespace SV.LayerLife
open SV.Refcount

/-! ## list lookups -/

theorem getElem?_set_cases {α} {l : List α} {a x : α} {i j : Nat} (h : (l.set i a)[j]? = some x) :
    (j ≠ i ∧ l[j]? = some x) ∨ (j = i ∧ x = a) := by
  rw [List.getElem?_set] at h
  split at h
  · rename_i e
    split at h
    · exact Or.inr ⟨e.symm, (Option.some.inj h).symm⟩
    · cases h
  · rename_i e
    exact Or.inl ⟨fun e' => e e'.symm, h⟩

theorem forall_concat {α} {P : α → Prop} {l : List α} {a : α}
    (h : ∀ (i : Nat) (x : α), l[i]? = some x → P x) (ha : P a) :
    ∀ (i : Nat) (x : α), (l ++ [a])[i]? = some x → P x := by
  intro i x hx
  rcases getElem?_concat_some hx with h1 | ⟨_, h1⟩
  · exact h i x h1
  · exact h1 ▸ ha

theorem forall_set {α} {P : α → Prop} {l : List α} {a : α} (j : Nat)
    (h : ∀ (i : Nat) (x : α), l[i]? = some x → P x) (ha : P a) :
    ∀ (i : Nat) (x : α), (l.set j a)[i]? = some x → P x := by
  intro i x hx
  rcases getElem?_set_cases hx with ⟨_, h1⟩ | ⟨_, h1⟩
  · exact h i x h1
  · exact h1 ▸ ha

@[simp] theorem RC.inc_calls (r : RC) : r.inc.calls = r.calls := rfl

structure RCLe (r r' : RC) : Prop where
  key : r'.key = r.key
  val : r'.val = r.val
  calls : r.calls ≤ r'.calls

theorem RCLe.refl (r : RC) : RCLe r r := ⟨rfl, rfl, Nat.le_refl _⟩

theorem RCLe.trans {a b c : RC} (h1 : RCLe a b) (h2 : RCLe b c) : RCLe a c :=
  ⟨h2.key.trans h1.key, h2.val.trans h1.val, Nat.le_trans h1.calls h2.calls⟩

theorem RC.le_dec (r : RC) : RCLe r r.dec := by
  rw [RC.dec_eq]; exact ⟨rfl, rfl, Nat.le_add_right _ _⟩

theorem RC.le_finalize (r : RC) : RCLe r r.finalize := by
  unfold RC.finalize
  split
  · exact RCLe.refl r
  · exact (RC.le_dec r).trans ⟨rfl, rfl, Nat.le_refl _⟩

/-- One refCounter moves: length kept, all but `id` untouched, `id` keeps key and payload and its `calls` does not
decrease (`RCLe`).  Nothing about `finDone`: that is `Mono`. -/
structure Frame (c c' : Core) (id : Nat) : Prop where
  len : c'.rcs.length = c.rcs.length
  other : ∀ j, j ≠ id → c'.rcs[j]? = c.rcs[j]?
  same : ∀ r', c'.rcs[id]? = some r' → ∃ r, c.rcs[id]? = some r ∧ RCLe r r'

theorem Frame.refl (c : Core) (id : Nat) : Frame c c id :=
  ⟨rfl, fun _ _ => rfl, fun r' h => ⟨r', h, RCLe.refl r'⟩⟩

theorem Frame.trans {a b c : Core} {id : Nat} (h1 : Frame a b id) (h2 : Frame b c id) : Frame a c id := by
  refine ⟨h2.len.trans h1.len, fun j hj => (h2.other j hj).trans (h1.other j hj), ?_⟩
  intro r' hr'
  obtain ⟨r1, e1, l1⟩ := h2.same r' hr'
  obtain ⟨r0, e0, l0⟩ := h1.same r1 e1
  exact ⟨r0, e0, l0.trans l1⟩

theorem frame_modify (c : Core) (toks' : List Tok) (id : Nat) (f : RC → RC) (hf : ∀ r, RCLe r (f r)) :
    Frame c { rcs := c.rcs.modify id f, toks := toks' } id := by
  refine ⟨List.length_modify .., ?_, ?_⟩
  · intro j hj
    show (c.rcs.modify id f)[j]? = _
    rw [List.getElem?_modify]
    cases c.rcs[j]? with
    | none => rfl
    | some r => simp [Ne.symm hj]
  · intro r' hr'
    have hr' : (c.rcs.modify id f)[id]? = some r' := hr'
    rw [List.getElem?_modify] at hr'
    cases h : c.rcs[id]? with
    | none => rw [h] at hr'; cases hr'
    | some r =>
      rw [h, Option.map_eq_map, Option.map_some, if_pos rfl] at hr'
      exact ⟨r, rfl, Option.some.inj hr' ▸ hf r⟩

theorem frame_newTok (c : Core) (id : Nat) : Frame c (c.newTok id) id :=
  frame_modify c _ id RC.inc (fun _ => ⟨rfl, rfl, Nat.le_refl _⟩)

theorem frame_fin (c : Core) (id : Nat) : Frame c (c.fin id) id :=
  frame_modify c _ id RC.finalize RC.le_finalize

theorem frame_release {c : Core} {tok : Nat} {t : Tok} (ht : c.toks[tok]? = some t) :
    Frame c (c.release tok) t.rc := by
  cases ho : t.once with
  | true => rw [release_of_released ht ho]; exact Frame.refl _ _
  | false => rw [Core.release_of_open ht ho]; exact frame_modify c _ t.rc RC.dec RC.le_dec

/-! ## single operations of the C10 cache -/

theorem callsOf_of {c : Core} {id : Nat} {r : RC} (h : c.rcs[id]? = some r) : callsOf c id = r.calls := by
  simp [callsOf, h]

theorem TTL.add_hit {t : TTL} {k id : Nat} (v : Nat) (h : t.m k = some id) :
    t.add k v = ({ t with core := t.core.newTok id }, .got (t.core.valOf id) t.core.toks.length false) := by
  exact TTL.add_cached v h

theorem TTL.done_frame {t : TTL} {tok : Nat} {tk : Tok} (e : Bool) (ht : t.core.toks[tok]? = some tk) :
    Frame t.core (t.done tok e).1.core tk.rc := by
  cases e with
  | false => rw [TTL.done_false_eq]; exact frame_release ht
  | true =>
    rw [TTL.done_true_core ht]
    exact (frame_release ht).trans (frame_fin _ _)

theorem TTL.evict_frame {t : TTL} {k id : Nat} (h : t.m k = some id) :
    Frame t.core (t.evictLocked k).core id := by
  rw [TTL.evictLocked_of_mem h]; exact frame_fin _ _

/-! ## `Reach`: the caches as states of TTL histories -/

/-- A state of some TTL history: C10's property theorems apply (`Reach.*`). -/
def Reach (t : TTL) : Prop := ∃ ops, t = TTL.run ops

theorem Reach.init : Reach {} := ⟨[], rfl⟩

theorem Reach.step {t : TTL} (h : Reach t) (op : TOp) : Reach (t.step op).1 := by
  obtain ⟨ops, rfl⟩ := h
  exact ⟨ops ++ [op], by rw [TTL.run_append]; rfl⟩

theorem Reach.inv {t : TTL} (h : Reach t) : TInv t := by
  obtain ⟨ops, rfl⟩ := h; exact TInv.run ops

theorem Reach.get {t : TTL} (h : Reach t) (k : Nat) : Reach (t.get k).1 := h.step (.get k)
theorem Reach.add {t : TTL} (h : Reach t) (k v : Nat) : Reach (t.add k v).1 := h.step (.add k v)
theorem Reach.evict {t : TTL} (h : Reach t) (k : Nat) : Reach (t.evictLocked k) := h.step (.expire k)
theorem Reach.done {t : TTL} (h : Reach t) (tok : Nat) (e : Bool) : Reach (t.done tok e).1 :=
  h.step (.done tok e)

theorem Reach.getHit {t : TTL} (h : Reach t) {k id : Nat} (hm : t.m k = some id) :
    Reach { t with core := t.core.newTok id } := by
  have := h.get k
  rwa [TTL.get_cached hm] at this

theorem Reach.calls_le_one {t : TTL} (h : Reach t) {id : Nat} {r : RC} (hr : t.core.rcs[id]? = some r) :
    r.calls ≤ 1 := by
  obtain ⟨ops, rfl⟩ := h
  exact SV.Props.C10.ttl_callback_at_most_once ops id r hr

theorem Reach.cached_calls {t : TTL} (h : Reach t) {k id : Nat} (hm : t.m k = some id) :
    ∃ r, t.core.rcs[id]? = some r ∧ r.key = k ∧ r.calls = 0 := by
  obtain ⟨ops, rfl⟩ := h
  exact SV.Props.C10.ttl_cached_not_finalised ops k id hm

theorem Reach.held_calls {t : TTL} (h : Reach t) {tok : Nat} {tk : Tok} (ht : t.core.toks[tok]? = some tk)
    (hn : tk.once = false) : ∃ r, t.core.rcs[tk.rc]? = some r ∧ r.calls = 0 := by
  obtain ⟨ops, rfl⟩ := h
  exact SV.Props.C10.ttl_held_not_finalised ops tok tk ht hn

theorem Reach.calls_iff_dead {t : TTL} (h : Reach t) {id : Nat} {r : RC} (hr : t.core.rcs[id]? = some r) :
    r.calls = 1 ↔ (t.m r.key ≠ some id ∧ held t.core.toks id = 0) := by
  obtain ⟨ops, rfl⟩ := h
  exact SV.Props.C10.ttl_callback_iff_dead ops id r hr

theorem Reach.removes_own {t : TTL} (hr : Reach t) {tok : Nat} {tk : Tok} {k : Nat}
    (ht : t.core.toks[tok]? = some tk) (hm : t.m k = some tk.rc) : (t.done tok true).1.m k = none := by
  obtain ⟨ops, rfl⟩ := hr
  exact SV.Props.C10.ttl_evicting_release_removes_own ops tok tk k ht hm

theorem Reach.done_m_other {t : TTL} (hr : Reach t) {tok : Nat} {tk : Tok} {k k' : Nat}
    (ht : t.core.toks[tok]? = some tk) (hm : t.m k = some tk.rc) (hne : k' ≠ k) :
    (t.done tok true).1.m k' = t.m k' := by
  rcases TTL.done_true_cases ht with ⟨r, -, hmr, he⟩ | ⟨-, he⟩
  · -- the map holds `tk.rc` under `r.key` and under `k`: one key
    rw [he]
    refine TTL.evictLocked_m_other _ (fun e => hne ?_)
    obtain ⟨r1, h1, k1, -⟩ := hr.inv.mOk _ _ hmr
    obtain ⟨r2, h2, k2, -⟩ := hr.inv.mOk _ _ hm
    rw [h1] at h2; cases h2
    exact e.trans (k1.symm.trans k2)
  · rw [he]

/-! ## `Link`: refCounter `i` stands for object `i` -/

/-- The cache `t` and the object list `objs` describe the same things: refCounter `i` was created
for object `i` (payload `i`, key = the object's name), and the object is closed iff the refCounter's
callback has run. -/
structure Link {α : Type} (t : TTL) (objs : List α) (name : α → Nat) (closed : α → Bool) : Prop where
  len : t.core.rcs.length = objs.length
  ok : ∀ (i : Nat) (r : RC), t.core.rcs[i]? = some r →
    ∃ o, objs[i]? = some o ∧ r.val = i ∧ name o = r.key ∧ closed o = (r.calls == 1)

theorem Link.init {α : Type} (name : α → Nat) (closed : α → Bool) : Link {} ([] : List α) name closed :=
  ⟨rfl, by intro i r h; simp at h⟩

theorem Link.step {α : Type} {t t' : TTL} {objs objs' : List α} {name closed} {id : Nat}
    (lk : Link t objs name closed) (fr : Frame t.core t'.core id)
    (hlen : objs'.length = objs.length)
    (hoth : ∀ j, j ≠ id → objs'[j]? = objs[j]?)
    (hid : ∀ o r r', objs[id]? = some o → t.core.rcs[id]? = some r → t'.core.rcs[id]? = some r' →
      ∃ o', objs'[id]? = some o' ∧ name o' = name o ∧ closed o' = (r'.calls == 1)) :
    Link t' objs' name closed := by
  refine ⟨by rw [fr.len, lk.len, hlen], ?_⟩
  intro i r' hr'
  by_cases e : i = id
  · subst e
    obtain ⟨r, hr, le⟩ := fr.same r' hr'
    obtain ⟨o, ho, hv0, hn0, _⟩ := lk.ok i r hr
    obtain ⟨o', ho', hn', hc'⟩ := hid o r r' ho hr hr'
    exact ⟨o', ho', le.val.trans hv0, by rw [hn', hn0, le.key], hc'⟩
  · rw [fr.other i e] at hr'
    obtain ⟨o, ho, h⟩ := lk.ok i r' hr'
    exact ⟨o, by rw [hoth i e]; exact ho, h⟩

theorem Link.step_same {α : Type} {t t' : TTL} {objs : List α} {name closed} {id : Nat}
    (lk : Link t objs name closed) (fr : Frame t.core t'.core id)
    (hc : ∀ r r', t.core.rcs[id]? = some r → t'.core.rcs[id]? = some r' → r'.calls = r.calls) :
    Link t' objs name closed := by
  refine lk.step fr rfl (fun _ _ => rfl) ?_
  intro o r r' ho hr hr'
  obtain ⟨o1, ho1, _, _, hc1⟩ := lk.ok id r hr
  rw [ho] at ho1; cases ho1
  exact ⟨o, ho, rfl, by rw [hc1, hc r r' hr hr']⟩

theorem Link.newTok {α : Type} {t : TTL} {objs : List α} {name closed} (lk : Link t objs name closed)
    (id : Nat) : Link { t with core := t.core.newTok id } objs name closed := by
  refine lk.step_same (frame_newTok _ _) ?_
  intro r r' hr hr'
  have hr' : (t.core.rcs.modify id RC.inc)[id]? = some r' := hr'
  rw [List.getElem?_modify, hr, Option.map_eq_map, Option.map_some, if_pos rfl] at hr'
  rw [← Option.some.inj hr']; rfl

theorem Link.addNew {α : Type} {t : TTL} {objs : List α} {name closed} (lk : Link t objs name closed)
    {k : Nat} (hm : t.m k = none) (o : α) (hn : name o = k) (hc : closed o = false) :
    Link (t.add k objs.length).1 (objs ++ [o]) name closed := by
  rw [TTL.add_vacant _ hm]
  refine Link.newTok (t := { m := _, core := t.core.newRc k objs.length }) ⟨?_, ?_⟩ _
  · simp [Core.newRc, lk.len]
  · intro i r hr
    rcases getElem?_concat_some (l := t.core.rcs) hr with h | ⟨hi, h⟩
    · obtain ⟨o', ho', h2⟩ := lk.ok i r h
      exact ⟨o', getElem?_concat_of ho' o, h2⟩
    · rw [hi, h, lk.len]
      exact ⟨o, List.getElem?_concat_length, by simp [RC.initialize, RC.inc], by simp [hn, RC.initialize, RC.inc],
        by simp [hc, RC.initialize, RC.inc]⟩

/-- A cache operation on refCounter `id` and the callback it may have triggered.  The counter is at
most 1 (C10), so the callback ran iff it went from 0 to 1: then object `id` was open and becomes
`shut o`; otherwise the objects are as before. -/
theorem Link.fire {α : Type} {t t' : TTL} {objs : List α} {name closed} {id : Nat}
    (lk : Link t objs name closed) (fr : Frame t.core t'.core id) (hr' : Reach t')
    (shut : α → α) (hn : ∀ o, name (shut o) = name o) (hc : ∀ o, closed (shut o) = true) :
    (callsOf t.core id < callsOf t'.core id ∧ t'.core.valOf id = id ∧
      ∃ o, objs[id]? = some o ∧ closed o = false ∧ Link t' (objs.set id (shut o)) name closed) ∨
    (¬ callsOf t.core id < callsOf t'.core id ∧ Link t' objs name closed) := by
  cases h' : t'.core.rcs[id]? with
  | none =>
    have hn0 : t.core.rcs[id]? = none := by
      rw [List.getElem?_eq_none_iff] at h' ⊢
      rw [← fr.len]; exact h'
    exact Or.inr ⟨by simp [callsOf, h', hn0], lk.step_same fr (fun r _ hr => by rw [hn0] at hr; cases hr)⟩
  | some r' =>
    obtain ⟨r, hr, le⟩ := fr.same r' h'
    obtain ⟨o, ho, hv, _, hcl⟩ := lk.ok id r hr
    have h1 := hr'.calls_le_one h'
    have hle := le.calls
    rw [callsOf_of hr, callsOf_of h']
    by_cases hlt : r.calls < r'.calls
    · have c0 : r.calls = 0 := Nat.lt_one_iff.mp (Nat.lt_of_lt_of_le hlt h1)
      have c1 : r'.calls = 1 := Nat.le_antisymm h1 (Nat.lt_of_le_of_lt (Nat.zero_le _) hlt)
      refine Or.inl ⟨hlt, by rw [valOf_of h', le.val, hv], o, ho, by rw [hcl, c0]; rfl, ?_⟩
      refine lk.step fr (List.length_set ..) (fun j hj => List.getElem?_set_ne (Ne.symm hj)) ?_
      intro o1 _ a' ho1 _ ha'
      rw [ho] at ho1; cases ho1
      rw [h'] at ha'; cases ha'
      exact ⟨shut o, List.getElem?_set_self (List.getElem_of_getElem? ho).1, hn o, by rw [hc, c1]; rfl⟩
    · refine Or.inr ⟨hlt, lk.step_same fr ?_⟩
      intro a b ha hb
      rw [hr] at ha; cases ha
      rw [h'] at hb; cases hb
      exact Nat.le_antisymm (Nat.le_of_not_lt hlt) hle

structure OpenAt {α : Type} (t : TTL) (objs : List α) (closed : α → Bool) (id : Nat) (o : α) (r : RC) :
    Prop where
  obj : objs[id]? = some o
  rc : t.core.rcs[id]? = some r
  val : r.val = id
  isOpen : closed o = false

theorem cached_open {α : Type} {t : TTL} {objs : List α} {name closed} (hr : Reach t)
    (lk : Link t objs name closed) {k id : Nat} (hm : t.m k = some id) :
    ∃ o r, OpenAt t objs closed id o r ∧ name o = k := by
  obtain ⟨r, hr', hk, hc0⟩ := hr.cached_calls hm
  obtain ⟨o, ho, hv, hn, hc⟩ := lk.ok id r hr'
  exact ⟨o, r, ⟨ho, hr', hv, by rw [hc, hc0]; rfl⟩, hn.trans hk⟩

theorem held_open {α : Type} {t : TTL} {objs : List α} {name closed} (hr : Reach t)
    (lk : Link t objs name closed) {tok : Nat} {tk : Tok} (ht : t.core.toks[tok]? = some tk)
    (hn : tk.once = false) : ∃ o r, OpenAt t objs closed tk.rc o r := by
  obtain ⟨r, hr', hc0⟩ := hr.held_calls ht hn
  obtain ⟨o, ho, hv, _, hcl⟩ := lk.ok tk.rc r hr'
  exact ⟨o, r, ho, hr', hv, by rw [hcl, hc0]; rfl⟩

theorem closed_iff_dead {α : Type} {t : TTL} {objs : List α} {name closed} (hr : Reach t)
    (lk : Link t objs name closed) {i : Nat} {o : α} (h : objs[i]? = some o) :
    closed o = true ↔ (t.m (name o) ≠ some i ∧ held t.core.toks i = 0) := by
  have hlt : i < t.core.rcs.length := by rw [lk.len]; exact (List.getElem_of_getElem? h).1
  obtain ⟨o', ho', _, hn, hc⟩ := lk.ok i _ (List.getElem?_eq_getElem hlt)
  rw [h] at ho'; cases ho'
  rw [hc, hn, beq_iff_eq]
  exact hr.calls_iff_dead (List.getElem?_eq_getElem hlt)

/-! ## `XInv`: which blob closure belongs to which layer -/

/-- `L` = the layers, `T` = the closures of the blob cache, `p` = a closure a running `Resolve`
holds in a local variable (`blobR`) and has not yet handed to a layer or released.
`btok`: a layer's closure exists, released iff the layer is closed; `binj`: no two layers share one; `orphan`: an
un-called closure is a layer's or the pending one; `pend`: the pending closure is un-called and no layer's. -/
structure XInv (L : List Layer) (T : List Tok) (p : Option Nat) : Prop where
  btok : ∀ (i : Nat) (l : Layer), L[i]? = some l → ∃ t, T[l.blobTok]? = some t ∧ t.once = l.closed
  binj : ∀ (i j : Nat) (li lj : Layer), L[i]? = some li → L[j]? = some lj → li.blobTok = lj.blobTok → i = j
  orphan : ∀ (tok : Nat) (t : Tok), T[tok]? = some t → t.once = false →
    (∃ (i : Nat) (l : Layer), L[i]? = some l ∧ l.blobTok = tok) ∨ p = some tok
  pend : ∀ tok, p = some tok →
    (∃ t, T[tok]? = some t ∧ t.once = false) ∧ ∀ (i : Nat) (l : Layer), L[i]? = some l → l.blobTok ≠ tok

theorem XInv.init : XInv [] [] none :=
  ⟨by intro i l h; simp at h, by intro i j li lj h; simp at h, by intro tok t h; simp at h,
   by intro tok h; cases h⟩

theorem XInv.tokLt {L : List Layer} {T : List Tok} {p : Option Nat} (x : XInv L T p) {i : Nat} {l : Layer} (h : L[i]? = some l) :
    l.blobTok < T.length := by
  obtain ⟨t, ht, _⟩ := x.btok i l h
  exact (List.getElem_of_getElem? ht).1

theorem XInv.owner {L : List Layer} {T : List Tok} (x : XInv L T none) {tok : Nat} {t : Tok} (ht : T[tok]? = some t)
    (ho : t.once = false) : ∃ (i : Nat) (l : Layer), L[i]? = some l ∧ l.blobTok = tok ∧ l.closed = false := by
  rcases x.orphan tok t ht ho with ⟨i, l, hl, hbt⟩ | hp
  · obtain ⟨t', ht', hoc⟩ := x.btok i l hl
    rw [hbt, ht] at ht'; cases ht'
    exact ⟨i, l, hl, hbt, by rw [← hoc, ho]⟩
  · cases hp

/-- `Get`/`Add` of the blob cache hands out a new closure, kept in `blobR`. -/
theorem XInv.newTok {L : List Layer} {T : List Tok} (x : XInv L T none) (id : Nat) : XInv L (T ++ [{ rc := id }]) (some T.length) := by
  refine ⟨?_, x.binj, ?_, ?_⟩
  · intro i l h
    obtain ⟨t, ht, ho⟩ := x.btok i l h
    exact ⟨t, getElem?_concat_of ht _, ho⟩
  · intro tok t ht ho
    rcases getElem?_concat_some ht with ht | ⟨e, _⟩
    · exact (x.orphan tok t ht ho).imp_right (fun h => by cases h)
    · exact Or.inr (by rw [e])
  · intro tok h
    cases h
    refine ⟨⟨{ rc := id }, List.getElem?_concat_length, rfl⟩, ?_⟩
    intro i l h e
    exact Nat.lt_irrefl _ (e ▸ x.tokLt h)

/-- `blobR.done(true)` on the closure held in `blobR`. -/
theorem XInv.releasePending {L : List Layer} {T : List Tok} {tok : Nat} (x : XInv L T (some tok)) (t : Tok) :
    XInv L (T.set tok { t with once := true }) none := by
  have hne := (x.pend tok rfl).2
  refine ⟨?_, x.binj, ?_, by intro tok h; cases h⟩
  · intro i l h
    obtain ⟨t', ht', ho⟩ := x.btok i l h
    exact ⟨t', by rw [List.getElem?_set_ne (Ne.symm (hne i l h))]; exact ht', ho⟩
  · intro tok' t' ht' ho
    rcases getElem?_set_cases ht' with ⟨e, ht'⟩ | ⟨_, e⟩
    · rcases x.orphan tok' t' ht' ho with h | h
      · exact Or.inl h
      · cases h; exact absurd rfl e
    · rw [e] at ho; cases ho

/-- `newLayer(…, blobR, …)`: the closure held in `blobR` becomes the new layer's. -/
theorem XInv.attach {L : List Layer} {T : List Tok} {b : Nat} (x : XInv L T (some b)) (l : Layer) (hb : l.blobTok = b)
    (hc : l.closed = false) : XInv (L ++ [l]) T none := by
  obtain ⟨⟨t, ht, ho⟩, hne⟩ := x.pend b rfl
  refine ⟨?_, ?_, ?_, by intro tok h; cases h⟩
  · exact forall_concat x.btok ⟨t, by rw [hb]; exact ht, by rw [ho, hc]⟩
  · intro i j li lj hi hj e
    rcases getElem?_concat_some hi with hi0 | ⟨hi1, hi2⟩ <;> rcases getElem?_concat_some hj with hj0 | ⟨hj1, hj2⟩
    · exact x.binj i j li lj hi0 hj0 e
    · exact absurd (e.trans (hj2 ▸ hb)) (hne i li hi0)
    · exact absurd (e.symm.trans (hi2 ▸ hb)) (hne j lj hj0)
    · exact hi1.trans hj1.symm
  · intro tok t' ht' ho'
    rcases x.orphan tok t' ht' ho' with ⟨i, li, hi, hli⟩ | h
    · exact Or.inl ⟨i, li, getElem?_concat_of hi l, hli⟩
    · cases h
      exact Or.inl ⟨L.length, l, List.getElem?_concat_length, hb⟩

/-- `layer.close`: the layer is marked closed and its blob closure is called. -/
theorem XInv.closeLayer {L : List Layer} {T : List Tok} {p : Option Nat} {lid : Nat} {l l' : Layer} {t : Tok} (x : XInv L T p)
    (hl : L[lid]? = some l) (ht : T[l.blobTok]? = some t)
    (hb : l'.blobTok = l.blobTok) (hc : l'.closed = true) :
    XInv (L.set lid l') (T.set l.blobTok { t with once := true }) p := by
  have tlt := (List.getElem_of_getElem? ht).1
  have bt : ∀ (i : Nat) (li : Layer), (L.set lid l')[i]? = some li →
      ∃ lo, L[i]? = some lo ∧ lo.blobTok = li.blobTok := by
    intro i li h
    rcases getElem?_set_cases h with ⟨_, h⟩ | ⟨h1, h2⟩
    · exact ⟨li, h, rfl⟩
    · exact ⟨l, h1 ▸ hl, h2 ▸ hb.symm⟩
  refine ⟨?_, ?_, ?_, ?_⟩
  · intro i li h
    rcases getElem?_set_cases h with ⟨hne, h⟩ | ⟨_, h⟩
    · obtain ⟨t', ht', ho⟩ := x.btok i li h
      have : l.blobTok ≠ li.blobTok := fun e => hne (x.binj i lid li l h hl e.symm)
      exact ⟨t', by rw [List.getElem?_set_ne this]; exact ht', ho⟩
    · exact ⟨{ t with once := true }, by rw [h, hb, List.getElem?_set_self tlt], by rw [h, hc]⟩
  · intro i j li lj hi hj e
    obtain ⟨a, ha, ea⟩ := bt i li hi
    obtain ⟨b, hb', eb⟩ := bt j lj hj
    exact x.binj i j a b ha hb' (by rw [ea, eb, e])
  · intro tok t' ht' ho'
    rcases getElem?_set_cases ht' with ⟨e, ht'⟩ | ⟨_, e⟩
    · rcases x.orphan tok t' ht' ho' with ⟨i, li, hi, hli⟩ | h
      · have : i ≠ lid := by
          intro ei; subst ei; rw [hl] at hi; cases hi; exact e hli.symm
        exact Or.inl ⟨i, li, by rw [List.getElem?_set_ne (Ne.symm this)]; exact hi, hli⟩
      · exact Or.inr h
    · rw [e] at ho'; cases ho'
  · intro tok hp
    obtain ⟨⟨t', ht', ho⟩, hne⟩ := x.pend tok hp
    have e : l.blobTok ≠ tok := hne lid l hl
    refine ⟨⟨t', by rw [List.getElem?_set_ne e]; exact ht', ho⟩, ?_⟩
    intro i li h
    obtain ⟨lo, hlo, elo⟩ := bt i li h
    exact elo ▸ hne i lo hlo

/-- `layer.close` calls `l.blob.done(true)`: the refCounter behind a closed layer's blob closure has
been finalised (`finalizeOnce` fired), i.e. the blob left the blob cache. -/
def FInv (L : List Layer) (c : Core) : Prop :=
  ∀ (i : Nat) (l : Layer) (tk : Tok), L[i]? = some l → l.closed = true → c.toks[l.blobTok]? = some tk →
    ∃ r, c.rcs[tk.rc]? = some r ∧ r.finDone = true

/-- A `finalizeOnce` that has fired stays fired (`Mono`), so every operation of the blob cache keeps `FInv`. -/
theorem FInv.step {L : List Layer} {t : TTL} {p : Option Nat} (f : FInv L t.core) (x : XInv L t.core.toks p)
    (op : TOp) : FInv L (t.step op).1.core := by
  intro i l tk' hl hc htk'
  obtain ⟨tk, htk0, _⟩ := x.btok i l hl
  obtain ⟨tk'', h2, hrc2⟩ := TTL.step_tokRc t op htk0
  rw [htk'] at h2; cases h2
  obtain ⟨r, hr, hf⟩ := f i l tk hl hc htk0
  obtain ⟨r', hr', -, -, hf'⟩ := TTL.step_mono t op _ r hr
  exact ⟨r', hrc2 ▸ hr', hf' hf⟩

theorem FInv.attach {L : List Layer} {c : Core} (f : FInv L c) (l : Layer) (hc : l.closed = false) :
    FInv (L ++ [l]) c := by
  intro i li tk hl hcl htk
  rcases getElem?_concat_some hl with hl | ⟨_, e⟩
  · exact f i li tk hl hcl htk
  · rw [e, hc] at hcl; cases hcl

/-- `layer.close`: the layer is marked closed and its closure is called with `evict = true`. -/
theorem FInv.closeLayer {L : List Layer} {t : TTL} {p : Option Nat} (hr : Reach t) (f : FInv L t.core)
    (x : XInv L t.core.toks p) (lid : Nat) {l l' : Layer} {tk : Tok} (ht : t.core.toks[l.blobTok]? = some tk)
    (hb : l'.blobTok = l.blobTok) : FInv (L.set lid l') (t.done l.blobTok true).1.core := by
  have fd : FInv L (t.done l.blobTok true).1.core := f.step x (.done l.blobTok true)
  intro i li tk' hli hc htk'
  rcases getElem?_set_cases hli with ⟨_, hli⟩ | ⟨_, e⟩
  · exact fd i li tk' hli hc htk'
  · rw [e, hb, TTL.done_toks true ht, List.getElem?_set_self (List.getElem_of_getElem? ht).1] at htk'
    cases htk'
    show ∃ r, (t.done l.blobTok true).1.core.rcs[tk.rc]? = some r ∧ r.finDone = true
    rw [TTL.done_true_core ht]
    have hlt2 : tk.rc < (t.core.release l.blobTok).rcs.length := by
      rw [(frame_release ht).len]
      exact hr.inv.core.tokLt tk (List.mem_of_getElem? ht)
    exact ⟨((t.core.release l.blobTok).rcs[tk.rc]).finalize,
      by rw [fin_lookup, List.getElem?_eq_getElem hlt2]; simp, RC.finalize_finDone _⟩

/-- From `s` to `s'` only the blob side moved (`closeBlob`, `bcDone`, `bcEvict`) and gained nothing; stronger than
`Sub` (`BlobSide.sub`), which lets the layer side shrink too. -/
structure BlobSide (s s' : State) : Prop where
  lc : s'.lc = s.lc
  layers : s'.layers = s.layers
  fsDirs : s'.fsDirs = s.fsDirs
  http : s'.httpDirs ≤ s.httpDirs
  bcm : ∀ k id, s'.bc.m k = some id → s.bc.m k = some id

theorem BlobSide.refl (s : State) : BlobSide s s := ⟨rfl, rfl, rfl, Int.le_refl _, fun _ _ h => h⟩

theorem BlobSide.trans {a b c : State} (h1 : BlobSide a b) (h2 : BlobSide b c) : BlobSide a c :=
  ⟨h2.lc.trans h1.lc, h2.layers.trans h1.layers, h2.fsDirs.trans h1.fsDirs, Int.le_trans h2.http h1.http,
   fun k id h => h1.bcm k id (h2.bcm k id h)⟩

theorem BlobSide.setBc (s : State) {t' : TTL} (h : ∀ k id, t'.m k = some id → s.bc.m k = some id) :
    BlobSide s { s with bc := t' } := ⟨rfl, rfl, rfl, Int.le_refl _, h⟩

theorem closeBlob_open {s : State} {bid : Nat} {b : Blob} (h : s.blobs[bid]? = some b)
    (hc : b.closed = false) :
    closeBlob s bid = { s with blobs := s.blobs.set bid { b with closed := true, cacheClosed := true },
                               httpDirs := s.httpDirs - 1 } := by
  simp [closeBlob, h, hc]

theorem closeBlob_side (s : State) (bid : Nat) : BlobSide s (closeBlob s bid) ∧ (closeBlob s bid).bc = s.bc := by
  unfold closeBlob
  split
  · exact ⟨BlobSide.refl s, rfl⟩
  · split
    · exact ⟨BlobSide.refl s, rfl⟩
    · exact ⟨⟨rfl, rfl, rfl, Int.sub_le_self _ (by decide), fun _ _ h => h⟩, rfl⟩

theorem bcFire_side (s : State) (c0 : Core) (id : Nat) : BlobSide s (bcFire s c0 id) ∧ (bcFire s c0 id).bc = s.bc := by
  unfold bcFire
  split
  · exact closeBlob_side _ _
  · exact ⟨BlobSide.refl s, rfl⟩

@[simp] theorem bcDone_bc (s : State) (tok : Nat) (e : Bool) : (bcDone s tok e).bc = (s.bc.done tok e).1 := by
  unfold bcDone; split
  · rename_i h; simp [TTL.done, h]
  · exact (bcFire_side _ _ _).2

theorem bcDone_side (s : State) (tok : Nat) (e : Bool) : BlobSide s (bcDone s tok e) := by
  unfold bcDone; split
  · exact BlobSide.refl s
  · exact (BlobSide.setBc s (fun _ _ h => TTL.done_m_sub e h)).trans (bcFire_side _ _ _).1

@[simp] theorem bcEvict_bc (s : State) (k : Nat) : (bcEvict s k).bc = s.bc.evictLocked k := by
  unfold bcEvict; split
  · rename_i h; simp [TTL.evictLocked, h]
  · exact (bcFire_side _ _ _).2

theorem bcEvict_side (s : State) (k : Nat) : BlobSide s (bcEvict s k) := by
  unfold bcEvict; split
  · exact BlobSide.refl s
  · exact (BlobSide.setBc s (fun _ _ h => TTL.evict_m_sub h)).trans (bcFire_side _ _ _).1

theorem bcDone_toks {s : State} {tok : Nat} {t : Tok} (e : Bool) (ht : s.bc.core.toks[tok]? = some t) :
    (bcDone s tok e).bc.core.toks = s.bc.core.toks.set tok { t with once := true } := by
  rw [bcDone_bc]; exact TTL.done_toks e ht

/-- blob cache ↔ `Blob` objects ↔ `httpcache` directories -/
structure BInv (s : State) : Prop where
  reach : Reach s.bc
  link : Link s.bc s.blobs Blob.name Blob.closed
  flags : ∀ (i : Nat) (b : Blob), s.blobs[i]? = some b → b.cacheClosed = b.closed
  dirs : s.httpDirs = ((s.blobs.countP (fun b => !b.closed) : Nat) : Int)

/-- layer cache ↔ `*layer` objects ↔ `fscache` directories -/
structure LInv (s : State) : Prop where
  reach : Reach s.lc
  link : Link s.lc s.layers Layer.name Layer.closed
  flags : ∀ (i : Nat) (l : Layer), s.layers[i]? = some l →
    l.readerClosed = l.closed ∧ l.metadataClosed = l.closed ∧ l.cachesClosed = l.closed ∧
    l.blobDone = (if l.closed then 1 else 0)
  dirs : s.fsDirs = ((s.layers.countP (fun l => !l.closed) : Nat) : Int)

/-- `p`: the pending blob closure of `XInv`; `none` between operations. -/
structure Inv (s : State) (p : Option Nat) : Prop where
  b : BInv s
  l : LInv s
  x : XInv s.layers s.bc.core.toks p
  f : FInv s.layers s.bc.core

/-- `LInv.flags` as a record (`LInv.flagsOf`), read by name. -/
structure Layer.Flags (l : Layer) : Prop where
  reader : l.readerClosed = l.closed
  metadata : l.metadataClosed = l.closed
  caches : l.cachesClosed = l.closed
  blobDone : l.blobDone = (if l.closed then 1 else 0)

theorem LInv.flagsOf {s : State} (h : LInv s) {i : Nat} {l : Layer} (hl : s.layers[i]? = some l) : l.Flags :=
  let ⟨a, b, c, d⟩ := h.flags i l hl; ⟨a, b, c, d⟩

theorem BInv.congr {s s' : State} (h : BInv s) (e1 : s'.bc = s.bc) (e2 : s'.blobs = s.blobs)
    (e3 : s'.httpDirs = s.httpDirs) : BInv s' :=
  ⟨e1 ▸ h.reach, by rw [e1, e2]; exact h.link, by rw [e2]; exact h.flags, by rw [e2, e3]; exact h.dirs⟩

theorem LInv.congr {s s' : State} (h : LInv s) (e1 : s'.lc = s.lc) (e2 : s'.layers = s.layers)
    (e3 : s'.fsDirs = s.fsDirs) : LInv s' :=
  ⟨e1 ▸ h.reach, by rw [e1, e2]; exact h.link, by rw [e2]; exact h.flags, by rw [e2, e3]; exact h.dirs⟩

theorem LInv.side {s s' : State} (h : LInv s) (b : BlobSide s s') : LInv s' := h.congr b.lc b.layers b.fsDirs

theorem Inv.init : Inv {} none :=
  ⟨⟨Reach.init, Link.init _ _, by intro i b h; simp at h, rfl⟩,
   ⟨Reach.init, Link.init _ _, by intro i l h; simp at h, rfl⟩, XInv.init,
   by intro i l tk h; simp at h⟩

/-! ## the callbacks keep `Inv` -/

theorem countP_set_close {α : Type} (closed : α → Bool) {objs : List α} {i : Nat} {o : α} (o' : α)
    (h : objs[i]? = some o) (hc : closed o = false) (hc' : closed o' = true) :
    (((objs.set i o').countP (fun b => !closed b) : Nat) : Int) =
      ((objs.countP (fun b => !closed b) : Nat) : Int) - 1 := by
  obtain ⟨hlt, hget⟩ := List.getElem_of_getElem? h
  rw [List.countP_set hlt]
  have hpos : 0 < objs.countP (fun b => !closed b) :=
    List.countP_pos_iff.mpr ⟨o, List.mem_of_getElem? h, by simp [hc]⟩
  simp [hget, hc, hc']
  omega

theorem countP_not_congr {α : Type} {p q : α → Bool} {l : List α} (h : ∀ (i : Nat) (a : α), l[i]? = some a → q a = p a) :
    l.countP (fun a => !p a) = l.countP (fun a => !q a) :=
  List.countP_congr fun a hmem => by obtain ⟨i, hi⟩ := List.getElem?_of_mem hmem; rw [h i a hi]

theorem countP_concat_open {α : Type} (closed : α → Bool) (objs : List α) (o : α) (hc : closed o = false) :
    (((objs ++ [o]).countP (fun b => !closed b) : Nat) : Int) =
      ((objs.countP (fun b => !closed b) : Nat) : Int) + 1 := by
  simp [List.countP_append, hc]

theorem BInv.bcFire_eq {s : State} (inv : BInv s) {t' : TTL} {id : Nat} (hr : Reach t')
    (fr : Frame s.bc.core t'.core id) :
    (callsOf s.bc.core id < callsOf t'.core id ∧ ∃ b, s.blobs[id]? = some b ∧ b.closed = false ∧
      Link t' (s.blobs.set id { b with closed := true, cacheClosed := true }) Blob.name Blob.closed ∧
      bcFire { s with bc := t' } s.bc.core id =
        { s with bc := t', blobs := s.blobs.set id { b with closed := true, cacheClosed := true },
                 httpDirs := s.httpDirs - 1 }) ∨
    (¬ callsOf s.bc.core id < callsOf t'.core id ∧ Link t' s.blobs Blob.name Blob.closed ∧
      bcFire { s with bc := t' } s.bc.core id = { s with bc := t' }) := by
  unfold bcFire
  rcases inv.link.fire fr hr (fun b => { b with closed := true, cacheClosed := true }) (fun _ => rfl)
      (fun _ => rfl) with ⟨hf, hval, b, hb, hbc, lk⟩ | ⟨hf, lk⟩
  · refine Or.inl ⟨hf, b, hb, hbc, lk, ?_⟩
    simp only [hf, if_true, hval]
    exact closeBlob_open (s := { s with bc := t' }) hb hbc
  · exact Or.inr ⟨hf, lk, by simp only [hf, if_false]⟩

theorem BInv.fire {s : State} (inv : BInv s) {t' : TTL} {id : Nat} (hr : Reach t')
    (fr : Frame s.bc.core t'.core id) : BInv (bcFire { s with bc := t' } s.bc.core id) := by
  rcases inv.bcFire_eq hr fr with ⟨_, b, hb, hbc, lk, e⟩ | ⟨_, lk, e⟩ <;> rw [e]
  · refine ⟨hr, lk, forall_set id inv.flags rfl, ?_⟩
    show s.httpDirs - 1 = _
    rw [countP_set_close Blob.closed _ hb hbc rfl, inv.dirs]
  · exact ⟨hr, lk, inv.flags, inv.dirs⟩

theorem BInv.bcDone {s : State} (inv : BInv s) (tok : Nat) (e : Bool) : BInv (bcDone s tok e) := by
  unfold SV.LayerLife.bcDone
  split
  · exact inv
  · rename_i t ht
    exact inv.fire (inv.reach.done tok e) (TTL.done_frame e ht)

theorem BInv.bcEvict {s : State} (inv : BInv s) (k : Nat) : BInv (bcEvict s k) := by
  unfold SV.LayerLife.bcEvict
  split
  · exact inv
  · rename_i id hm
    exact inv.fire (inv.reach.evict k) (TTL.evict_frame hm)

/-- What `layer.close` turns an open layer into. -/
def Layer.shut (l : Layer) : Layer :=
  { l with closed := true, readerClosed := true, cachesClosed := true, metadataClosed := true,
           blobDone := l.blobDone + 1 }

theorem closeLayer_open {s : State} {lid : Nat} {l : Layer} (h : s.layers[lid]? = some l)
    (hc : l.closed = false) :
    closeLayer s lid =
      bcDone { s with layers := s.layers.set lid l.shut, fsDirs := s.fsDirs - 1 } l.blobTok true := by
  simp [closeLayer, h, hc, Layer.shut]

theorem closeLayer_closed {s : State} {lid : Nat} {l : Layer} (h : s.layers[lid]? = some l)
    (hc : l.closed = true) : closeLayer s lid = s := by
  simp [closeLayer, h, hc]

@[simp] theorem closeLayer_lc (s : State) (lid : Nat) : (closeLayer s lid).lc = s.lc := by
  unfold closeLayer; split
  · rfl
  · split
    · rfl
    · exact (bcDone_side _ _ _).lc

@[simp] theorem lcFire_lc (s : State) (c0 : Core) (id : Nat) : (lcFire s c0 id).lc = s.lc := by
  unfold lcFire; split
  · exact closeLayer_lc _ _
  · rfl

@[simp] theorem lcDone_lc (s : State) (tok : Nat) (e : Bool) : (lcDone s tok e).lc = (s.lc.done tok e).1 := by
  unfold lcDone; split
  · rename_i h; simp [TTL.done, h]
  · exact lcFire_lc _ _ _

@[simp] theorem lcEvict_lc (s : State) (k : Nat) : (lcEvict s k).lc = s.lc.evictLocked k := by
  unfold lcEvict; split
  · rename_i h; simp [TTL.evictLocked, h]
  · exact lcFire_lc _ _ _

@[simp] theorem closeLayer_lc' (s : State) (lid : Nat) : (closeLayer s lid).lc.core.toks = s.lc.core.toks := by
  rw [closeLayer_lc]

theorem lcDone_toks {s : State} {tok : Nat} {t : Tok} (e : Bool) (ht : s.lc.core.toks[tok]? = some t) :
    (lcDone s tok e).lc.core.toks = s.lc.core.toks.set tok { t with once := true } := by
  rw [lcDone_lc]; exact TTL.done_toks e ht

/-- A layer-cache operation followed by the callback it may have triggered (which in turn calls the
blob closure, which may trigger the blob cache's callback) keeps the whole invariant. -/
theorem Inv.lcFire {s : State} {p : Option Nat} (inv : Inv s p) {t' : TTL} {id : Nat} (hr : Reach t')
    (fr : Frame s.lc.core t'.core id) : Inv (lcFire { s with lc := t' } s.lc.core id) p := by
  unfold SV.LayerLife.lcFire
  rcases inv.l.link.fire fr hr Layer.shut (fun _ => rfl) (fun _ => rfl) with
    ⟨hf, hval, l, hl, hlc, lk⟩ | ⟨hf, lk⟩
  · simp only [hf, if_true, hval]
    rw [closeLayer_open (s := { s with lc := t' }) hl hlc]
    obtain ⟨tk, htk, _⟩ := inv.x.btok id l hl
    have side := bcDone_side { s with lc := t', layers := s.layers.set id l.shut, fsDirs := s.fsDirs - 1 }
      l.blobTok true
    refine ⟨?_, LInv.side ⟨hr, lk, ?_, ?_⟩ side, ?_, ?_⟩
    · apply BInv.bcDone
      exact inv.b.congr rfl rfl rfl
    · refine forall_set id inv.l.flags ?_
      simp [Layer.shut, (inv.l.flagsOf hl).blobDone, hlc]
    · show s.fsDirs - 1 = _
      rw [countP_set_close Layer.closed _ hl hlc rfl, inv.l.dirs]
    · -- `by exact`: `htk` fits only after the goal has fixed the state
      rw [side.layers, bcDone_toks true (by exact htk)]
      exact inv.x.closeLayer hl htk rfl rfl
    · rw [side.layers, bcDone_bc]
      exact FInv.closeLayer inv.b.reach inv.f inv.x id htk rfl
  · simp only [hf, if_false]
    exact ⟨inv.b.congr rfl rfl rfl, ⟨hr, lk, inv.l.flags, inv.l.dirs⟩, inv.x, inv.f⟩

theorem Inv.lcDone {s : State} {p : Option Nat} (inv : Inv s p) (tok : Nat) (e : Bool) :
    Inv (lcDone s tok e) p := by
  unfold SV.LayerLife.lcDone
  split
  · exact inv
  · rename_i t ht
    exact inv.lcFire (inv.l.reach.done tok e) (TTL.done_frame e ht)

theorem Inv.lcEvict {s : State} {p : Option Nat} (inv : Inv s p) (k : Nat) : Inv (lcEvict s k) p := by
  unfold SV.LayerLife.lcEvict
  split
  · exact inv
  · rename_i id hm
    exact inv.lcFire (inv.l.reach.evict k) (TTL.evict_frame hm)

theorem Inv.bcEvict {s : State} {p : Option Nat} (inv : Inv s p) (k : Nat) : Inv (bcEvict s k) p := by
  have side := bcEvict_side s k
  refine ⟨inv.b.bcEvict k, inv.l.side side, ?_, ?_⟩
  · rw [side.layers, bcEvict_bc, TTL.evictLocked_toks]; exact inv.x
  · rw [side.layers, bcEvict_bc]; exact inv.f.step inv.x (.expire k)

/-- `blobR.done(true)` on the closure a running `Resolve` still holds. -/
theorem Inv.bcDonePending {s : State} {tok : Nat} (inv : Inv s (some tok)) :
    Inv (bcDone s tok true) none := by
  obtain ⟨⟨t, ht, _⟩, _⟩ := inv.x.pend tok rfl
  have side := bcDone_side s tok true
  refine ⟨inv.b.bcDone _ _, inv.l.side side, ?_, ?_⟩
  · rw [side.layers, bcDone_toks true ht]
    exact inv.x.releasePending t
  · rw [side.layers, bcDone_bc]
    exact inv.f.step inv.x (.done tok true)

/-- `Sub s s'`: the later state `s'` has nothing that `s` lacked — no cache entry, no directory; the
number of layer objects is the same (an equality: `RS.mono` carries `lid = s.layers.length` across). -/
structure Sub (s s' : State) : Prop where
  lcm : ∀ k id, s'.lc.m k = some id → s.lc.m k = some id
  bcm : ∀ k id, s'.bc.m k = some id → s.bc.m k = some id
  nlay : s'.layers.length = s.layers.length
  fs : s'.fsDirs ≤ s.fsDirs
  http : s'.httpDirs ≤ s.httpDirs

theorem Sub.refl (s : State) : Sub s s :=
  ⟨fun _ _ h => h, fun _ _ h => h, rfl, Int.le_refl _, Int.le_refl _⟩

theorem Sub.trans {a b c : State} (h1 : Sub a b) (h2 : Sub b c) : Sub a c :=
  ⟨fun k id h => h1.lcm k id (h2.lcm k id h), fun k id h => h1.bcm k id (h2.bcm k id h),
   h2.nlay.trans h1.nlay, Int.le_trans h2.fs h1.fs, Int.le_trans h2.http h1.http⟩

theorem BlobSide.sub {s s' : State} (h : BlobSide s s') : Sub s s' :=
  ⟨fun _ _ hm => h.lc ▸ hm, h.bcm, by rw [h.layers], Int.le_of_eq h.fsDirs, h.http⟩

theorem sub_closeLayer (s : State) (lid : Nat) : Sub s (closeLayer s lid) := by
  unfold closeLayer
  split
  · exact Sub.refl s
  · split
    · exact Sub.refl s
    · refine Sub.trans (b := { s with layers := s.layers.set lid _, fsDirs := s.fsDirs - 1 }) ?_ (bcDone_side _ _ _).sub
      exact ⟨fun _ _ h => h, fun _ _ h => h, List.length_set .., Int.sub_le_self _ (by decide), Int.le_refl _⟩

theorem sub_lcFire (s : State) (c0 : Core) (id : Nat) : Sub s (lcFire s c0 id) := by
  unfold lcFire; split
  · exact sub_closeLayer _ _
  · exact Sub.refl s

theorem sub_setLc (s : State) {t' : TTL} (h : ∀ k id, t'.m k = some id → s.lc.m k = some id) :
    Sub s { s with lc := t' } :=
  ⟨h, fun _ _ h => h, rfl, Int.le_refl _, Int.le_refl _⟩

theorem sub_lcDone (s : State) (tok : Nat) (e : Bool) : Sub s (lcDone s tok e) := by
  unfold lcDone; split
  · exact Sub.refl s
  · exact (sub_setLc s (fun k id h => TTL.done_m_sub e h)).trans (sub_lcFire _ _ _)

theorem sub_lcEvict (s : State) (k : Nat) : Sub s (lcEvict s k) := by
  unfold lcEvict; split
  · exact Sub.refl s
  · exact (sub_setLc s (fun k' id h => TTL.evict_m_sub h)).trans (sub_lcFire _ _ _)

/-! ## what a holder gets -/

theorem open_layer_blob {s : State} {p : Option Nat} (inv : Inv s p) {i : Nat} {l : Layer}
    (hl : s.layers[i]? = some l) (hc : l.closed = false) :
    ∃ bid b, blobOfTok s l.blobTok = some bid ∧
      s.blobs[bid]? = some b ∧ b.closed = false ∧ b.cacheClosed = false := by
  obtain ⟨tk, htk, ho⟩ := inv.x.btok i l hl
  rw [hc] at ho
  obtain ⟨b, r, hb, hr, hv, hbc⟩ := held_open inv.b.reach inv.b.link htk ho
  refine ⟨tk.rc, b, ?_, hb, hbc, ?_⟩
  · simp [blobOfTok, htk, valOf_of hr, hv]
  · rw [inv.b.flags _ b hb, hbc]

theorem layerCheck_open {s : State} {p : Option Nat} (inv : Inv s p) {i : Nat} {l : Layer}
    (hl : s.layers[i]? = some l) (hc : l.closed = false) (probe : Bool) : layerCheck s i probe = probe := by
  obtain ⟨bid, b, hbt, hb, hbc, _⟩ := open_layer_blob inv hl hc
  simp [layerCheck, hl, hc, blobRefCheck, hbt, blobCheck, blobClosed, hb, hbc]

theorem layerCheck_cached {s : State} {p : Option Nat} (inv : Inv s p) {k a : Nat}
    (hm : s.lc.m k = some a) (probe : Bool) : layerCheck s a probe = probe := by
  obtain ⟨l, _, c, _⟩ := cached_open inv.l.reach inv.l.link hm
  exact layerCheck_open inv c.obj c.isOpen probe

theorem blobCheck_cached {s : State} (inv : BInv s) {k id : Nat} (hm : s.bc.m k = some id)
    (probe : Bool) : blobCheck s id probe = probe := by
  obtain ⟨b, _, c, _⟩ := cached_open inv.reach inv.link hm
  simp [blobCheck, blobClosed, c.obj, c.isOpen]

structure Held (s : State) (tok : Nat) (tk : Tok) (l : Layer) (bid : Nat) (b : Blob) : Prop where
  layerOf : layerOfTok s tok = some tk.rc
  layer : s.layers[tk.rc]? = some l
  lopen : l.closed = false
  reader : l.readerClosed = false
  metadata : l.metadataClosed = false
  caches : l.cachesClosed = false
  blobDone : l.blobDone = 0
  blobOf : blobOfTok s l.blobTok = some bid
  blob : s.blobs[bid]? = some b
  bopen : b.closed = false
  bcache : b.cacheClosed = false
  read : readRes s tok = .ok
  readOld : readOldRes s tok = .ok
  refresh : ∀ reg, refreshRes s tok reg = (if reg then .ok else .err)

theorem held_reads {s : State} {p : Option Nat} (inv : Inv s p) {tok : Nat} {tk : Tok}
    (ht : s.lc.core.toks[tok]? = some tk) (hn : tk.once = false) : ∃ l bid b, Held s tok tk l bid b := by
  obtain ⟨l, r, hl, hr, hv, hc⟩ := held_open inv.l.reach inv.l.link ht hn
  have f := inv.l.flagsOf hl
  obtain ⟨bid, b, hbt, hb, hbc, hbcc⟩ := open_layer_blob inv hl hc
  have hlt : layerOfTok s tok = some tk.rc := by rw [layerOfTok, ht, Option.map_some, valOf_of hr, hv]
  have hrc : l.readerClosed = false := by rw [f.reader, hc]
  have hbcl : blobClosed s bid = false := by rw [blobClosed, hb, Option.map_some, Option.getD_some, hbc]
  refine ⟨l, bid, b, hlt, hl, hc, hrc, by rw [f.metadata, hc], by rw [f.caches, hc],
    by rw [f.blobDone, hc]; rfl, hbt, hb, hbc, hbcc, ?_, ?_, ?_⟩
  · simp only [readRes, hlt, hl, hc, hrc, hbt, hbcl, Bool.or_self, Bool.false_eq_true, if_false]
  · simp only [readOldRes, hlt, hl, hrc, hbt, hbcl, Bool.false_eq_true, if_false]
  · intro reg
    simp only [refreshRes, hlt, hl, hc, hbt, hbcl, Bool.false_eq_true, if_false]

/-! ## what `resolveBlob` does: `RB` -/

/-- The state after `makeBlob` + `blobCache.Add` of a name that is not cached. -/
def withFreshBlob (s : State) (name : Nat) : State :=
  { s with httpDirs := s.httpDirs + 1, blobs := s.blobs ++ [({ name := name } : Blob)],
           bc := (s.bc.add name s.blobs.length).1 }

theorem Inv.addBlob {s : State} (inv : Inv s none) {name : Nat} (hm : s.bc.m name = none) :
    Inv (withFreshBlob s name) (some s.bc.core.toks.length) := by
  unfold withFreshBlob
  refine ⟨⟨inv.b.reach.add _ _, inv.b.link.addNew hm _ rfl rfl, forall_concat inv.b.flags rfl, ?_⟩,
    inv.l.congr rfl rfl rfl, ?_, inv.f.step inv.x (.add name _)⟩
  · show s.httpDirs + 1 = _
    rw [countP_concat_open Blob.closed s.blobs _ rfl, inv.b.dirs]
  · rw [(TTL.add_vacant_spec _ hm).toks]
    exact inv.x.newTok _

/-- `blobCache.Get` hit: a new closure of the cached blob. -/
theorem Inv.getBlob {s : State} (inv : Inv s none) {name id : Nat} (hm : s.bc.m name = some id) :
    Inv { s with bc := { s.bc with core := s.bc.core.newTok id } } (some s.bc.core.toks.length) :=
  ⟨⟨inv.b.reach.getHit hm, inv.b.link.newTok id, inv.b.flags, inv.b.dirs⟩, inv.l.congr rfl rfl rfl,
    inv.x.newTok id, by have := inv.f.step inv.x (.get name); rwa [TTL.step, TTL.get_cached hm] at this⟩

/-- `layerCache.Get` hit. -/
theorem Inv.getLayer {s : State} {p : Option Nat} (inv : Inv s p) {name id : Nat} (hm : s.lc.m name = some id) :
    Inv { s with lc := { s.lc with core := s.lc.core.newTok id } } p :=
  ⟨inv.b.congr rfl rfl rfl, ⟨inv.l.reach.getHit hm, inv.l.link.newTok id, inv.l.flags, inv.l.dirs⟩, inv.x, inv.f⟩

/-- `newLayer` + `layerCache.Add` of a name that is not cached. -/
theorem Inv.addLayer {s : State} {btok : Nat} (inv : Inv s (some btok)) {name : Nat} (hm : s.lc.m name = none) :
    Inv { s with fsDirs := s.fsDirs + 1, layers := s.layers ++ [({ name := name, blobTok := btok } : Layer)],
                 lc := (s.lc.add name s.layers.length).1 } none := by
  refine ⟨inv.b.congr rfl rfl rfl,
    ⟨inv.l.reach.add _ _, inv.l.link.addNew hm _ rfl rfl, forall_concat inv.l.flags ⟨rfl, rfl, rfl, rfl⟩, ?_⟩,
    inv.x.attach _ rfl rfl, inv.f.attach _ rfl⟩
  show s.fsDirs + 1 = _
  rw [countP_concat_open Layer.closed s.layers _ rfl, inv.l.dirs]

/-- A fresh `Add`, then the evicting call of the closure it returned: the new value has left the cache
and has no holder, so (C10 `ttl_callback_iff_dead`) its callback ran. -/
theorem Reach.add_done {t : TTL} (hr : Reach t) {k : Nat} (v : Nat) (hm : t.m k = none) :
    (t.add k v).1.core.toks[t.core.toks.length]? = some { rc := t.core.rcs.length } ∧
    callsOf (t.add k v).1.core t.core.rcs.length <
      callsOf ((t.add k v).1.done t.core.toks.length true).1.core t.core.rcs.length ∧
    ∀ k' id, ((t.add k v).1.done t.core.toks.length true).1.m k' = some id → t.m k' = some id := by
  obtain ⟨_, hmk, htoks, hoth⟩ := TTL.add_vacant_spec v hm
  have hr1 := hr.add k v
  generalize (t.add k v).1 = t1 at *
  have htok : t1.core.toks[t.core.toks.length]? = some { rc := t.core.rcs.length } := by
    rw [htoks]; exact List.getElem?_concat_length
  have hr2 := hr1.done t.core.toks.length true
  have hrm : (t1.done t.core.toks.length true).1.m k = none := hr1.removes_own htok hmk
  have fr := TTL.done_frame true htok
  refine ⟨htok, ?_, ?_⟩
  · obtain ⟨r1, h1, hk1, c0⟩ := hr1.cached_calls hmk
    have hlt : t.core.rcs.length < (t1.done t.core.toks.length true).1.core.rcs.length := by
      rw [fr.len]; exact (List.getElem_of_getElem? h1).1
    have h2 := List.getElem?_eq_getElem hlt
    obtain ⟨r, hr', le⟩ := fr.same _ h2
    rw [h1] at hr'; cases hr'
    -- the only closure of the new refCounter is the one just called
    have hheld : held (t1.done t.core.toks.length true).1.core.toks t.core.rcs.length = 0 := by
      rw [TTL.done_toks true htok, held_set_released htok rfl, htoks, held_append_one,
        held_eq_zero_of_fresh _ _ hr.inv.core.tokLt]
      simp
    have c1 := (hr2.calls_iff_dead h2).mpr ⟨by rw [le.key, hk1, hrm]; exact nofun, hheld⟩
    rw [callsOf_of h1, callsOf_of h2, c0, c1]; exact Nat.one_pos
  · intro k' id h
    by_cases e : k' = k
    · rw [e, hrm] at h; cases h
    · rw [← hoth k' e]; exact TTL.done_m_sub true h

/-- The error path after a blob was resolved afresh: `blobR.done(true)` removes the new cache entry
again and closes the new blob (its directory goes). -/
theorem undo_fresh {s : State} (inv : Inv s none) {name : Nat} (hm : s.bc.m name = none) :
    BlobSide s (bcDone (withFreshBlob s name) s.bc.core.toks.length true) := by
  obtain ⟨htok, hfire, hmap⟩ := inv.b.reach.add_done s.blobs.length hm
  have htok' : (withFreshBlob s name).bc.core.toks[s.bc.core.toks.length]? = some { rc := s.bc.core.rcs.length } := htok
  have inv' := inv.addBlob hm
  have side := bcDone_side (withFreshBlob s name) s.bc.core.toks.length true
  refine ⟨side.lc, side.layers, side.fsDirs, ?_, fun k id h => hmap k id (by rw [bcDone_bc] at h; exact h)⟩
  unfold SV.LayerLife.bcDone
  simp only [htok']
  rcases inv'.b.bcFire_eq (inv'.b.reach.done _ true) (TTL.done_frame true htok') with
    ⟨_, _, _, _, _, e⟩ | ⟨hf, _⟩
  · rw [e]; exact Int.le_of_eq (Int.add_sub_cancel ..)
  · exact absurd hfire hf

/-- What `resolveBlob` guarantees of `r` = (state, `blobRef` or none); `ok` also speaks of the state after the
`blobRef` is given back, which is what `Resolve`'s error path does with it. -/
structure RB (s : State) (o : Oracle) (r : State × Option Nat) : Prop where
  lc : r.1.lc = s.lc
  layers : r.1.layers = s.layers
  fsDirs : r.1.fsDirs = s.fsDirs
  fail : r.2 = none → o.bres = false ∧ Inv r.1 none ∧
    (∀ k id, r.1.bc.m k = some id → s.bc.m k = some id) ∧ r.1.httpDirs ≤ s.httpDirs
  ok : ∀ btok, r.2 = some btok → Inv r.1 (some btok) ∧
    (∀ k id, (bcDone r.1 btok true).bc.m k = some id → s.bc.m k = some id) ∧
    (bcDone r.1 btok true).httpDirs ≤ s.httpDirs

theorem RB.failSide {s : State} {o : Oracle} {r : State × Option Nat} (h : RB s o r) (hn : r.2 = none) :
    BlobSide s r.1 :=
  let ⟨_, _, bcm, http⟩ := h.fail hn; ⟨h.lc, h.layers, h.fsDirs, http, bcm⟩

theorem RB.okSide {s : State} {o : Oracle} {r : State × Option Nat} (h : RB s o r) {btok : Nat} (hs : r.2 = some btok) :
    BlobSide s (bcDone r.1 btok true) :=
  let ⟨_, bcm, http⟩ := h.ok btok hs
  let side := bcDone_side r.1 btok true
  ⟨side.lc.trans h.lc, side.layers.trans h.layers, side.fsDirs.trans h.fsDirs, http, bcm⟩

theorem RB.weaken {s0 s : State} {o : Oracle} {r : State × Option Nat} (h : RB s o r) (side : BlobSide s0 s) :
    RB s0 o r :=
  ⟨h.lc.trans side.lc, h.layers.trans side.layers, h.fsDirs.trans side.fsDirs,
   fun hn => let sd := side.trans (h.failSide hn); let ⟨cause, inv, _, _⟩ := h.fail hn; ⟨cause, inv, sd.bcm, sd.http⟩,
   fun btok hs => let sd := side.trans (h.okSide hs); let ⟨inv, _, _⟩ := h.ok btok hs; ⟨inv, sd.bcm, sd.http⟩⟩

/-- The directory made for the blob is removed again by the deferred `Close`: the state is as before. -/
theorem resolveBlobFresh_fail {s : State} {name : Nat} {o : Oracle} (h : o.bres = false) :
    resolveBlobFresh s name o = (s, none) := by
  simp [resolveBlobFresh, h, Int.add_sub_cancel]

theorem resolveBlobFresh_ok {s : State} {name : Nat} {o : Oracle} (h : o.bres = true) (hm : s.bc.m name = none) :
    resolveBlobFresh s name o = (withFreshBlob s name, some s.bc.core.toks.length) := by
  simp [resolveBlobFresh, withFreshBlob, h, TTL.add_vacant _ hm]

theorem resolveBlobFresh_spec {s : State} (inv : Inv s none) {name : Nat} (hm : s.bc.m name = none) (o : Oracle) :
    RB s o (resolveBlobFresh s name o) := by
  cases hb : o.bres with
  | false =>
    rw [resolveBlobFresh_fail hb]
    exact ⟨rfl, rfl, rfl, fun _ => ⟨hb, inv, fun _ _ h => h, Int.le_refl _⟩, nofun⟩
  | true =>
    rw [resolveBlobFresh_ok hb hm]
    refine ⟨rfl, rfl, rfl, nofun, ?_⟩
    intro btok h
    cases h
    exact ⟨inv.addBlob hm, (undo_fresh inv hm).bcm, (undo_fresh inv hm).http⟩

theorem resolveBlob_miss {s : State} {name : Nat} (o : Oracle) (hm : s.bc.m name = none) :
    resolveBlob s name o = resolveBlobFresh s name o := by
  simp [resolveBlob, TTL.get_vacant hm]

/-- The state in which `resolveBlob` continues after the cached blob failed its check. -/
def afterBadBlob (s : State) (name id : Nat) : State :=
  bcEvict (bcDone { s with bc := { s.bc with core := s.bc.core.newTok id } } s.bc.core.toks.length true) name

theorem resolveBlob_hit {s : State} (inv : Inv s none) {name id : Nat} (o : Oracle) (hm : s.bc.m name = some id) :
    resolveBlob s name o =
      if o.bchk then
        ({ s with bc := { s.bc with core := s.bc.core.newTok id } }, some s.bc.core.toks.length)
      else resolveBlobFresh (afterBadBlob s name id) name o := by
  obtain ⟨_, r, c, _⟩ := cached_open inv.b.reach inv.b.link hm
  have hval : s.bc.core.valOf id = id := by rw [valOf_of c.rc, c.val]
  have hchk : ∀ probe, blobCheck { s with bc := { s.bc with core := s.bc.core.newTok id } } id probe = probe :=
    fun probe => blobCheck_cached inv.b hm probe
  simp only [resolveBlob, TTL.get_cached hm, hval, hchk, afterBadBlob]

theorem afterBadBlob_m (s : State) (name id : Nat) : (afterBadBlob s name id).bc.m name = none := by
  unfold afterBadBlob; rw [bcEvict_bc]; exact TTL.evictLocked_none_self _ _

theorem resolveBlob_spec {s : State} (inv : Inv s none) (name : Nat) (o : Oracle) :
    RB s o (resolveBlob s name o) := by
  cases hm : s.bc.m name with
  | none => rw [resolveBlob_miss o hm]; exact resolveBlobFresh_spec inv hm o
  | some id =>
    rw [resolveBlob_hit inv o hm]
    have inv1 := inv.getBlob hm
    have side := (BlobSide.setBc s (t' := { s.bc with core := s.bc.core.newTok id }) (fun _ _ h => h)).trans
      (bcDone_side _ s.bc.core.toks.length true)
    cases o.bchk with
    | true =>
      refine ⟨rfl, rfl, rfl, nofun, ?_⟩
      intro btok h
      cases h
      exact ⟨inv1, side.bcm, side.http⟩
    | false =>
      exact (resolveBlobFresh_spec (inv1.bcDonePending.bcEvict name) (afterBadBlob_m s name id) o).weaken
        (side.trans (bcEvict_side _ name))

theorem resolveBlob_some {s : State} (inv : Inv s none) (name : Nat) {o : Oracle} (hb : o.bres = true) :
    ∃ btok, (resolveBlob s name o).2 = some btok := by
  cases hm : s.bc.m name with
  | none => rw [resolveBlob_miss o hm, resolveBlobFresh_ok hb hm]; exact ⟨_, rfl⟩
  | some id =>
    rw [resolveBlob_hit inv o hm]
    cases o.bchk with
    | true => exact ⟨_, rfl⟩
    | false => rw [if_neg Bool.false_ne_true, resolveBlobFresh_ok hb (afterBadBlob_m s name id)]; exact ⟨_, rfl⟩

/-! ## what `Resolve` does: `RS` -/

def Out.layer? : Out → Option (Nat × Nat)
  | .hit lid tok => some (lid, tok)
  | .fresh lid tok => some (lid, tok)
  | .existing lid tok => some (lid, tok)
  | _ => none

def Out.isErr : Out → Bool
  | .errBlob => true
  | .errMeta => true
  | _ => false

/-- `D`: the closures a failed `Resolve` appended (that of a cached layer whose check failed, or none). -/
structure Failed (s : State) (r : State × Out) (D : List Tok) : Prop where
  noLayer : r.2.layer? = none
  sub : Sub s r.1
  called : ∀ t ∈ D, t.once = true
  toks : r.1.lc.core.toks = s.lc.core.toks ++ D

/-- `Resolve` of `name` handed out layer `lid` with the caller's new closure `tok`; `D` as in `Failed`. -/
structure Handed (s : State) (name : Nat) (o : Oracle) (r : State × Out) (lid tok : Nat) (D : List Tok) : Prop where
  cached : r.1.lc.m name = some lid
  origin : (r.2 = .hit lid tok ∧ s.lc.m name = some lid ∧ o.lchk = true) ∨
    (r.2 = .fresh lid tok ∧ lid = s.layers.length)
  called : ∀ t ∈ D, t.once = true
  tok : tok = (s.lc.core.toks ++ D).length
  toks : r.1.lc.core.toks = s.lc.core.toks ++ D ++ [{ rc := lid }]

/-- What `Resolve` of `name` guarantees of `r` = (state, result). -/
structure RS (s : State) (name : Nat) (o : Oracle) (r : State × Out) : Prop where
  inv : Inv r.1 none
  other : ∀ k', k' ≠ name → r.1.lc.m k' = s.lc.m k'
  total : r.2.isErr = true ∨ ∃ lid tok, r.2.layer? = some (lid, tok)
  cause : r.2.isErr = true → (r.2 = .errBlob ∧ o.bres = false) ∨ (r.2 = .errMeta ∧ o.mres = false)
  err : r.2.isErr = true → ∃ D, Failed s r D
  ok : ∀ {lid tok : Nat}, r.2.layer? = some (lid, tok) → ∃ D, Handed s name o r lid tok D

/-- `s0` is `s` after the clean-up a `Resolve` of `name` does before it resolves afresh. -/
structure CleanedUp (s s0 : State) (name : Nat) (D0 : List Tok) : Prop where
  vacant : s0.lc.m name = none
  sub : Sub s s0
  called : ∀ t ∈ D0, t.once = true
  toks : s0.lc.core.toks = s.lc.core.toks ++ D0
  other : ∀ k', k' ≠ name → s0.lc.m k' = s.lc.m k'

/-- `Resolve` continued from a state `s0` that the call itself reached from `s` by clean-up only. -/
theorem RS.mono {s s0 : State} {name : Nat} {o : Oracle} {r : State × Out} {D0 : List Tok}
    (h : RS s0 name o r) (c : CleanedUp s s0 name D0) : RS s name o r := by
  have dead : ∀ D : List Tok, (∀ t ∈ D, t.once = true) → ∀ t ∈ D0 ++ D, t.once = true :=
    fun D hD t ht => (List.mem_append.1 ht).elim (c.called t) (hD t)
  refine ⟨h.inv, fun k' hk => (h.other k' hk).trans (c.other k' hk), h.total, h.cause, fun he => ?_, fun hl => ?_⟩
  · obtain ⟨D, f⟩ := h.err he
    exact ⟨D0 ++ D, f.noLayer, c.sub.trans f.sub, dead D f.called, by rw [f.toks, c.toks, List.append_assoc]⟩
  · obtain ⟨D, g⟩ := h.ok hl
    refine ⟨D0 ++ D, g.cached, ?_, dead D g.called, by rw [g.tok, c.toks, List.append_assoc],
      by rw [g.toks, c.toks]; simp only [List.append_assoc]⟩
    rcases g.origin with ⟨_, hc, _⟩ | ⟨hf, hl'⟩
    · rw [c.vacant] at hc; cases hc
    · exact Or.inr ⟨hf, hl'.trans c.sub.nlay⟩

theorem resolveFresh_spec {s : State} (inv : Inv s none) {name : Nat} (hm : s.lc.m name = none) (o : Oracle) :
    RS s name o (resolveFresh s name o) := by
  have rb := resolveBlob_spec inv name o
  unfold resolveFresh
  cases hrb : resolveBlob s name o with
  | mk s1 ob =>
    rw [hrb] at rb
    have e1 : s1.lc = s.lc := rb.lc
    have e2 : s1.layers = s.layers := rb.layers
    cases ob with
    | none =>
      obtain ⟨hb, inv1, -, -⟩ := rb.fail rfl
      exact ⟨inv1, fun _ _ => by rw [e1], Or.inl rfl, fun _ => Or.inl ⟨rfl, hb⟩,
        fun _ => ⟨[], rfl, (rb.failSide rfl).sub, nofun, by rw [e1, List.append_nil]⟩, nofun⟩
    | some btok =>
      obtain ⟨inv1, -, -⟩ := rb.ok btok rfl
      cases hmr : o.mres with
      | false =>
        -- deferred `fsCache.Close(); blobR.done(true)`: the directory made for the layer goes again, so the
        -- closure is called in the very state `resolveBlob` left
        simp only [Bool.not_false, if_true, Int.add_sub_cancel]
        have side := rb.okSide (btok := btok) rfl
        exact ⟨inv1.bcDonePending, fun _ _ => by rw [side.lc], Or.inl rfl, fun _ => Or.inr ⟨rfl, hmr⟩,
          fun _ => ⟨[], rfl, side.sub, nofun, by rw [side.lc, List.append_nil]⟩, nofun⟩
      | true =>
        simp only [Bool.not_true, Bool.false_eq_true, if_false]
        have hm1 : s1.lc.m name = none := by rw [e1]; exact hm
        have a := TTL.add_vacant_spec s1.layers.length hm1
        rw [show s1.lc.add name s1.layers.length =
            ((s1.lc.add name s1.layers.length).1, .got s1.layers.length s1.lc.core.toks.length true) from
          Prod.ext rfl a.res]
        simp only [if_true]
        have hlen : s1.lc.core.rcs.length = s1.layers.length := by rw [e1, e2]; exact inv.l.link.len
        refine ⟨inv1.addLayer hm1, fun k' hk => (a.other k' hk).trans (by rw [e1]),
          Or.inr ⟨_, _, rfl⟩, nofun, nofun, fun hl => ?_⟩
        cases hl
        exact ⟨[], a.self.trans (congrArg some hlen), Or.inr ⟨rfl, congrArg List.length e2⟩, nofun,
          by rw [List.append_nil, e1], a.toks.trans (by rw [hlen, List.append_nil, e1])⟩

theorem resolve_miss {s : State} {name : Nat} (o : Oracle) (hm : s.lc.m name = none) :
    resolve s name o = resolveFresh s name o := by
  simp [resolve, TTL.get_vacant hm]

/-- The state in which `Resolve` continues after the cached layer failed its check. -/
def afterBadCheck (s : State) (name a : Nat) : State :=
  lcEvict (lcDone { s with lc := { s.lc with core := s.lc.core.newTok a } } s.lc.core.toks.length true) name

theorem resolve_hit {s : State} (inv : Inv s none) {name a : Nat} (o : Oracle) (hm : s.lc.m name = some a) :
    resolve s name o =
      if o.lchk then
        ({ s with lc := { s.lc with core := s.lc.core.newTok a } }, .hit a s.lc.core.toks.length)
      else resolveFresh (afterBadCheck s name a) name o := by
  obtain ⟨_, r, c, _⟩ := cached_open inv.l.reach inv.l.link hm
  have hval : s.lc.core.valOf a = a := by rw [valOf_of c.rc, c.val]
  have hchk : ∀ probe, layerCheck { s with lc := { s.lc with core := s.lc.core.newTok a } } a probe = probe :=
    fun probe => layerCheck_cached (inv.getLayer hm) (k := name) hm probe
  simp only [resolve, TTL.get_cached hm, hval, hchk, afterBadCheck]

theorem afterBadCheck_spec {s : State} (inv : Inv s none) {name a : Nat} (hm : s.lc.m name = some a) :
    Inv (afterBadCheck s name a) none ∧ CleanedUp s (afterBadCheck s name a) name [{ rc := a, once := true }] := by
  have ht : ({ s with lc := { s.lc with core := s.lc.core.newTok a } } : State).lc.core.toks[s.lc.core.toks.length]?
      = some { rc := a } := List.getElem?_concat_length
  unfold afterBadCheck
  refine ⟨((inv.getLayer hm).lcDone _ _).lcEvict name, ?_, ?_, by simp, ?_, ?_⟩
  · rw [lcEvict_lc]; exact TTL.evictLocked_none_self _ _
  · exact (sub_setLc s (t' := { s.lc with core := s.lc.core.newTok a }) (fun _ _ h => h)).trans
      ((sub_lcDone _ s.lc.core.toks.length true).trans (sub_lcEvict _ name))
  · rw [lcEvict_lc, TTL.evictLocked_toks, lcDone_toks true ht]
    simp
  · intro k' hne
    rw [lcEvict_lc, TTL.evictLocked_m_other _ hne, lcDone_lc]
    exact (inv.l.reach.getHit hm).done_m_other ht hm hne

theorem resolve_spec {s : State} (inv : Inv s none) (name : Nat) (o : Oracle) :
    RS s name o (resolve s name o) := by
  cases hm : s.lc.m name with
  | none => rw [resolve_miss o hm]; exact resolveFresh_spec inv hm o
  | some a =>
    rw [resolve_hit inv o hm]
    cases hc : o.lchk with
    | true =>
      refine ⟨inv.getLayer hm, fun _ _ => rfl, Or.inr ⟨_, _, rfl⟩, nofun, nofun, fun hl => ?_⟩
      cases hl
      exact ⟨[], hm, Or.inl ⟨rfl, hm, hc⟩, nofun, by rw [List.append_nil], by rw [List.append_nil]; rfl⟩
    | false =>
      obtain ⟨inv3, c⟩ := afterBadCheck_spec inv hm
      exact (resolveFresh_spec inv3 c.vacant o).mono c

theorem Inv.resolve {s : State} (inv : Inv s none) (name : Nat) (o : Oracle) : Inv (resolve s name o).1 none :=
  (resolve_spec inv name o).inv

/-! ## steps and histories -/

theorem step_done_fst (s : State) (tok : Nat) (e : Bool) : (step s (.done tok e)).1 = lcDone s tok e := by
  simp only [step, lcDone]; split <;> rfl

theorem Inv.step {s : State} (inv : Inv s none) (op : Op) : Inv (step s op).1 none := by
  cases op with
  | resolve n o => exact inv.resolve n o
  | done tok e => rw [step_done_fst]; exact inv.lcDone tok e
  | expireL n => exact inv.lcEvict n
  | expireB n => exact inv.bcEvict n
  | refresh tok reg => exact inv
  | read tok => exact inv
  | readOld tok => exact inv

theorem Inv.runFrom (ops : List Op) {s : State} (h : Inv s none) : Inv (runFrom s ops) none :=
  List.foldlRecOn (motive := (Inv · none)) ops _ h fun _ h o _ => h.step o

theorem Inv.run (ops : List Op) : Inv (run ops) none := Inv.runFrom ops Inv.init

/-! ## consequences -/

/-- The operations that can take the layer cached under `name` out of the cache: its timer, an
evicting release (`Close`) and a `Resolve` of that name whose connectivity check fails. -/
def mayEvict (name : Nat) : Op → Bool
  | .expireL n => n == name
  | .done _ e => e
  | .resolve n o => n == name && !o.lchk
  | _ => false

theorem keeps_entry {s : State} (inv : Inv s none) {name a : Nat} (hm : s.lc.m name = some a) {op : Op}
    (h : mayEvict name op = false) : (step s op).1.lc.m name = some a := by
  cases op with
  | resolve n o =>
    simp only [SV.LayerLife.step]
    by_cases e : n = name
    · subst e
      have hl : o.lchk = true := by simpa [mayEvict] using h
      rw [resolve_hit inv o hm, hl, if_pos rfl]
      exact hm
    · rw [(resolve_spec inv n o).other name (Ne.symm e)]; exact hm
  | done tok e =>
    have he : e = false := by simpa [mayEvict] using h
    subst he
    rw [step_done_fst, lcDone_lc, TTL.done_false_eq]; exact hm
  | expireL n =>
    have hn : name ≠ n := by
      intro e; subst e; simp [mayEvict] at h
    simp only [SV.LayerLife.step]
    rw [lcEvict_lc, TTL.evictLocked_m_other _ hn]; exact hm
  | expireB n => simp only [SV.LayerLife.step]; rw [(bcEvict_side s n).lc]; exact hm
  | refresh tok reg => exact hm
  | read tok => exact hm
  | readOld tok => exact hm

theorem keeps_entry_run {name a : Nat} (ops : List Op) {s : State} (inv : Inv s none) (hm : s.lc.m name = some a)
    (h : ∀ op ∈ ops, mayEvict name op = false) : (runFrom s ops).lc.m name = some a :=
  (List.foldlRecOn (motive := fun s => Inv s none ∧ s.lc.m name = some a) ops _ ⟨inv, hm⟩
    fun _ hs o ho => ⟨hs.1.step o, keeps_entry hs.1 hs.2 (h o ho)⟩).2

theorem blob_unheld {s : State} (inv : Inv s none) {bid : Nat}
    (h : ∀ (i : Nat) (l : Layer), s.layers[i]? = some l → blobOfTok s l.blobTok = some bid → l.closed = true) :
    held s.bc.core.toks bid = 0 := by
  rw [held, List.countP_eq_zero]
  intro t hmem ht
  obtain ⟨tok, htok⟩ := List.getElem?_of_mem hmem
  have hrc : t.rc = bid := by simp at ht; exact ht.1
  have ho : t.once = false := by simp at ht; exact ht.2
  obtain ⟨i, l, hl, hbt, hc⟩ := inv.x.owner htok ho
  obtain ⟨_, r, c⟩ := held_open inv.b.reach inv.b.link htok ho
  have : blobOfTok s l.blobTok = some bid := by
    subst hrc
    simp [blobOfTok, hbt, htok, valOf_of c.rc, c.val]
  rw [h i l hl this] at hc; cases hc

end SV.LayerLife
