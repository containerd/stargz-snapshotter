/-
Lemmas for the FUSE node layer model `SV.StoreFs`.  `J`: the invariant of the inode numbers; `Le`: what
go-fuse's tree surgery satisfies (keeps `lm`, inherits `J`); `Reply`, `LmOf`: the shapes of a LOOKUP
handler's answer; `step_spec`, `run_spec`: a request keeps `J` and moves `lm` by at most one LayerManager
operation.
-/
import SV.Model.StoreFs

namespace SV.StoreFs
open SV.Store

theorem idGet_spec (m : IdMap) (i : Nat) (h : idGet m = some i) :
    i ∉ m ∧ 1 ≤ i ∧ i ≤ maxU32 ∧ ∀ j, 1 ≤ j → j < i → j ∈ m := by
  unfold idGet at h
  split at h
  · rename_i k hk
    split at h
    · cases h
      rename_i hle
      obtain ⟨h1, h2, h3⟩ := List.find?_range'_eq_some.mp hk
      refine ⟨of_decide_eq_true h1, (List.mem_range'_1.mp h2).1, hle, fun j hj1 hji => ?_⟩
      have := h3 j hj1 hji
      exact Classical.byContradiction fun hn => by rw [decide_eq_true hn] at this; cases this
    · cases h
  · cases h

theorem idRemove_spec (m : IdMap) (id j : Nat) : j ∈ idRemove m id ↔ j ∈ m ∧ j ≠ id := by
  unfold idRemove; simp

theorem diffIno_inj (a b : Nat) (h : diffIno a = diffIno b) : a = b := by
  unfold diffIno at h; omega

theorem diffIno_big (b : Nat) (hb : 1 ≤ b) : maxU32 < diffIno b := by
  unfold diffIno maxU32; omega

/-- inode numbers of the nodes that exist are pairwise distinct, allocated in `nodeMap` (`diff`
directories: derived from an allocated `layerMap` id), and the bridge never found two inodes under
one StableAttr. -/
structure J (s : St) : Prop where
  alloc : ∀ n, n ∈ s.nodes → n.kind.isDiff = false → n.ino ∈ s.nodeMap
  small : ∀ i, i ∈ s.nodeMap → i ≤ maxU32
  npos : ∀ i, i ∈ s.nodeMap → 1 ≤ i
  diffI : ∀ n, n ∈ s.nodes → n.kind.isDiff = true → ∃ b, n.ino = diffIno b ∧ b ∈ s.layerMap
  lpos : ∀ b, b ∈ s.layerMap → 1 ≤ b
  uniq : s.nodes.Pairwise (fun a b => a.ino ≠ b.ino)
  idlt : ∀ n, n ∈ s.nodes → n.id < s.nextId
  noclash : s.clash = false

theorem J_init : J init :=
  ⟨fun _ h => (nomatch h), fun _ h => (nomatch h), fun _ h => (nomatch h), fun _ h => (nomatch h),
   fun _ h => (nomatch h), List.Pairwise.nil, fun _ h => (nomatch h), rfl⟩

theorem pw_inj (l : List Node) (h : l.Pairwise (fun a b => a.ino ≠ b.ino)) (a b : Node)
    (ha : a ∈ l) (hb : b ∈ l) (e : a.ino = b.ino) : a = b := by
  induction l with
  | nil => cases ha
  | cons x xs ih =>
    rw [List.pairwise_cons] at h
    rcases List.mem_cons.mp ha with rfl | ha' <;> rcases List.mem_cons.mp hb with rfl | hb'
    · rfl
    · exact absurd e (h.1 b hb')
    · exact absurd e.symm (h.1 a ha')
    · exact ih h.2 ha' hb'

theorem ino_fresh (s : St) (hJ : J s) (i : Nat) (hi : i ∉ s.nodeMap) (hle : i ≤ maxU32) (m : Node)
    (hm : m ∈ s.nodes) : m.ino ≠ i := by
  intro e
  cases hd : m.kind.isDiff with
  | false => exact hi (e ▸ hJ.alloc m hm hd)
  | true =>
    obtain ⟨b, hb, hbm⟩ := hJ.diffI m hm hd
    have := diffIno_big b (hJ.lpos b hbm)
    omega

theorem J_lm (s : St) (x : Store.St) (hJ : J s) : J { s with lm := x } := { hJ with }

theorem J_lmap (s : St) (b : Nat) (hb : 1 ≤ b) (hJ : J s) : J { s with layerMap := b :: s.layerMap } :=
  { hJ with
    diffI := fun n hn hk => by
      obtain ⟨b', e, hb'⟩ := hJ.diffI n hn hk
      exact ⟨b', e, List.mem_cons_of_mem _ hb'⟩
    lpos := fun b' hb' => by
      rcases List.mem_cons.mp hb' with rfl | h
      · exact hb
      · exact hJ.lpos b' h }

theorem J_nmap (s : St) (i : Nat) (h1 : 1 ≤ i) (hle : i ≤ maxU32) (hJ : J s) :
    J { s with nodeMap := i :: s.nodeMap } :=
  { hJ with
    alloc := fun n hn hk => List.mem_cons_of_mem _ (hJ.alloc n hn hk)
    small := fun j hj => by
      rcases List.mem_cons.mp hj with rfl | h
      · exact hle
      · exact hJ.small j h
    npos := fun j hj => by
      rcases List.mem_cons.mp hj with rfl | h
      · exact h1
      · exact hJ.npos j h }

theorem J_free (s : St) (i : Nat) (h : ∀ n, n ∈ s.nodes → n.ino ≠ i) (hJ : J s) :
    J { s with nodeMap := idRemove s.nodeMap i } :=
  { hJ with
    alloc := fun n hn hk => (idRemove_spec ..).2 ⟨hJ.alloc n hn hk, h n hn⟩
    small := fun j hj => hJ.small j ((idRemove_spec ..).1 hj).1
    npos := fun j hj => hJ.npos j ((idRemove_spec ..).1 hj).1 }

/-- all that `J` reads of a node. -/
structure SameIdent (a b : Node) : Prop where
  id : a.id = b.id
  kind : a.kind = b.kind
  ino : a.ino = b.ino

theorem J_nodes (s : St) (ns : List Node) (hJ : J s)
    (hsub : ∀ n, n ∈ ns → ∃ m, m ∈ s.nodes ∧ SameIdent n m)
    (hpw : ns.Pairwise (fun a b => a.ino ≠ b.ino)) : J { s with nodes := ns } :=
  { hJ with
    alloc := fun n hn hk => by
      obtain ⟨m, hm, e⟩ := hsub n hn
      rw [e.ino]; exact hJ.alloc m hm (e.kind ▸ hk)
    diffI := fun n hn hk => by
      obtain ⟨m, hm, e⟩ := hsub n hn
      rw [e.ino]; exact hJ.diffI m hm (e.kind ▸ hk)
    uniq := hpw
    idlt := fun n hn => by
      obtain ⟨m, hm, e⟩ := hsub n hn
      rw [e.id]; exact hJ.idlt m hm }

def KeepsIdent (f : Node → Node) : Prop := ∀ n, SameIdent (f n) n

/-- What each piece of go-fuse's tree surgery satisfies, so that the pieces compose: `s'` has the
LayerManager of `s` and satisfies `J` if `s` does (despite the name no order on states is meant). -/
structure Le (s s' : St) : Prop where
  lm : s'.lm = s.lm
  j : J s → J s'

theorem Le.refl (s : St) : Le s s := ⟨rfl, id⟩

theorem Le.trans {a b c : St} (h1 : Le a b) (h2 : Le b c) : Le a c :=
  ⟨h2.lm.trans h1.lm, fun h => h2.j (h1.j h)⟩

theorem le_map (s : St) (f : Node → Node) (hf : KeepsIdent f) : Le s { s with nodes := s.nodes.map f } :=
  ⟨rfl, fun hJ => J_nodes s _ hJ
    (fun n hn => by
      obtain ⟨m, hm, rfl⟩ := List.mem_map.mp hn
      exact ⟨m, hm, hf m⟩)
    (by
      rw [List.pairwise_map]
      exact hJ.uniq.imp fun {a b} h => by rw [(hf a).ino, (hf b).ino]; exact h)⟩

theorem le_upd (s : St) (i : Nat) (f : Node → Node) (hf : KeepsIdent f) :
    Le s { s with nodes := upd s.nodes i f } :=
  le_map s _ fun n => by
    split
    · exact hf n
    · exact ⟨rfl, rfl, rfl⟩

theorem le_filter (s : St) (p : Node → Bool) : Le s { s with nodes := s.nodes.filter p } :=
  ⟨rfl, fun hJ => J_nodes s _ hJ
    (fun n hn => ⟨n, (List.mem_filter.mp hn).1, rfl, rfl, rfl⟩)
    (hJ.uniq.sublist List.filter_sublist)⟩

/-- dropping node `n0` and running its `OnForget` (with a copy `n'` that has the same inode
number) keeps the invariant: no other node has that number. -/
theorem le_drop_forget (s : St) (n0 n' : Node) (h0 : n0 ∈ s.nodes) (hi : n'.ino = n0.ino) :
    Le s (onForget { s with nodes := dropNode s.nodes n0.id } n') := by
  have hF := le_filter s (fun n => n.id != n0.id)
  unfold onForget
  split
  · exact hF
  · refine ⟨rfl, fun hJ => J_free _ _ (fun n hn e => ?_) (hF.j hJ)⟩
    have hmem := List.mem_filter.mp hn
    have := pw_inj s.nodes hJ.uniq n n0 hmem.1 h0 (e.trans hi)
    exact (bne_iff_ne.mp hmem.2) (congrArg Node.id this)

theorem node?_mem (s : St) (i : Nat) (n : Node) (h : node? s i = some n) : n ∈ s.nodes ∧ n.id = i := by
  unfold node? at h
  exact ⟨List.mem_of_find?_eq_some h, by simpa using List.find?_some h⟩

theorem keepsIdent_rr (nl : Nat) (drop : Bool) : KeepsIdent (rrF nl drop) := by
  intro n; unfold rrF
  split
  · exact ⟨rfl, rfl, rfl⟩
  · split <;> exact ⟨rfl, rfl, rfl⟩

theorem removeRefInner_le (s : St) (i nl : Nat) (drop : Bool) (r : RR)
    (h : removeRefInner s i nl drop = some r) :
    Le s r.s ∧ ∀ n', r.dropped = some n' → Le s (onForget r.s n') := by
  unfold removeRefInner at h
  cases hn : node? s i with
  | none => rw [hn] at h; cases h
  | some n =>
    rw [hn] at h
    obtain ⟨hmem, hid⟩ := node?_mem s i n hn
    dsimp only at h
    split at h
    · cases h
      exact ⟨le_upd s i _ (keepsIdent_rr nl drop), fun _ h => nomatch h⟩
    · cases h
      refine ⟨le_filter s _, fun n' hn' => ?_⟩
      cases hn'
      exact hid ▸ le_drop_forget s n _ hmem (keepsIdent_rr nl drop n).ino

theorem onForget_fields (s : St) (n : Node) :
    (onForget s n).lm = s.lm ∧ (onForget s n).layerMap = s.layerMap ∧
    (onForget s n).nextId = s.nextId ∧ (onForget s n).clash = s.clash ∧
    (onForget s n).nodes = s.nodes := by
  unfold onForget; split <;> simp

theorem cascade_le (f : Nat) (s : St) (u : Option Nat) : Le s (cascade f s u) := by
  induction f generalizing s u with
  | zero => cases u <;> exact Le.refl s
  | succ f ih =>
    cases u with
    | none => exact Le.refl s
    | some p =>
      unfold cascade
      cases hr : removeRefInner s p 0 false with
      | none => exact Le.refl s
      | some r =>
        obtain ⟨h1, h2⟩ := removeRefInner_le s p 0 false r hr
        dsimp only
        cases hd : r.dropped with
        | none => exact h1
        | some pn => exact (h2 pn hd).trans (ih _ _)

theorem removeRef_le (s : St) (i nl : Nat) (drop : Bool) : Le s (removeRef s i nl drop) := by
  unfold removeRef
  cases hr : removeRefInner s i nl drop with
  | none => exact Le.refl s
  | some r =>
    obtain ⟨h1, h2⟩ := removeRefInner_le s i nl drop r hr
    dsimp only
    cases hd : r.dropped with
    | none => exact h1
    | some n =>
      dsimp only
      split
      · exact (h2 n hd).trans (cascade_le _ _ _)
      · exact h1.trans (cascade_le _ _ _)

theorem rmChild_le (s : St) (p : Nat) (nm : Name) : Le s (rmChild s p nm) := by
  unfold rmChild
  cases hc : child? s.nodes p nm with
  | none => exact Le.refl s
  | some c =>
    have h1 : Le s { s with nodes := upd s.nodes c.id (fun n => { n with parent := none }) } :=
      le_upd s c.id _ (fun n => ⟨rfl, rfl, rfl⟩)
    dsimp only
    split
    · exact h1
    · split
      · exact h1
      · split
        · exact h1
        · exact h1.trans (removeRef_le _ _ _ _)

theorem rmAll_le (f : Nat) (s : St) (i : Nat) : Le s (rmAll f s i) := by
  induction f generalizing s i with
  | zero => exact removeRef_le s i 0 true
  | succ f ih =>
    unfold rmAll
    exact (List.foldlRecOn (motive := Le s) _ _ (Le.refl s)
      fun s' h c _ => h.trans ((ih s' c.id).trans (rmChild_le _ _ _))).trans (removeRef_le _ _ _ _)

theorem rmdirCleanup_le (s : St) (p : Nat) (nm : Name) : Le s (rmdirCleanup s p nm) := by
  unfold rmdirCleanup
  have h1 : Le s (match child? s.nodes p nm with
      | some cn => rmChild (rmAll 2 s cn.id) p nm
      | none => s) := by
    split
    · exact (rmAll_le _ _ _).trans (rmChild_le _ _ _)
    · exact Le.refl _
  have key : ∀ s1, Le s s1 → Le s (if (childrenOf s1.nodes p).isEmpty then rmAll 1 s1 p else s1) := by
    intro s1 h
    split
    · exact h.trans (rmAll_le _ _ _)
    · exact h
  exact key _ h1

theorem addChild_fields (s : St) (p : Nat) (nm : Name) (c : Node) :
    (addChild s p nm c).1.lm = s.lm ∧ (addChild s p nm c).2 = .entry c.id c.ino := ⟨rfl, rfl⟩

theorem addChild_nextId (s : St) (p : Nat) (nm : Name) (c : Node) :
    (addChild s p nm c).1.nextId = s.nextId := by
  unfold addChild; rfl

theorem clashWith_false (ns : List Node) (c : Node) (h : ∀ m, m ∈ ns → m.ino = c.ino → m.id = c.id) :
    clashWith ns c = false := by
  unfold clashWith
  rw [List.any_eq_false]
  intro m hm hh
  simp only [Bool.and_eq_true, bne_iff_ne, ne_eq, beq_iff_eq] at hh
  exact hh.1.1.1 (h m hm hh.1.2)

theorem addChild_old (s : St) (p : Nat) (nm : Name) (c : Node) (hc : c ∈ s.nodes) (hJ : J s) :
    J (addChild s p nm c).1 := by
  unfold addChild
  dsimp only
  have hany : (s.nodes.any fun m => m.id == c.id) = true :=
    List.any_eq_true.2 ⟨c, hc, beq_self_eq_true _⟩
  have hcl := clashWith_false s.nodes c fun m hm e => congrArg Node.id (pw_inj s.nodes hJ.uniq m c hm hc e)
  rw [if_pos hany, hcl, hJ.noclash]
  have hJ' := (le_upd s c.id _ (fun _ => ⟨rfl, rfl, rfl⟩ : KeepsIdent (relink p nm))).j hJ
  exact { hJ' with noclash := rfl }

theorem addChild_new (s : St) (p : Nat) (nm : Name) (c : Node) (hJ : J s)
    (hid : c.id = s.nextId) (hfresh : ∀ m, m ∈ s.nodes → m.ino ≠ c.ino)
    (ha : c.kind.isDiff = false → c.ino ∈ s.nodeMap)
    (hd : c.kind.isDiff = true → ∃ b, c.ino = diffIno b ∧ b ∈ s.layerMap) :
    J (addChild { s with nextId := s.nextId + 1 } p nm c).1 := by
  unfold addChild
  dsimp only
  have hany : ¬ (s.nodes.any fun m => m.id == c.id) = true := by
    rw [List.any_eq_true]
    rintro ⟨m, hm, he⟩
    have := hJ.idlt m hm
    have e : m.id = c.id := by simpa using he
    omega
  have hcl := clashWith_false s.nodes c fun m hm e => absurd e (hfresh m hm)
  rw [if_neg hany, hcl, hJ.noclash]
  have new : ∀ n, n ∈ s.nodes ++ [relink p nm c] → n ∈ s.nodes ∨ n = relink p nm c := fun n hn =>
    (List.mem_append.mp hn).imp_right List.mem_singleton.mp
  constructor
  · intro n hn hk
    rcases new n hn with h | rfl
    · exact hJ.alloc n h hk
    · exact ha hk
  · exact hJ.small
  · exact hJ.npos
  · intro n hn hk
    rcases new n hn with h | rfl
    · exact hJ.diffI n h hk
    · exact hd hk
  · exact hJ.lpos
  · show (s.nodes ++ [_]).Pairwise _
    rw [List.pairwise_append]
    refine ⟨hJ.uniq, List.pairwise_singleton _ _, fun a ha' b hb' => ?_⟩
    rw [List.mem_singleton.mp hb']
    exact hfresh a ha'
  · intro n hn
    show n.id < s.nextId + 1
    rcases new n hn with h | rfl
    · exact Nat.lt_succ_of_lt (hJ.idlt n h)
    · exact hid ▸ Nat.lt_succ_self _
  · rfl

theorem newNode_J (s : St) (p : Nat) (nm : Name) (k : Kind) (hk : k.isDiff = false) (hJ : J s) :
    J (newNode s p nm k).1 := by
  unfold newNode
  cases hg : idGet s.nodeMap with
  | none => exact hJ
  | some id =>
    obtain ⟨hnm, h1, hle, _⟩ := idGet_spec _ _ hg
    exact addChild_new { s with nodeMap := id :: s.nodeMap } p nm ⟨s.nextId, k, id, 0, true, none, nm⟩
      (J_nmap s id h1 hle hJ) rfl (ino_fresh s hJ id hnm hle) (fun _ => List.mem_cons_self ..)
      (fun h => nomatch hk.symm.trans h)

theorem diffNode_J (s : St) (p : Nat) (nm : Name) (b : Nat) (hJ : J s) (hg : idGet s.layerMap = some b) :
    J (addChild { s with layerMap := b :: s.layerMap, nextId := s.nextId + 1 } p nm
        ⟨s.nextId, .diff b, diffIno b, 0, true, none, nm⟩).1 := by
  obtain ⟨hnm, h1, _, _⟩ := idGet_spec _ _ hg
  refine addChild_new { s with layerMap := b :: s.layerMap } p nm
    ⟨s.nextId, .diff b, diffIno b, 0, true, none, nm⟩ (J_lmap s b h1 hJ) rfl (fun m hm e => ?_)
    (fun h => nomatch h) (fun _ => ⟨b, rfl, List.mem_cons_self ..⟩)
  cases hd : m.kind.isDiff with
  | false =>
    have := hJ.small _ (hJ.alloc m hm hd)
    have := diffIno_big b h1
    have e' : m.ino = diffIno b := e
    omega
  | true =>
    obtain ⟨b', hb, hbm⟩ := hJ.diffI m hm hd
    exact hnm (diffIno_inj _ _ (hb.symm.trans e) ▸ hbm)

theorem newNode_cases (s : St) (p : Nat) (nm : Name) (k : Kind) :
    (newNode s p nm k).1.lm = s.lm ∧
    ((newNode s p nm k = (s, .eio)) ∨ ∃ i ino, (newNode s p nm k).2 = .entry i ino) := by
  unfold newNode
  split
  · exact ⟨rfl, Or.inl rfl⟩
  · exact ⟨rfl, Or.inr ⟨_, _, rfl⟩⟩

/-- What a LOOKUP handler does to the state `s` once the LayerManager has answered (leaving `lm`):
an error reply, an entry for a child that exists, for a new node, or for a new `diff` directory
(whose `layerMap` id stays allocated when the layer turns out to be closed). -/
inductive Reply (s : St) (lm : Store.St) : St × Res → Prop
  | error (e : Res) (he : ∀ i ino, e ≠ .entry i ino) : Reply s lm ({ s with lm := lm }, e)
  | known (p : Nat) (nm : Name) (c : Node) (hc : c ∈ s.nodes) :
      Reply s lm (addChild { s with lm := lm } p nm c)
  | fresh (p : Nat) (nm : Name) (k : Kind) (hk : k.isDiff = false) :
      Reply s lm (newNode { s with lm := lm } p nm k)
  | closed (b : Nat) (hb : idGet s.layerMap = some b) :
      Reply s lm ({ s with lm := lm, layerMap := b :: s.layerMap }, .eio)
  | diff (p : Nat) (nm : Name) (b : Nat) (hb : idGet s.layerMap = some b) :
      Reply s lm (addChild { s with lm := lm, layerMap := b :: s.layerMap, nextId := s.nextId + 1 }
        p nm ⟨s.nextId, .diff b, diffIno b, 0, true, none, nm⟩)

theorem reply_inv {s : St} {lm : Store.St} {x : St × Res} (h : Reply s lm x) (hJ : J s) : J x.1 := by
  cases h with
  | error e he => exact J_lm s lm hJ
  | known p nm c hc => exact addChild_old { s with lm := lm } p nm c hc (J_lm s lm hJ)
  | fresh p nm k hk => exact newNode_J { s with lm := lm } p nm k hk (J_lm s lm hJ)
  | closed b hb => exact J_lmap { s with lm := lm } b (idGet_spec _ _ hb).2.1 (J_lm s lm hJ)
  | diff p nm b hb => exact diffNode_J { s with lm := lm } p nm b (J_lm s lm hJ) hb

theorem reply_lm {s : St} {lm : Store.St} {x : St × Res} (h : Reply s lm x) : x.1.lm = lm := by
  cases h with
  | fresh p nm k hk => exact (newNode_cases _ p nm k).1
  | _ => rfl

theorem reply_failed {s : St} {lm : Store.St} {x : St × Res} (h : Reply s lm x)
    (hf : ∀ i ino, x.2 ≠ .entry i ino) : x.1.nodes = s.nodes ∧ x.1.nodeMap = s.nodeMap := by
  cases h with
  | error e he => exact ⟨rfl, rfl⟩
  | known p nm c hc => exact absurd rfl (hf _ _)
  | fresh p nm k hk =>
    rcases (newNode_cases { s with lm := lm } p nm k).2 with e | ⟨i, ino, e⟩
    · rw [e]; exact ⟨rfl, rfl⟩
    · exact absurd e (hf i ino)
  | closed b hb => exact ⟨rfl, rfl⟩
  | diff p nm b hb => exact absurd rfl (hf _ _)

theorem rootLookup_reply (s : St) (nm : Name) : Reply s s.lm (rootLookup s nm) := by
  unfold rootLookup
  cases hc : child? s.nodes rootId nm with
  | some cn =>
    have hm := List.mem_of_find?_eq_some hc
    dsimp only
    split
    · exact .known rootId nm cn hm
    · exact .known rootId nm cn hm
    · exact .error .eio nofun
  | none =>
    dsimp only
    split
    · exact .fresh rootId .pool .pool rfl
    · exact .fresh rootId _ (.ref _) rfl
    · exact .error .einval nofun

theorem refLookup_reply (s : St) (p r : Nat) (nm : Name) : Reply s s.lm (refLookup s p r nm) := by
  unfold refLookup
  cases hc : child? s.nodes p nm with
  | some cn =>
    dsimp only
    split
    · exact .known p nm cn (List.mem_of_find?_eq_some hc)
    · exact .error .eio nofun
  | none =>
    dsimp only
    split
    · exact .fresh p _ (.layer r _) rfl
    · exact .error .einval nofun

inductive LmOf (T : Truth) (o : Oracle) (lm0 : Store.St) : Store.St → Prop
  | same : LmOf T o lm0 lm0
  | lookup (r t : Nat) : LmOf T o lm0 (Store.lookup T o lm0 r t).1
  | info (r t : Nat) : LmOf T o lm0 (Store.info T o lm0 r t).1

theorem layerLookup_reply (T : Truth) (o : Oracle) (s : St) (p r t : Nat) (nm : Name) :
    ∃ lm, LmOf T o s.lm lm ∧ Reply s lm (layerLookup T o s p r t nm) := by
  unfold layerLookup
  cases hc : child? s.nodes p nm with
  | some cn => exact ⟨_, .same, .known p nm cn (List.mem_of_find?_eq_some hc)⟩
  | none =>
    dsimp only
    split
    · refine ⟨_, .info r t, ?_⟩
      split
      · rename_i h; rw [h]; exact .fresh p _ .info rfl
      · rename_i h; rw [h]; exact .error .eio nofun
    · refine ⟨_, .lookup r t, ?_⟩
      split
      · rename_i h; rw [h]
        split
        · exact .fresh p _ (.blob _) rfl
        · exact .error .eio nofun
      · rename_i h; rw [h]; exact .error .eio nofun
    · refine ⟨_, .lookup r t, ?_⟩
      split
      · rename_i h; rw [h]
        split
        · dsimp only
          split
          · exact .error .eio nofun
          · rename_i b hg
            split
            · exact .closed b hg
            · exact .diff p _ b hg
        · exact .error .eio nofun
      · rename_i h; rw [h]; exact .error .eio nofun
    · exact ⟨_, .same, .error .enoent nofun⟩

theorem lookup_reply (T : Truth) (s : St) (o : Oracle) (p : Nat) (nm : Name) :
    ∃ lm, LmOf T o s.lm lm ∧ Reply s lm (step T s (.lookup o p nm)) := by
  unfold step
  dsimp only
  split
  · exact ⟨_, .same, .error .badreq nofun⟩
  · exact ⟨_, .same, rootLookup_reply s nm⟩
  · split
    · exact ⟨_, .same, refLookup_reply s p _ nm⟩
    · exact layerLookup_reply T o s p _ _ nm
    · exact ⟨_, .same, .error .badreq nofun⟩
    · exact ⟨_, .same, .error .enoent nofun⟩

theorem failed_lookup_tree (T : Truth) (s : St) (o : Oracle) (p : Nat) (nm : Name)
    (hf : ∀ i ino, (step T s (.lookup o p nm)).2 ≠ .entry i ino) :
    (step T s (.lookup o p nm)).1.nodes = s.nodes ∧ (step T s (.lookup o p nm)).1.nodeMap = s.nodeMap := by
  obtain ⟨lm, _, h⟩ := lookup_reply T s o p nm
  exact reply_failed h hf

/-- `s'.lm` is `s.lm`, or `s.lm` after ONE LayerManager operation. -/
def LmStep (T : Truth) (s s' : St) : Prop :=
  s'.lm = s.lm ∨ ∃ op : Store.Op, s'.lm = (Store.step T s.lm op).1

theorem LmOf.step {T : Truth} {o : Oracle} {s s' : St} {lm : Store.St} (h : LmOf T o s.lm lm)
    (e : s'.lm = lm) : LmStep T s s' := by
  cases h with
  | same => exact Or.inl e
  | lookup r t => exact Or.inr ⟨.lookup o r t, e⟩
  | info r t => exact Or.inr ⟨.info o r t, e⟩

theorem le_step_spec {s s' : St} (T : Truth) (h : Le s s') (hJ : J s) : J s' ∧ LmStep T s s' :=
  ⟨h.j hJ, Or.inl h.lm⟩

theorem refRmdir_spec (T : Truth) (s : St) (p r : Nat) (nm : Name) (hJ : J s) :
    J (refRmdir s p r nm).1 ∧ LmStep T s (refRmdir s p r nm).1 := by
  unfold refRmdir
  split
  · rename_i t
    have hstep : (Store.step T s.lm (.release r t)).1 = (Store.release s.lm r t).1 := rfl
    generalize hx : Store.release s.lm r t = q at *
    obtain ⟨lm, res⟩ := q
    cases res <;> dsimp only
    case count c =>
      split
      · have h := rmdirCleanup_le { s with lm := lm } p (.toc t)
        exact ⟨h.j (J_lm s lm hJ), Or.inr ⟨.release r t, h.lm.trans hstep.symm⟩⟩
      · exact ⟨J_lm s lm hJ, Or.inr ⟨.release r t, hstep.symm⟩⟩
    all_goals exact ⟨J_lm s lm hJ, Or.inr ⟨.release r t, hstep.symm⟩⟩
  · exact ⟨hJ, Or.inl rfl⟩

theorem step_spec (T : Truth) (s : St) (op : Op) (hJ : J s) :
    J (step T s op).1 ∧ LmStep T s (step T s op).1 := by
  have same : J s ∧ LmStep T s s := ⟨hJ, Or.inl rfl⟩
  cases op with
  | lookup o p nm =>
    obtain ⟨lm, hlm, h⟩ := lookup_reply T s o p nm
    exact ⟨reply_inv h hJ, hlm.step (reply_lm h)⟩
  | forget i k =>
    simp only [step]
    split
    · split
      · exact le_step_spec T (removeRef_le s i k false) hJ
      · exact same
    · exact same
  | create p nm =>
    simp only [step]
    split
    · exact same
    · exact same
    · split
      · rename_i r t _
        split
        · exact ⟨J_lm s _ hJ, Or.inr ⟨.use r t, rfl⟩⟩
        · exact same
      · exact same
      · exact same
  | rmdir p nm =>
    simp only [step]
    split
    · exact same
    · exact le_step_spec T (rmChild_le s rootId nm) hJ
    · split
      · exact refRmdir_spec T s p _ nm hJ
      · exact same
      · exact le_step_spec T (rmChild_le s p nm) hJ

theorem run_spec (T : Truth) (P : Store.St → Prop) (h0 : P Store.init)
    (hstep : ∀ x op, P x → P (Store.step T x op).1) (h : List Op) :
    J (run T init h) ∧ P (run T init h).lm :=
  h.foldlRecOn (motive := fun s => J s ∧ P s.lm) _ ⟨J_init, h0⟩ fun s hp op _ => by
    obtain ⟨hJ, hl⟩ := step_spec T s op hp.1
    refine ⟨hJ, ?_⟩
    rcases hl with e | ⟨sop, e⟩ <;> rw [e]
    · exact hp.2
    · exact hstep _ sop hp.2

end SV.StoreFs
