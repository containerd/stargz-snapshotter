/-
Defines the vocabulary the C14 statements use (`Reach`, `Missing`, `ReachesCycle`, `PlacedIn`, `StepsOK`, `missedOf`,
`NoLinkCycle`).  Lemmas for the C14 model `SV.Model.Sort`, four parts: `importTar` is "the last entry of a name wins"
(`importTar_eq`); `sortEntries` along `moveRecVisiting_spec` → `sortLoop_spec` → `sortEntries_structure` (which
needs `importTar_keysNodup`), whose `SortOk` (`out_eq`: leading group, landmark, the rest in the order of the tar) is
what the `.ok` theorems of C14 read, the error status of a call being the pure function `resolve`; `moveRecOld`
(on its own); the writer's compressed offsets (`Stretch`; `chunkTags_landmark` needs the landmark lemmas).
-/
import SV.Model.Sort

namespace SV.Sort

/-! ## The tar file, `importTar` -/

theorem get_some {tf : List Entry} {k : Name} {e : Entry} (h : get tf k = some e) :
    e ∈ tf ∧ e.key = k :=
  ⟨List.mem_of_find?_eq_some h, by simpa using List.find?_some h⟩

theorem get_eq_none {tf : List Entry} {k : Name} : get tf k = none ↔ ∀ e ∈ tf, e.key ≠ k := by
  simp [get]

theorem get_isSome_of_mem {tf : List Entry} {e : Entry} (h : e ∈ tf) : (get tf e.key).isSome := by
  cases hg : get tf e.key with
  | some x => rfl
  | none => exact absurd rfl (get_eq_none.mp hg e h)

def KeysNodup (tf : List Entry) : Prop := (tf.map Entry.key).Nodup

theorem KeysNodup.eq_of_key {tf : List Entry} (hn : KeysNodup tf) {x y : Entry} (hx : x ∈ tf)
    (hy : y ∈ tf) (h : x.key = y.key) : x = y := by
  have hp : tf.Pairwise (fun a b => a.key ≠ b.key) := List.pairwise_map.mp hn
  exact List.Pairwise.forall_of_forall_of_flip (R := fun a b => a.key = b.key → a = b)
    (fun _ _ _ => rfl) (hp.imp fun hne h => absurd h hne) (hp.imp fun hne h => absurd h.symm hne)
    hx hy h

theorem KeysNodup.nodup {l : List Entry} (h : KeysNodup l) : l.Nodup :=
  List.Pairwise.of_map Entry.key (fun _ _ hne hab => hne (congrArg Entry.key hab)) h

theorem get_of_mem {tf : List Entry} (hn : KeysNodup tf) {e : Entry} (h : e ∈ tf) :
    get tf e.key = some e := by
  cases hg : get tf e.key with
  | none => exact absurd rfl (get_eq_none.mp hg e h)
  | some x => rw [hn.eq_of_key (get_some hg).1 h (get_some hg).2]

theorem remove_eq_self {tf : List Entry} {k : Name} (h : get tf k = none) : remove tf k = tf :=
  List.filter_eq_self.mpr fun e he => by simpa using get_eq_none.mp h e he

def nonLandmarks (es : List Entry) : List Entry := es.filter (fun e => !isLandmarkKey e.key)

def dedupLast : List Entry → List Entry
  | [] => []
  | e :: es => if es.any (fun x => x.key == e.key) then dedupLast es else e :: dedupLast es

theorem importStep_eq (tf : List Entry) (e : Entry) :
    importStep tf e = if isLandmarkKey e.key then tf else remove tf e.key ++ [e] := by
  unfold importStep
  cases hg : get tf e.key with
  | some x => rfl
  | none => rw [remove_eq_self hg]; rfl

theorem remove_cons (a : Entry) (l : List Entry) (k : Name) :
    remove (a :: l) k = if a.key = k then remove l k else a :: remove l k := by
  by_cases h : a.key = k <;> simp [remove, h]

theorem dedupLast_concat (e : Entry) : ∀ l : List Entry,
    dedupLast (l ++ [e]) = remove (dedupLast l) e.key ++ [e]
  | [] => rfl
  | a :: l => by
    have ih := dedupLast_concat e l
    have hany : (l ++ [e]).any (fun x => x.key == a.key) =
        (l.any (fun x => x.key == a.key) || e.key == a.key) := by simp
    rw [List.cons_append, dedupLast, dedupLast, hany]
    cases l.any (fun x => x.key == a.key) with
    | true => exact ih
    | false =>
      by_cases hk : a.key = e.key
      · simp [hk, remove_cons, ih]
      · have hk' : ¬ e.key = a.key := fun h => hk h.symm
        simp [hk, hk', remove_cons, ih]

theorem nonLandmarks_cons (e : Entry) (es : List Entry) :
    nonLandmarks (e :: es) = if isLandmarkKey e.key then nonLandmarks es else e :: nonLandmarks es := by
  cases h : isLandmarkKey e.key <;> simp [nonLandmarks, h]

theorem foldl_importStep (es : List Entry) : ∀ l : List Entry,
    es.foldl importStep (dedupLast l) = dedupLast (l ++ nonLandmarks es) := by
  induction es with
  | nil => intro l; simp [nonLandmarks]
  | cons e es ih =>
    intro l
    rw [List.foldl_cons, importStep_eq, nonLandmarks_cons]
    cases isLandmarkKey e.key with
    | true => exact ih l
    | false =>
      have := ih (l ++ [e])
      rw [dedupLast_concat, List.append_assoc] at this
      exact this

theorem importTar_eq (es : List Entry) : importTar es = dedupLast (nonLandmarks es) :=
  foldl_importStep es []

theorem dedupLast_sublist : ∀ l : List Entry, (dedupLast l).Sublist l
  | [] => List.Sublist.slnil
  | e :: es => by
    rw [dedupLast]
    split
    · exact (dedupLast_sublist es).cons _
    · exact (dedupLast_sublist es).cons_cons _

theorem mem_dedupLast_cons {a : Entry} {as : List Entry} {x : Entry} :
    x ∈ dedupLast (a :: as) ↔ (x = a ∧ ∀ y ∈ as, y.key ≠ a.key) ∨ x ∈ dedupLast as := by
  rw [dedupLast]
  by_cases hany : as.any (fun y => y.key == a.key) = true
  · rw [if_pos hany]
    obtain ⟨y, hy, hyk⟩ := List.any_eq_true.mp hany
    exact ⟨.inr, fun h => h.resolve_left fun h' => h'.2 y hy (beq_iff_eq.mp hyk)⟩
  · rw [if_neg hany, List.mem_cons]
    have : ∀ y ∈ as, y.key ≠ a.key := fun y hy hk =>
      hany (List.any_eq_true.mpr ⟨y, hy, beq_iff_eq.mpr hk⟩)
    exact ⟨Or.imp_left fun h => ⟨h, this⟩, Or.imp_left And.left⟩

theorem mem_dedupLast_iff {l : List Entry} {e : Entry} :
    e ∈ dedupLast l ↔ ∃ pre post, l = pre ++ e :: post ∧ ∀ x ∈ post, x.key ≠ e.key := by
  induction l with
  | nil => simp [dedupLast]
  | cons a as ih =>
    rw [mem_dedupLast_cons, ih]
    constructor
    · rintro (⟨rfl, hp⟩ | ⟨pre, post, rfl, hp⟩)
      · exact ⟨[], as, rfl, hp⟩
      · exact ⟨a :: pre, post, rfl, hp⟩
    · rintro ⟨pre, post, hl, hp⟩
      cases pre with
      | nil => cases hl; exact .inl ⟨rfl, hp⟩
      | cons b pre => cases hl; exact .inr ⟨pre, post, rfl, hp⟩

theorem mem_dedupLast_key {l : List Entry} {e : Entry} (h : e ∈ l) :
    ∃ x ∈ dedupLast l, x.key = e.key := by
  induction l generalizing e with
  | nil => cases h
  | cons a as ih =>
    -- a later entry of the same name decides; otherwise `e` is the head, and the head survives
    by_cases hany : as.any (fun y => y.key == e.key) = true
    · obtain ⟨y, hy, hyk⟩ := List.any_eq_true.mp hany
      obtain ⟨x, hx, hxk⟩ := ih hy
      exact ⟨x, mem_dedupLast_cons.mpr (.inr hx), hxk.trans (beq_iff_eq.mp hyk)⟩
    · have hlast : ∀ y ∈ as, y.key ≠ e.key := fun y hy hk =>
      hany (List.any_eq_true.mpr ⟨y, hy, beq_iff_eq.mpr hk⟩)
      obtain rfl : e = a := (List.mem_cons.mp h).resolve_right fun h' => hlast e h' rfl
      exact ⟨e, mem_dedupLast_cons.mpr (.inl ⟨rfl, hlast⟩), rfl⟩

theorem dedupLast_keysNodup : ∀ l : List Entry, KeysNodup (dedupLast l)
  | [] => List.Pairwise.nil
  | e :: es => by
    rw [dedupLast]
    split
    · exact dedupLast_keysNodup es
    · rename_i hany
      refine List.nodup_cons.mpr ⟨fun hmem => hany ?_, dedupLast_keysNodup es⟩
      obtain ⟨x, hx, hxk⟩ := List.mem_map.mp hmem
      exact List.any_eq_true.mpr ⟨x, (dedupLast_sublist es).subset hx, beq_iff_eq.mpr hxk⟩

theorem importTar_keysNodup (es : List Entry) : KeysNodup (importTar es) := by
  rw [importTar_eq]; exact dedupLast_keysNodup _

theorem importTar_sublist (es : List Entry) : (importTar es).Sublist es := by
  rw [importTar_eq]
  exact (dedupLast_sublist _).trans List.filter_sublist

theorem importTar_not_landmark {es : List Entry} {e : Entry} (h : e ∈ importTar es) :
    isLandmarkKey e.key = false := by
  rw [importTar_eq] at h
  have := (dedupLast_sublist _).subset h
  unfold nonLandmarks at this
  simpa using (List.mem_filter.mp this).2

theorem filter_landmark_importTar {es l : List Entry} (h : ∀ e ∈ l, e ∈ importTar es) :
    l.filter (fun e => isLandmarkKey e.key) = [] :=
  List.filter_eq_nil_iff.mpr fun e he => by simp [importTar_not_landmark (h e he)]

/-! ## The parent/hardlink graph -/

/-- `Reach inp k d`: placing `k` may touch `d` — `k` itself, and, as long as the name is a non-root
entry of the tar, its parent directory and (for a hardlink) its target, transitively.  This is
exactly the call graph of `moveRec`. -/
inductive Reach (inp : List Entry) : Name → Name → Prop
  | refl (k : Name) : Reach inp k k
  | parent {k d : Name} {e : Entry} :
      k ≠ [] → get inp k = some e → Reach inp k.dropLast d → Reach inp k d
  | link {k d : Name} {e : Entry} :
      k ≠ [] → get inp k = some e → e.isLink = true →
      Reach inp (cleanEntryName e.linkName) d → Reach inp k d

/-- `b` is needed by a prerequisite of the tar entry `a` (its parent directory or hardlink target). -/
def StrictReach (inp : List Entry) (a b : Name) : Prop :=
  a ≠ [] ∧ ∃ e, get inp a = some e ∧
    (Reach inp a.dropLast b ∨ (e.isLink = true ∧ Reach inp (cleanEntryName e.linkName) b))

/-- `k` is needed by one of its own prerequisites: `k` lies on a cycle of the parent/hardlink graph. -/
def SelfReach (inp : List Entry) (k : Name) : Prop := StrictReach inp k k

/-- Placing `k` needs a name that is not in the tar. -/
def Missing (inp : List Entry) (k : Name) : Prop :=
  ∃ d, Reach inp k d ∧ d ≠ [] ∧ get inp d = none

/-- Placing `k` runs into a cycle of the parent/hardlink graph. -/
def ReachesCycle (inp : List Entry) (k : Name) : Prop :=
  ∃ d, Reach inp k d ∧ SelfReach inp d

theorem reach_root {inp : List Entry} {d : Name} (h : Reach inp [] d) : d = [] := by
  cases h with
  | refl => rfl
  | parent hk _ _ => exact absurd rfl hk
  | link hk _ _ _ => exact absurd rfl hk

theorem reach_trans {inp : List Entry} {a b c : Name} (h1 : Reach inp a b) (h2 : Reach inp b c) :
    Reach inp a c := by
  induction h1 with
  | refl => exact h2
  | parent hk hg _ ih => exact Reach.parent hk hg (ih h2)
  | link hk hg hl _ ih => exact Reach.link hk hg hl (ih h2)

theorem Missing.of_found {inp : List Entry} {k : Name} {e : Entry} (hg : get inp k = some e)
    (h : Missing inp k) : Missing inp k.dropLast ∨
      (e.isLink = true ∧ Missing inp (cleanEntryName e.linkName)) := by
  obtain ⟨d, hr, hd, hn⟩ := h
  cases hr with
  | refl => rw [hg] at hn; cases hn
  | parent _ _ hr => exact .inl ⟨d, hr, hd, hn⟩
  | link _ hg' hl hr =>
    rw [hg] at hg'; cases hg'
    exact .inr ⟨hl, d, hr, hd, hn⟩

theorem StrictReach.parent {inp : List Entry} {k d : Name} {e : Entry} (hk : k ≠ [])
    (hg : get inp k = some e) (hr : Reach inp k.dropLast d) : StrictReach inp k d :=
  ⟨hk, e, hg, .inl hr⟩

theorem StrictReach.link {inp : List Entry} {k d : Name} {e : Entry} (hk : k ≠ [])
    (hg : get inp k = some e) (hl : e.isLink = true) (hr : Reach inp (cleanEntryName e.linkName) d) :
    StrictReach inp k d :=
  ⟨hk, e, hg, .inr ⟨hl, hr⟩⟩

theorem StrictReach.elim {inp : List Entry} {a b : Name} {motive : Prop} (h : StrictReach inp a b)
    (parent : ∀ e, a ≠ [] → get inp a = some e → Reach inp a.dropLast b → motive)
    (link : ∀ e, a ≠ [] → get inp a = some e → e.isLink = true →
      Reach inp (cleanEntryName e.linkName) b → motive) : motive := by
  obtain ⟨ha, e, hg, hr | ⟨hl, hr⟩⟩ := h
  · exact parent e ha hg hr
  · exact link e ha hg hl hr

theorem StrictReach.reach {inp : List Entry} {a b : Name} (h : StrictReach inp a b) : Reach inp a b :=
  h.elim (fun _ hk hg => Reach.parent hk hg) fun _ hk hg => Reach.link hk hg

theorem StrictReach.trans {inp : List Entry} {v k d : Name} (h : StrictReach inp v k)
    (hkd : StrictReach inp k d) : StrictReach inp v d :=
  h.elim (fun _ hv hg hr => .parent hv hg (reach_trans hr hkd.reach))
    fun _ hv hg hl hr => .link hv hg hl (reach_trans hr hkd.reach)

theorem Reach.exists_of_edge {inp : List Entry} {P : Name → Prop} {k k' : Name}
    (edge : ∀ {d}, Reach inp k' d → Reach inp k d) (h : ∃ d, Reach inp k' d ∧ P d) :
    ∃ d, Reach inp k d ∧ P d :=
  h.imp fun _ hd => ⟨edge hd.1, hd.2⟩

/-- The parent/hardlink graph of the tar has no cycle: some rank strictly decreases from every
non-root entry to its parent directory and, for a hardlink, to its target. -/
def NoLinkCycle (inp : List Entry) : Prop :=
  ∃ rank : Name → Nat, ∀ k e, k ≠ [] → get inp k = some e →
    rank k.dropLast < rank k ∧ (e.isLink = true → rank (cleanEntryName e.linkName) < rank k)

theorem reach_rank {inp : List Entry} {rank : Name → Nat}
    (hrank : ∀ k e, k ≠ [] → get inp k = some e →
      rank k.dropLast < rank k ∧ (e.isLink = true → rank (cleanEntryName e.linkName) < rank k))
    {k d : Name} (h : Reach inp k d) : rank d ≤ rank k := by
  induction h with
  | refl => exact Nat.le_refl _
  | parent hk hg _ ih => have := (hrank _ _ hk hg).1; omega
  | link hk hg hl _ ih => have := (hrank _ _ hk hg).2 hl; omega

theorem noLinkCycle_of_rank {inp : List Entry} (rank : Name → Nat)
    (h : ∀ e ∈ inp, e.key ≠ [] → rank e.key.dropLast < rank e.key ∧
      (e.isLink = true → rank (cleanEntryName e.linkName) < rank e.key)) : NoLinkCycle inp := by
  refine ⟨rank, fun k e hk hg => ?_⟩
  obtain ⟨hmem, rfl⟩ := get_some hg
  exact h e hmem hk

/-! ## The status of a call: `resolve` -/

/-- The error status of `moveRecVisiting` as a pure function of the tar and the recursion path (it
does not depend on what has been moved already, `MovePost.status`). -/
def resolve (inp : List Entry) : Nat → List Name → Name → Status
  | 0, _, _ => .diverge
  | fuel + 1, vis, k =>
    if k = [] then .ok
    else
      match get inp k with
      | none => .notFound
      | some e =>
        if vis.contains k then .cycle
        else if resolve inp fuel (k :: vis) k.dropLast ≠ .ok then resolve inp fuel (k :: vis) k.dropLast
        else if e.isLink then resolve inp fuel (k :: vis) (cleanEntryName e.linkName) else .ok

theorem resolve_root_eq (inp : List Entry) (f : Nat) (vis : List Name) :
    resolve inp (f + 1) vis [] = .ok := by
  simp [resolve]

theorem resolve_missing_eq {inp : List Entry} {k : Name} (f : Nat) (vis : List Name) (hk : k ≠ [])
    (hg : get inp k = none) : resolve inp (f + 1) vis k = .notFound := by
  simp [resolve, hk, hg]

theorem resolve_cycle_eq {inp : List Entry} {vis : List Name} {k : Name} {e : Entry} (f : Nat)
    (hk : k ≠ []) (hg : get inp k = some e) (hv : k ∈ vis) : resolve inp (f + 1) vis k = .cycle := by
  simp [resolve, hk, hg, hv]

theorem resolve_found_eq {inp : List Entry} {vis : List Name} {k : Name} {e : Entry} (f : Nat)
    (hk : k ≠ []) (hg : get inp k = some e) (hv : k ∉ vis) : resolve inp (f + 1) vis k =
      if resolve inp f (k :: vis) k.dropLast ≠ .ok then resolve inp f (k :: vis) k.dropLast
      else if e.isLink then resolve inp f (k :: vis) (cleanEntryName e.linkName) else .ok := by
  simp [resolve, hk, hg, hv]

/-! The facts about `resolve` go by its functional induction principle: the cases are the branches
of the definition, with the value of the branch in place of the call.  `case1` no fuel, `case2` the
root, `case3` not in the tar, `case4` already on the path, `case5` the parent fails, `case6` the
parent succeeds and the entry is a hardlink, `case7` it succeeds and the entry is no hardlink. -/

theorem resolve_notFound {inp : List Entry} {f vis k} :
    resolve inp f vis k = .notFound → Missing inp k := by
  fun_induction resolve inp f vis k with
  | case1 | case2 | case4 | case7 => intro h; cases h
  | case3 _ _ k hk hg => exact fun _ => ⟨k, Reach.refl _, hk, hg⟩
  | case5 _ _ k hk e hg _ _ ih => exact fun h => Reach.exists_of_edge (Reach.parent hk hg) (ih h)
  | case6 _ _ k hk e hg _ _ hl _ ih => exact fun h => Reach.exists_of_edge (Reach.link hk hg hl) (ih h)

theorem resolve_ok {inp : List Entry} {f vis k} :
    resolve inp f vis k = .ok → ¬ Missing inp k := by
  fun_induction resolve inp f vis k with
  | case1 | case3 | case4 => intro h; cases h
  | case2 => exact fun _ ⟨d, hr, hd, _⟩ => hd (reach_root hr)
  | case5 _ _ k _ _ _ _ h1 => exact fun h => absurd h h1
  | case6 _ _ k hk e hg _ h1 hl ih1 ih2 =>
    exact fun h hm => (hm.of_found hg).elim (ih1 (Decidable.not_not.mp h1)) fun hm' => ih2 h hm'.2
  | case7 _ _ k hk e hg _ h1 hl ih1 =>
    exact fun _ hm => (hm.of_found hg).elim (ih1 (Decidable.not_not.mp h1)) fun hm' => hl hm'.1

theorem strictReach_path {inp : List Entry} {vis : List Name} {k d : Name}
    (hpath : ∀ v ∈ vis, StrictReach inp v k) (hkd : StrictReach inp k d) :
    ∀ v ∈ k :: vis, StrictReach inp v d := by
  intro v hv
  rcases List.mem_cons.mp hv with rfl | hv
  · exact hkd
  · exact (hpath v hv).trans hkd

/-- The cycle error is reported only when there is a cycle: every name on the recursion path
needs the current name, so meeting one of them again closes a cycle. -/
theorem resolve_cycle {inp : List Entry} {f vis k} :
    (∀ v ∈ vis, StrictReach inp v k) → resolve inp f vis k = .cycle → ReachesCycle inp k := by
  fun_induction resolve inp f vis k with
  | case1 | case2 | case3 | case7 => intro _ h; cases h
  | case4 _ vis k _ _ _ hv => exact fun hpath _ => ⟨k, Reach.refl _, hpath k (by simpa using hv)⟩
  | case5 _ _ k hk e hg _ _ ih =>
    exact fun hpath h => Reach.exists_of_edge (Reach.parent hk hg)
      (ih (strictReach_path hpath (.parent hk hg (.refl _))) h)
  | case6 _ _ k hk e hg _ _ hl _ ih =>
    exact fun hpath h => Reach.exists_of_edge (Reach.link hk hg hl)
      (ih (strictReach_path hpath (.link hk hg hl (.refl _))) h)

/-- Termination, unconditionally: the names on the recursion path are pairwise different entries
of the tar, so the path is never longer than the tar and `inp.length + 1` fuel is never used up. -/
theorem resolve_terminates_aux {inp : List Entry} (f vis k) :
    vis.Nodup → (∀ v ∈ vis, v ∈ inp.map Entry.key) → inp.length + 1 ≤ vis.length + f →
      resolve inp f vis k ≠ .diverge := by
  fun_induction resolve inp f vis k with
  | case1 vis =>
    intro hnd hsub hlen
    have := List.Nodup.length_le_of_subset hnd hsub
    simp only [List.length_map] at this
    omega
  | case2 | case3 | case4 | case7 => intros; simp
  | case5 f vis k hk e hg hv _ ih | case6 f vis k hk e hg hv _ _ _ ih =>
    intro hnd hsub hlen
    refine ih (List.nodup_cons.mpr ⟨by simpa using hv, hnd⟩) ?_ (by simp only [List.length_cons]; omega)
    intro v hv'
    rcases List.mem_cons.mp hv' with rfl | hv''
    · exact List.mem_map.mpr ⟨e, (get_some hg).1, (get_some hg).2⟩
    · exact hsub v hv''

theorem resolve_terminates (inp : List Entry) (k : Name) :
    resolve inp (moveFuel inp) [] k ≠ .diverge :=
  resolve_terminates_aux _ [] k (by simp) (by simp) (by simp [moveFuel])

/-! ## The invariant of `sorted` / `picked` -/

/-- The prerequisite `d` is satisfied by the entries `pre`: unless `d` is the root it is an entry of
the tar, and that entry (for the root: if there is one) is in `pre`. -/
def PlacedIn (inp : List Entry) (pre : List Entry) (d : Name) : Prop :=
  (d ≠ [] → (get inp d).isSome) ∧ ∀ x, get inp d = some x → x ∈ pre

/-- The prerequisites of `e` (parent directory, hardlink target) are satisfied by `pre`. -/
def ClosedAt (inp : List Entry) (pre : List Entry) (e : Entry) : Prop :=
  e.key ≠ [] →
    PlacedIn inp pre e.key.dropLast ∧
    (e.isLink = true → PlacedIn inp pre (cleanEntryName e.linkName))

/-- `ClosedAt` for every entry w.r.t. the entries placed before it; the list is given last-placed
first. -/
def ClosedR (inp : List Entry) : List Entry → Prop
  | [] => True
  | e :: rest => ClosedAt inp rest e ∧ ClosedR inp rest

/-- Invariant of the `sorted` / `picked` pair while `sortEntries` runs. -/
structure Inv (inp : List Entry) (st : MState) : Prop where
  sub : ∀ e ∈ st.out, get inp e.key = some e
  picked : ∀ k, k ∈ st.picked ↔ ∃ e ∈ st.out, e.key = k
  nodup : KeysNodup st.out
  closed : ClosedR inp st.out.reverse

theorem PlacedIn.mono {inp pre pre' d} (h : PlacedIn inp pre d) (hs : ∀ x ∈ pre, x ∈ pre') :
    PlacedIn inp pre' d :=
  ⟨h.1, fun x hx => hs x (h.2 x hx)⟩

theorem PlacedIn.of_mem {inp pre d e} (hg : get inp d = some e) (he : e ∈ pre) : PlacedIn inp pre d :=
  ⟨fun _ => by rw [hg]; rfl, fun x hx => by rw [hg] at hx; cases hx; exact he⟩

theorem ClosedAt.mono {inp pre pre' e} (h : ClosedAt inp pre e) (hs : ∀ x ∈ pre, x ∈ pre') :
    ClosedAt inp pre' e :=
  fun hne => ⟨(h hne).1.mono hs, fun hl => ((h hne).2 hl).mono hs⟩

theorem Inv.empty (inp : List Entry) : Inv inp ⟨[], []⟩ :=
  ⟨by simp, by simp, by simp [KeysNodup], by simp [ClosedR]⟩

theorem Inv.mem_of_picked {inp st} (h : Inv inp st) {k : Name} {e : Entry}
    (hg : get inp k = some e) (hp : k ∈ st.picked) : e ∈ st.out := by
  obtain ⟨e', he', rfl⟩ := (h.picked k).mp hp
  rw [h.sub e' he'] at hg; cases hg
  exact he'

/-- Under the invariant the three-way "not found" test of `moveRecVisiting` only asks the tar. -/
theorem Inv.check {inp st} (h : Inv inp st) (k : Name) :
    ((get inp k).isNone && (get st.out k).isNone && !st.picked.contains k) = (get inp k).isNone := by
  cases hg : get inp k with
  | some e => rfl
  | none =>
    have hno : ∀ e ∈ st.out, e.key ≠ k := fun e he hk => by
      have := h.sub e he
      rw [hk, hg] at this
      cases this
    have hp : k ∉ st.picked := fun hp => by
      obtain ⟨e, he, hk⟩ := (h.picked k).mp hp
      exact hno e he hk
    simp [get_eq_none.mpr hno, hp]

theorem Inv.add {inp st} (h : Inv inp st) {k : Name} {e : Entry} (hg : get inp k = some e)
    (hp : k ∉ st.picked) (hc : ClosedAt inp st.out e) : Inv inp (st.add k e) := by
  have hek : e.key = k := (get_some hg).2
  refine ⟨?_, ?_, ?_, ?_⟩
  · intro x hx
    rcases List.mem_append.mp hx with hx | hx
    · exact h.sub x hx
    · rw [List.mem_singleton.mp hx, hek]; exact hg
  · intro k'
    show k' ∈ k :: st.picked ↔ ∃ x ∈ st.out ++ [e], x.key = k'
    rw [List.mem_cons, h.picked k']
    simp only [List.mem_append, List.mem_singleton]
    constructor
    · rintro (rfl | ⟨x, hx, hxk⟩)
      · exact ⟨e, .inr rfl, hek⟩
      · exact ⟨x, .inl hx, hxk⟩
    · rintro ⟨x, hx | rfl, hxk⟩
      · exact .inr ⟨x, hx, hxk⟩
      · exact .inl (hxk.symm.trans hek)
  · show ((st.out ++ [e]).map Entry.key).Nodup
    rw [List.map_append, List.nodup_append]
    refine ⟨h.nodup, by simp, ?_⟩
    intro a ha b hb hab
    obtain ⟨x, hx, rfl⟩ := List.mem_map.mp ha
    have hbk : b = k := by simpa [hek] using hb
    exact hp ((h.picked k).mpr ⟨x, hx, hab.trans hbk⟩)
  · show ClosedR inp (st.out ++ [e]).reverse
    rw [List.reverse_append]
    exact ⟨hc.mono fun x hx => List.mem_reverse.mpr hx, h.closed⟩

theorem ClosedR.of_append {inp : List Entry} {b : List Entry} :
    ∀ a : List Entry, ClosedR inp (a ++ b) → ClosedR inp b
  | [], h => h
  | _ :: a, h => ClosedR.of_append a h.2

theorem closedR_split {inp out pre post : List Entry} {e : Entry} (hc : ClosedR inp out.reverse)
    (h : out = pre ++ e :: post) :
    ClosedAt inp pre e := by
  rw [h, List.reverse_append, List.reverse_cons, List.append_assoc] at hc
  exact (ClosedR.of_append _ hc).1.mono fun x hx => List.mem_reverse.mp hx

/-! ## One call of `moveRecVisiting` -/

theorem moveRec_zero (inp k st vis) : moveRecVisiting inp 0 k st vis = (st, .diverge) := rfl

theorem moveRecVisiting_root (inp fuel st vis) : moveRecVisiting inp (fuel + 1) [] st vis =
    match get inp [] with
    | some e => if st.picked.contains [] then (st, .ok) else (st.add [] e, .ok)
    | none => (st, .ok) := by
  cases h : get inp [] <;> simp [moveRecVisiting, h]

theorem moveRecVisiting_missing {inp st} (h : Inv inp st) (fuel vis) {k : Name} (hk : k ≠ [])
    (hg : get inp k = none) : moveRecVisiting inp (fuel + 1) k st vis = (st, .notFound) := by
  simp only [moveRecVisiting, hk, if_false, h.check k]
  simp [hg]

theorem moveRecVisiting_cycle {inp} (fuel st) {vis : List Name} {k : Name} (hk : k ≠ [])
    {e : Entry} (hg : get inp k = some e) (hv : k ∈ vis) :
    moveRecVisiting inp (fuel + 1) k st vis = (st, .cycle) := by
  simp [moveRecVisiting, hk, hg, hv]

theorem moveRecVisiting_found {inp} (fuel st) {vis : List Name} {k : Name} (hk : k ≠ [])
    {e : Entry} (hg : get inp k = some e) (hv : k ∉ vis) :
    moveRecVisiting inp (fuel + 1) k st vis =
      (let r1 := moveRecVisiting inp fuel k.dropLast st (k :: vis)
       if r1.2 ≠ .ok then r1 else
       let r := if e.isLink then moveRecVisiting inp fuel (cleanEntryName e.linkName) r1.1 (k :: vis) else (r1.1, .ok)
       if r.2 ≠ .ok then r else if r.1.picked.contains k then (r.1, .ok) else (r.1.add k e, .ok)) := by
  simp [moveRecVisiting, hk, hg, hv]

/-- What one call `moveRecVisiting inp fuel k st vis = r` guarantees (`[] ∉ vis`: the root is never
put on the recursion path).  `block`: the call appends a block `b` of entries reachable from `k`, none of them
on the path `vis`; on success it ends with `k`'s own entry unless that had been placed before the call. -/
structure MovePost (inp : List Entry) (fuel : Nat) (k : Name) (st : MState) (vis : List Name)
    (r : MState × Status) : Prop where
  inv : Inv inp r.1
  block : ∃ b, r.1.out = st.out ++ b ∧ (∀ x ∈ b, Reach inp k x.key) ∧ (∀ x ∈ b, x.key ∉ vis) ∧
    (r.2 = .ok → ∀ e, get inp k = some e → e ∉ st.out → b.getLast? = some e)
  placed : r.2 = .ok → PlacedIn inp r.1.out k
  status : r.2 = resolve inp fuel vis k

theorem MovePost.same {inp fuel k st vis s} (h : Inv inp st) (hs : s = resolve inp fuel vis k)
    (hp : s = .ok → PlacedIn inp st.out k) : MovePost inp fuel k st vis (st, s) :=
  ⟨h, ⟨[], (List.append_nil _).symm, by simp, by simp,
    fun hok e he hne => absurd ((hp hok).2 e he) hne⟩, hp, hs⟩

/-- The end of a call for an entry `e` of the tar: the sub-calls (parent, hardlink target) have
appended `b` and returned `r`; on success `e` follows unless it was picked before. -/
theorem MovePost.finish {inp fuel k st vis} {r : MState × Status} {b : List Entry} {e : Entry}
    (hr : Inv inp r.1) (hb : r.1.out = st.out ++ b) (hreach : ∀ x ∈ b, Reach inp k x.key)
    (hvis : ∀ x ∈ b, x.key ∉ k :: vis) (hg : get inp k = some e) (hv : k ∉ vis)
    (hc : r.2 = .ok → ClosedAt inp r.1.out e) (hs : r.2 = resolve inp fuel vis k) :
    MovePost inp fuel k st vis
      (if r.2 ≠ .ok then r else if r.1.picked.contains k then (r.1, .ok) else (r.1.add k e, .ok)) := by
  have hek : e.key = k := (get_some hg).2
  have hvis' : ∀ x ∈ b, x.key ∉ vis := fun x hx hm => hvis x hx (List.mem_cons_of_mem _ hm)
  by_cases hok : r.2 = .ok
  · rw [if_neg (not_not_intro hok)]
    rw [hok] at hs
    by_cases hp : k ∈ r.1.picked
    · -- picked before: if not before this call then by a sub-call, but those never place a name on the path
      have hmem : e ∈ r.1.out := hr.mem_of_picked hg hp
      rw [if_pos (by simpa using hp)]
      refine ⟨hr, ⟨b, hb, hreach, hvis', ?_⟩, fun _ => .of_mem hg hmem, hs⟩
      intro _ e' he' hne
      rw [hg] at he'; cases he'
      rcases List.mem_append.mp (hb ▸ hmem) with hm | hm
      · exact absurd hm hne
      · exact absurd (hek ▸ List.mem_cons_self ..) (hvis e hm)
    · rw [if_neg (by simpa using hp)]
      refine ⟨hr.add hg hp (hc hok), ⟨b ++ [e], ?_, ?_, ?_, ?_⟩,
        fun _ => .of_mem hg (List.mem_append_right _ (List.mem_singleton_self e)), hs⟩
      · show r.1.out ++ [e] = _
        rw [hb, List.append_assoc]
      · exact List.forall_mem_append.mpr ⟨hreach, by simp [hek, Reach.refl]⟩
      · exact List.forall_mem_append.mpr ⟨hvis', by simpa [hek] using hv⟩
      · intro _ e' he' _
        rw [hg] at he'; cases he'
        simp
  · rw [if_pos hok]
    exact ⟨hr, ⟨b, hb, hreach, hvis', fun h => absurd h hok⟩, fun h => absurd h hok, hs⟩

theorem moveRecVisiting_spec (inp : List Entry) :
    ∀ fuel k st vis, Inv inp st → [] ∉ vis →
      MovePost inp fuel k st vis (moveRecVisiting inp fuel k st vis) := by
  intro fuel
  induction fuel with
  | zero => exact fun k st vis h _ => .same h rfl nofun
  | succ f ih =>
    intro k st vis h hroot
    by_cases hk : k = []
    · subst hk
      rw [moveRecVisiting_root]
      cases hg : get inp [] with
      | none =>
        exact .same h (resolve_root_eq ..).symm fun _ =>
          ⟨fun hne => absurd rfl hne, fun x hx => by rw [hg] at hx; cases hx⟩
      | some e =>
        exact .finish (r := (st, .ok)) h (List.append_nil _).symm (by simp) (by simp) hg hroot
          (fun _ hne => absurd (get_some hg).2 hne) (resolve_root_eq ..).symm
    cases hg : get inp k with
    | none =>
      rw [moveRecVisiting_missing h f vis hk hg]
      exact .same h (resolve_missing_eq f vis hk hg).symm nofun
    | some e =>
      by_cases hv : k ∈ vis
      · rw [moveRecVisiting_cycle f st hk hg hv]
        exact .same h (resolve_cycle_eq f hk hg hv).symm nofun
      have hroot' : [] ∉ k :: vis := List.not_mem_cons_of_ne_of_not_mem (Ne.symm hk) hroot
      have hek : e.key = k := (get_some hg).2
      rw [moveRecVisiting_found f st hk hg hv]
      have hres := resolve_found_eq f hk hg hv
      have h1 := ih k.dropLast st (k :: vis) h hroot'
      generalize moveRecVisiting inp f k.dropLast st (k :: vis) = r1 at h1 ⊢
      obtain ⟨b1, hb1, hreach1, hvis1, _⟩ := h1.block
      rw [← h1.status] at hres
      have hreach1' : ∀ x ∈ b1, Reach inp k x.key := fun x hx => Reach.parent hk hg (hreach1 x hx)
      by_cases hs1 : r1.2 = .ok
      · simp only [hs1, ne_eq, not_true_eq_false, if_false] at hres ⊢
        by_cases hl : e.isLink = true
        · have h2 := ih (cleanEntryName e.linkName) r1.1 (k :: vis) h1.inv hroot'
          simp only [hl, if_true] at hres ⊢
          generalize moveRecVisiting inp f (cleanEntryName e.linkName) r1.1 (k :: vis) = r2 at h2 ⊢
          obtain ⟨b2, hb2, hreach2, hvis2, _⟩ := h2.block
          refine .finish (b := b1 ++ b2) h2.inv (by rw [hb2, hb1, List.append_assoc])
            (List.forall_mem_append.mpr ⟨hreach1', fun x hx => Reach.link hk hg hl (hreach2 x hx)⟩)
            (List.forall_mem_append.mpr ⟨hvis1, hvis2⟩) hg hv ?_ (h2.status.trans hres.symm)
          · intro hs2 _
            rw [hek]
            exact ⟨(h1.placed hs1).mono fun x hx => hb2 ▸ List.mem_append_left _ hx,
              fun _ => h2.placed hs2⟩
        · simp only [hl, Bool.false_eq_true, if_false] at hres ⊢
          exact .finish (r := (r1.1, .ok)) h1.inv hb1 hreach1' hvis1 hg hv
            (fun _ _ => hek ▸ ⟨h1.placed hs1, fun hl' => absurd hl' hl⟩) hres.symm
      · simp only [hs1, ne_eq, not_false_eq_true, if_true] at hres ⊢
        exact ⟨h1.inv, ⟨b1, hb1, hreach1', fun x hx hm => hvis1 x hx (List.mem_cons_of_mem _ hm),
          fun h' => absurd h' hs1⟩, fun h' => absurd h' hs1, hres.symm⟩

/-! ## The loop over the prioritized list -/

/-- The step for the listed path `l`: starting from the group `before`, the block `b` is appended.
Every entry of `b` is `l` itself or something `l` needs; if nothing `l` needs is missing then
`l`'s entry is in the group afterwards and, unless it had been placed earlier already, it is the
LAST entry of the block (all of its not-yet-placed prerequisites come before it). -/
def BlockOK (inp : List Entry) (l : String) (before b : List Entry) : Prop :=
  (∀ x ∈ b, Reach inp (cleanEntryName l) x.key) ∧
  (¬ Missing inp (cleanEntryName l) →
    PlacedIn inp (before ++ b) (cleanEntryName l) ∧
    ∀ e, get inp (cleanEntryName l) = some e → e ∉ before → b.getLast? = some e)

/-- One block per listed path, in the order of the list. -/
def StepsOK (inp : List Entry) : List String → List Entry → List (List Entry) → Prop
  | [], _, [] => True
  | l :: ls, before, b :: bs => BlockOK inp l before b ∧ StepsOK inp ls (before ++ b) bs
  | _, _, _ => False

/-- The listed paths that are reported back / abort the build. -/
def missedOf (inp : List Entry) (ls : List String) : List String :=
  ls.filter (fun l => resolve inp (moveFuel inp) [] (cleanEntryName l) == .notFound)

theorem stepsOK_cons {inp : List Entry} {l : String} {ls : List String} {before : List Entry}
    {blocks : List (List Entry)} (h : StepsOK inp (l :: ls) before blocks) :
    ∃ b bs, blocks = b :: bs ∧ BlockOK inp l before b ∧ StepsOK inp ls (before ++ b) bs := by
  cases blocks with
  | nil => exact absurd h (by simp [StepsOK])
  | cons b bs => exact ⟨b, bs, rfl, h⟩

theorem stepsOK_append {inp : List Entry} : ∀ (p : List String) {q : List String}
    {before : List Entry} {blocks : List (List Entry)}, StepsOK inp (p ++ q) before blocks →
    ∃ bs1 bs2, blocks = bs1 ++ bs2 ∧ StepsOK inp p before bs1 ∧
      StepsOK inp q (before ++ bs1.flatten) bs2
  | [], _, _, blocks, h => ⟨[], blocks, rfl, trivial, by simpa using h⟩
  | l :: p, _, _, _, h => by
    obtain ⟨b, bs, rfl, hb, hs⟩ := stepsOK_cons h
    obtain ⟨bs1, bs2, rfl, h1, h2⟩ := stepsOK_append p hs
    exact ⟨b :: bs1, bs2, rfl, ⟨hb, h1⟩, by simpa [List.append_assoc] using h2⟩

theorem stepsOK_reach {inp : List Entry} : ∀ (ls : List String) {before : List Entry}
    {blocks : List (List Entry)}, StepsOK inp ls before blocks →
    ∀ x ∈ blocks.flatten, ∃ l ∈ ls, Reach inp (cleanEntryName l) x.key
  | [], _, [], _, _, hx => by simp at hx
  | [], _, _ :: _, h, _, _ => absurd h (by simp [StepsOK])
  | l :: ls, _, _, h, x, hx => by
    obtain ⟨b, bs, rfl, hb, hs⟩ := stepsOK_cons h
    rcases List.mem_append.mp (List.flatten_cons ▸ hx) with hx | hx
    · exact ⟨l, List.mem_cons_self .., hb.1 x hx⟩
    · obtain ⟨l', hl', hr⟩ := stepsOK_reach ls hs x hx
      exact ⟨l', List.mem_cons_of_mem _ hl', hr⟩

/-- The loop goes on after a call with this status. -/
def Passes (allow : Bool) (s : Status) : Prop := s = .ok ∨ (s = .notFound ∧ allow = true)

/-- `BlockOK` is the `block` and `placed` fields of `MovePost` with "nothing is missing" in place of "the
status is ok". -/
theorem MovePost.blockOK {inp allow st r} {l : String}
    (hm : MovePost inp (moveFuel inp) (cleanEntryName l) st [] r) (hs : Passes allow r.2) :
    ∃ b, r.1.out = st.out ++ b ∧ BlockOK inp l st.out b := by
  obtain ⟨b, hb, hreach, _, hlast⟩ := hm.block
  have hok : ¬ Missing inp (cleanEntryName l) → r.2 = .ok := fun hnm =>
    hs.resolve_right fun h => hnm (resolve_notFound (hm.status ▸ h.1))
  exact ⟨b, hb, hreach, fun hnm => ⟨hb ▸ hm.placed (hok hnm), hlast (hok hnm)⟩⟩

/-- From `st`, with `missed` reported so far, the loop over `ls` ended in `st'`, `missed'`. -/
structure LoopDone (inp : List Entry) (allow : Bool) (ls : List String) (st : MState)
    (missed : List String) (st' : MState) (missed' : List String) (blocks : List (List Entry)) : Prop where
  inv : Inv inp st'
  grown : st'.out = st.out ++ blocks.flatten
  steps : StepsOK inp ls st.out blocks
  missed_eq : missed' = missed ++ missedOf inp ls
  status : ∀ l ∈ ls, Passes allow (resolve inp (moveFuel inp) [] (cleanEntryName l))

structure LoopPost (inp : List Entry) (allow : Bool) (ls : List String) (st : MState)
    (missed : List String) (r : LoopRes) : Prop where
  terminates : r ≠ .diverge
  err : r = .err →
    (allow = false ∧ ∃ l ∈ ls, Missing inp (cleanEntryName l)) ∨
    (∃ l ∈ ls, ReachesCycle inp (cleanEntryName l))
  done : ∀ st' missed', r = .done st' missed' →
    ∃ blocks, LoopDone inp allow ls st missed st' missed' blocks

theorem LoopPost.nil {inp allow st missed} (h : Inv inp st) :
    LoopPost inp allow [] st missed (.done st missed) := by
  refine ⟨nofun, nofun, ?_⟩
  rintro _ _ ⟨⟩
  exact ⟨[], h, by simp, trivial, by simp [missedOf], nofun⟩

theorem LoopPost.abort {inp allow l ls st missed}
    (h : (allow = false ∧ Missing inp (cleanEntryName l)) ∨ ReachesCycle inp (cleanEntryName l)) :
    LoopPost inp allow (l :: ls) st missed .err := by
  refine ⟨nofun, fun _ => ?_, nofun⟩
  exact h.imp (fun h => ⟨h.1, l, List.mem_cons_self .., h.2⟩) (fun h => ⟨l, List.mem_cons_self .., h⟩)

theorem missedOf_cons (inp : List Entry) (l : String) (ls : List String) :
    missedOf inp (l :: ls) = missedOf inp [l] ++ missedOf inp ls :=
  List.filter_append (l₁ := [l]) ..

theorem LoopPost.cons {inp allow l ls st missed r} {st1 : MState} {s : Status}
    (hm : MovePost inp (moveFuel inp) (cleanEntryName l) st [] (st1, s)) (hs : Passes allow s)
    (hr : LoopPost inp allow ls st1 (missed ++ missedOf inp [l]) r) :
    LoopPost inp allow (l :: ls) st missed r := by
  obtain ⟨b, hb, hblock⟩ := hm.blockOK hs
  refine ⟨hr.terminates, fun he => ?_, fun st' missed' hd => ?_⟩
  · exact (hr.err he).imp (fun ⟨ha, l', hl', hm'⟩ => ⟨ha, l', List.mem_cons_of_mem _ hl', hm'⟩)
      (fun ⟨l', hl', hm'⟩ => ⟨l', List.mem_cons_of_mem _ hl', hm'⟩)
  · obtain ⟨blocks, hd⟩ := hr.done st' missed' hd
    exact ⟨b :: blocks, hd.inv, by rw [hd.grown, hb, List.flatten_cons, List.append_assoc],
      ⟨hblock, hb ▸ hd.steps⟩, by rw [hd.missed_eq, List.append_assoc, ← missedOf_cons],
      List.forall_mem_cons.mpr ⟨hm.status ▸ hs, hd.status⟩⟩

theorem sortLoop_spec {inp : List Entry} (allow : Bool) : ∀ ls st missed, Inv inp st →
    LoopPost inp allow ls st missed (sortLoop inp (moveFuel inp) allow ls st missed) := by
  intro ls
  induction ls with
  | nil => exact fun st missed h => .nil h
  | cons l ls ih =>
    intro st missed h
    have hm := moveRecVisiting_spec inp (moveFuel inp) (cleanEntryName l) st [] h (by simp)
    rw [sortLoop, moveRec]
    generalize moveRecVisiting inp (moveFuel inp) (cleanEntryName l) st [] = r at hm ⊢
    obtain ⟨st1, s⟩ := r
    have hmissed : missedOf inp [l] = if s = .notFound then [l] else [] := by
      simp only [missedOf, List.filter_cons, List.filter_nil, ← hm.status]
      cases s <;> rfl
    cases s with
    | ok => exact .cons hm (.inl rfl) (by rw [hmissed]; simpa using ih st1 missed hm.inv)
    | notFound =>
      cases allow with
      | false => exact .abort (.inl ⟨rfl, resolve_notFound hm.status.symm⟩)
      | true => exact .cons hm (.inr ⟨rfl, rfl⟩) (by rw [hmissed]; exact ih st1 _ hm.inv)
    | cycle => exact .abort (.inr (resolve_cycle (by simp) hm.status.symm))
    | diverge => exact absurd hm.status.symm (resolve_terminates inp _)

/-! ## `sortEntries` -/

theorem dump_eq_filter (stream : List Entry) (skip : List Name) :
    dump stream skip = stream.filter (fun e => !skip.contains e.key) := by
  cases skip with
  | nil => exact (List.filter_eq_self.mpr fun _ _ => rfl).symm
  | cons _ _ => rfl

theorem dump_picked {inp : List Entry} {st : MState} (h : Inv inp st) (hn : KeysNodup inp) :
    dump inp st.picked = inp.filter (fun e => decide (e ∉ st.out)) := by
  rw [dump_eq_filter]
  refine List.filter_congr fun e he => ?_
  have : e.key ∈ st.picked ↔ e ∈ st.out :=
    ⟨h.mem_of_picked (get_of_mem hn he), fun ho => (h.picked _).mpr ⟨e, ho, rfl⟩⟩
  simp [this]

/-- A successful `sortEntries`: `blocks` are the blocks of the leading group, one per listed path. -/
structure SortOk (es : List Entry) (prio : List String) (allow : Bool) (out : List Entry)
    (missed : List String) (blocks : List (List Entry)) : Prop where
  out_eq : out = blocks.flatten ++ landmarkFor prio ::
    (importTar es).filter (fun e => decide (e ∉ blocks.flatten))
  steps : StepsOK (importTar es) prio [] blocks
  sub : ∀ e ∈ blocks.flatten, e ∈ importTar es
  nodup : KeysNodup blocks.flatten
  closed : ClosedR (importTar es) blocks.flatten.reverse
  missed_eq : missed = missedOf (importTar es) prio
  status : ∀ l ∈ prio,
    Passes allow (resolve (importTar es) (moveFuel (importTar es)) [] (cleanEntryName l))

structure SortPost (es : List Entry) (prio : List String) (allow : Bool) (r : Outcome) : Prop where
  terminates : r ≠ .diverge
  err : r = .err →
    (allow = false ∧ ∃ l ∈ prio, Missing (importTar es) (cleanEntryName l)) ∨
    (∃ l ∈ prio, ReachesCycle (importTar es) (cleanEntryName l))
  ok : ∀ out missed, r = .ok out missed → ∃ blocks, SortOk es prio allow out missed blocks

theorem sortEntries_structure {es : List Entry} (prio : List String) (allow : Bool) :
    SortPost es prio allow (sortEntries es prio allow) := by
  have hp := sortLoop_spec (inp := importTar es) allow prio ⟨[], []⟩ [] (Inv.empty _)
  unfold sortEntries
  simp only
  generalize sortLoop (importTar es) (moveFuel (importTar es)) allow prio ⟨[], []⟩ [] = r at hp ⊢
  cases r with
  | diverge => exact absurd rfl hp.terminates
  | err => exact ⟨nofun, fun _ => hp.err rfl, nofun⟩
  | done st missed' =>
    refine ⟨nofun, nofun, ?_⟩
    intro out missed h
    simp only [Outcome.ok.injEq] at h
    obtain ⟨hout, hmissed⟩ := h
    obtain ⟨blocks, hd⟩ := hp.done st missed' rfl
    have hblocks : st.out = blocks.flatten := hd.grown
    refine ⟨blocks, ?_, hd.steps, hblocks ▸ fun e he => (get_some (hd.inv.sub e he)).1,
      hblocks ▸ hd.inv.nodup, hblocks ▸ hd.inv.closed, hmissed ▸ hd.missed_eq, hd.status⟩
    rw [← hout, dump_picked hd.inv (importTar_keysNodup es), ← hblocks]
    simp [dump]

/-! ## The landmark entry -/

/-- Both landmark names are clean already (strings reduce slowly: evaluated here, once). -/
theorem cleanEntryName_landmark :
    cleanEntryName prefetchLandmark = [prefetchLandmark] ∧
    cleanEntryName noPrefetchLandmark = [noPrefetchLandmark] := by decide +kernel

theorem landmarkFor_key (prio : List String) :
    (landmarkFor prio).key = [prefetchLandmark] ∨ (landmarkFor prio).key = [noPrefetchLandmark] := by
  cases prio
  · exact .inr cleanEntryName_landmark.2
  · exact .inl cleanEntryName_landmark.1

theorem landmarkFor_isLandmark (prio : List String) : isLandmarkKey (landmarkFor prio).key = true := by
  rcases landmarkFor_key prio with h | h <;> simp [h, isLandmarkKey]

theorem landmarkFor_not_mem_importTar (es : List Entry) (prio : List String) :
    landmarkFor prio ∉ importTar es := fun h => by
  have := importTar_not_landmark h
  rw [landmarkFor_isLandmark] at this
  cases this

theorem landmarkFor_not_toc (prio : List String) :
    ((landmarkFor prio).key == [tocTarName]) = false := by
  rcases landmarkFor_key prio with h | h <;> rw [h] <;> decide

theorem landmarkFor_needsOpenGz (prio : List String) : needsOpenGz (landmarkFor prio) = true := by
  cases prio <;> simp [landmarkFor, landmarkEntry, needsOpenGz]

theorem landmarkFor_reg (prio : List String) :
    (landmarkFor prio).isReg = true ∧ (landmarkFor prio).size = 1 := by
  cases prio <;> exact ⟨rfl, rfl⟩

theorem landmarkFor_nil : landmarkFor [] = landmarkEntry noPrefetchLandmark := rfl

theorem landmarkFor_of_ne_nil {prio : List String} (h : prio ≠ []) :
    landmarkFor prio = landmarkEntry prefetchLandmark := by
  cases prio with
  | nil => exact absurd rfl h
  | cons _ _ => rfl

/-! ## `moveRecOld` -/

theorem moveRecOld_root (inp : List Entry) (f : Nat) (st : MState) :
    (moveRecOld inp f [] st).2 = .diverge ∨ (moveRecOld inp f [] st).2 = .ok := by
  cases f with
  | zero => exact .inl rfl
  | succ f =>
    right
    simp only [moveRecOld, if_true]
    split
    · split <;> rfl
    · rfl

/-- One step along a hardlink at the top level of the tar: if placing the target exhausts the
fuel from every state, so does placing the link (the parent, the root, cannot fail). -/
theorem moveRecOld_link_diverges {inp : List Entry} {k t : Name} {e : Entry} {f : Nat}
    (h : k ≠ [] ∧ k.dropLast = [] ∧ get inp k = some e ∧ e.isLink = true ∧ cleanEntryName e.linkName = t)
    (hd : ∀ st, (moveRecOld inp f t st).2 = .diverge) (st : MState) :
    (moveRecOld inp (f + 1) k st).2 = .diverge := by
  obtain ⟨hk, hp, hg, hl, rfl⟩ := h
  simp only [moveRecOld, hk, hg, hl, hp, if_false, if_true, Option.isNone_some, Bool.false_and,
    Bool.false_eq_true]
  rcases moveRecOld_root inp f st with h | h
  · simp [h]
  · simp [h, hd]

theorem moveRecOld_two_cycle {inp : List Entry} {a b : Name} {ea eb : Entry}
    (ha : a ≠ [] ∧ a.dropLast = [] ∧ get inp a = some ea ∧ ea.isLink = true ∧
      cleanEntryName ea.linkName = b)
    (hb : b ≠ [] ∧ b.dropLast = [] ∧ get inp b = some eb ∧ eb.isLink = true ∧
      cleanEntryName eb.linkName = a) (fuel : Nat) :
    ∀ st, (moveRecOld inp fuel a st).2 = .diverge ∧ (moveRecOld inp fuel b st).2 = .diverge := by
  induction fuel with
  | zero => exact fun _ => ⟨rfl, rfl⟩
  | succ f ih =>
    exact fun st =>
      ⟨moveRecOld_link_diverges ha (fun s => (ih s).2) st, moveRecOld_link_diverges hb (fun s => (ih s).1) st⟩

/-! ## The writer: compressed offsets -/

theorem chunkStep_eq (mc : Int) (w : WState) (force : Bool) (a b : Nat) :
    chunkStep mc w force a b =
      if force || decide (mc ≤ ((w.cwN + a : Nat) : Int) - (w.prevOffset : Int)) then
        ({ cwN := w.cwN + a + b, prevOffset := w.cwN + a + b }, w.cwN + a + b, true)
      else ({ cwN := w.cwN + a, prevOffset := w.prevOffset }, w.prevOffset, false) := rfl

theorem chunkStep_spec (mc : Int) (w : WState) (force : Bool) (a b : Nat) :
    (w.prevOffset ≤ w.cwN →
      (chunkStep mc w force a b).1.prevOffset ≤ (chunkStep mc w force a b).1.cwN ∧
      w.prevOffset ≤ (chunkStep mc w force a b).1.prevOffset) ∧
    (chunkStep mc w force a b).2.1 = (chunkStep mc w force a b).1.prevOffset ∧
    (force = true → (chunkStep mc w force a b).2.2 = true ∧
      (chunkStep mc w force a b).2.1 = w.cwN + a + b) := by
  rw [chunkStep_eq]
  split
  · exact ⟨fun hw => ⟨Nat.le_refl _, Nat.le_trans hw (Nat.le_trans (Nat.le_add_right ..) (Nat.le_add_right ..))⟩,
      rfl, fun _ => ⟨rfl, rfl⟩⟩
  · rename_i hc
    refine ⟨fun hw => ⟨Nat.le_trans hw (Nat.le_add_right ..), Nat.le_refl _⟩, rfl, fun hf => ?_⟩
    simp [hf] at hc

theorem runPart_nil {τ : Type} (mc : Int) (w : WState) :
    runPart (τ := τ) mc w [] = ([], w) := rfl

theorem runPart_cons {τ : Type} (mc : Int) (w : WState) (c : ChunkIn τ) (cs : List (ChunkIn τ)) :
    runPart mc w (c :: cs) =
      ({ tag := c.tag, force := c.force, off := (chunkStep mc w c.force c.a c.b).2.1,
         fresh := (chunkStep mc w c.force c.a c.b).2.2 } ::
        (runPart mc (chunkStep mc w c.force c.a c.b).1 cs).1,
       (runPart mc (chunkStep mc w c.force c.a c.b).1 cs).2) := rfl

theorem runPart_tags {τ : Type} (mc : Int) : ∀ (cs : List (ChunkIn τ)) (w : WState),
    (runPart mc w cs).1.map (fun o => (o.tag, o.force)) = cs.map (fun c => (c.tag, c.force))
  | [], _ => rfl
  | c :: cs, w => by rw [runPart_cons, List.map_cons, List.map_cons, runPart_tags mc cs]

structure InStretch {τ : Type} (lo hi : Nat) (o : ChunkOut τ) : Prop where
  lower : lo ≤ o.off
  upper : o.off ≤ hi
  forced : o.force = true → o.fresh = true ∧ lo < o.off

/-- The chunks `l` of a stretch of the blob between the offsets `lo` and `hi`: offsets never go
down, a chunk that forces a stream boundary is fresh and lies strictly above `lo` and above every
chunk before it. -/
structure Stretch {τ : Type} (lo hi : Nat) (l : List (ChunkOut τ)) : Prop where
  le : lo ≤ hi
  within : ∀ o ∈ l, InStretch lo hi o
  ordered : l.Pairwise (fun x y => x.off ≤ y.off ∧ (y.force = true → x.off < y.off))

theorem Stretch.nil {τ : Type} {lo hi : Nat} (h : lo ≤ hi) : Stretch (τ := τ) lo hi [] :=
  ⟨h, nofun, .nil⟩

theorem Stretch.append {τ : Type} {lo mid mid' hi : Nat} {l₁ l₂ : List (ChunkOut τ)}
    (h₁ : Stretch lo mid l₁) (hm : mid ≤ mid') (h₂ : Stretch mid' hi l₂) :
    Stretch lo hi (l₁ ++ l₂) := by
  have hlo := Nat.le_trans h₁.le hm
  refine ⟨Nat.le_trans hlo h₂.le, fun o ho => ?_, List.pairwise_append.mpr ⟨h₁.ordered, h₂.ordered, ?_⟩⟩
  · rcases List.mem_append.mp ho with ho | ho
    · have j := h₁.within o ho
      exact ⟨j.lower, Nat.le_trans j.upper (Nat.le_trans hm h₂.le), j.forced⟩
    · have j := h₂.within o ho
      exact ⟨Nat.le_trans hlo j.lower, j.upper,
        fun hf => ⟨(j.forced hf).1, Nat.lt_of_le_of_lt hlo (j.forced hf).2⟩⟩
  · intro x hx y hy
    have j := h₂.within y hy
    have := Nat.le_trans (h₁.within x hx).upper hm
    exact ⟨Nat.le_trans this j.lower, fun hf => Nat.lt_of_le_of_lt this (j.forced hf).2⟩

theorem Stretch.shift {τ : Type} {lo hi : Nat} {l : List (ChunkOut τ)} (h : Stretch lo hi l)
    (base : Nat) : Stretch (lo + base) (hi + base) (l.map fun o => { o with off := o.off + base }) := by
  refine ⟨Nat.add_le_add_right h.le base, fun y hy => ?_, List.pairwise_map.mpr (h.ordered.imp fun h =>
    ⟨Nat.add_le_add_right h.1 base, fun hf => Nat.add_lt_add_right (h.2 hf) base⟩)⟩
  obtain ⟨o, ho, rfl⟩ := List.mem_map.mp hy
  have j := h.within o ho
  exact ⟨Nat.add_le_add_right j.lower base, Nat.add_le_add_right j.upper base,
    fun hf => ⟨(j.forced hf).1, Nat.add_lt_add_right (j.forced hf).2 base⟩⟩

/-- One writer: its chunks are a stretch from `prevOffset` before to `prevOffset` after; a forced
chunk opens its stream past everything counted so far (closing a stream that received data emits
a byte). -/
theorem runPart_spec {τ : Type} (mc : Int) : ∀ (cs : List (ChunkIn τ)) (w : WState),
    w.prevOffset ≤ w.cwN → (∀ c ∈ cs, c.force = true → 1 ≤ c.a + c.b) →
    (runPart mc w cs).2.prevOffset ≤ (runPart mc w cs).2.cwN ∧
    Stretch w.prevOffset (runPart mc w cs).2.prevOffset (runPart mc w cs).1 := by
  intro cs
  induction cs with
  | nil => exact fun w hw _ => ⟨hw, .nil (Nat.le_refl _)⟩
  | cons c cs ih =>
    intro w hw hpos
    have hs := chunkStep_spec mc w c.force c.a c.b
    rw [runPart_cons]
    generalize chunkStep mc w c.force c.a c.b = s at hs ⊢
    obtain ⟨hs, s4, s5⟩ := hs
    obtain ⟨s1, s3⟩ := hs hw
    obtain ⟨i1, i2⟩ := ih s.1 s1 (fun c' hc' => hpos c' (List.mem_cons_of_mem _ hc'))
    refine ⟨i1, Stretch.append (l₁ := [_]) ⟨s3, fun o ho => ?_, List.pairwise_singleton ..⟩
      (Nat.le_refl _) i2⟩
    rw [List.mem_singleton.mp ho, s4] at *
    refine ⟨s3, Nat.le_refl _, fun hf => ⟨(s5 hf).1, ?_⟩⟩
    have := hpos c (List.mem_cons_self ..) hf
    have := (s5 hf).2
    show w.prevOffset < s.1.prevOffset
    omega

theorem combine_nil {τ : Type} (mc : Int) (base : Nat) : combine (τ := τ) mc base [] = [] := rfl

theorem combine_cons {τ : Type} (mc : Int) (base : Nat) (cs : List (ChunkIn τ)) (tail : Nat)
    (ps : List (List (ChunkIn τ) × Nat)) :
    combine mc base ((cs, tail) :: ps) =
      (runPart mc ⟨0, 0⟩ cs).1.map (fun o => { o with off := o.off + base }) ++
        combine mc (base + (runPart mc ⟨0, 0⟩ cs).2.cwN + tail) ps := rfl

theorem combine_tags {τ : Type} (mc : Int) : ∀ (ps : List (List (ChunkIn τ) × Nat)) (base : Nat),
    (combine mc base ps).map (fun o => (o.tag, o.force)) =
      (ps.flatMap (·.1)).map (fun c => (c.tag, c.force))
  | [], _ => rfl
  | (cs, tail) :: ps, base => by
    rw [combine_cons, List.map_append, combine_tags mc ps, List.flatMap_cons, List.map_append,
      List.map_map, ← runPart_tags mc cs ⟨0, 0⟩]
    rfl

theorem combine_spec {τ : Type} (mc : Int) : ∀ (ps : List (List (ChunkIn τ) × Nat)) (base : Nat),
    (∀ p ∈ ps, ∀ c ∈ p.1, c.force = true → 1 ≤ c.a + c.b) →
    ∃ hi, Stretch base hi (combine mc base ps)
  | [], base, _ => ⟨base, .nil (Nat.le_refl _)⟩
  | (cs, tail) :: ps, base, hpos => by
    obtain ⟨hr, hs⟩ := runPart_spec mc cs ⟨0, 0⟩ (Nat.le_refl _) (hpos _ (List.mem_cons_self ..))
    obtain ⟨hi, ih⟩ := combine_spec mc ps (base + (runPart mc ⟨0, 0⟩ cs).2.cwN + tail)
      (fun p hp => hpos p (List.mem_cons_of_mem _ hp))
    have := hs.shift base
    rw [Nat.zero_add] at this
    refine ⟨hi, this.append ?_ ih⟩
    rw [Nat.add_comm]
    exact Nat.le_trans (Nat.add_le_add_left hr base) (Nat.le_add_right ..)

theorem effChunkSize_pos (c : Int) : 0 < effChunkSize c := by
  unfold effChunkSize
  split <;> omega

theorem chunkOffsets_one (cs : Nat) (h : 0 < cs) : chunkOffsets cs 1 = [0] := by
  rw [chunkOffsets, if_neg (Nat.ne_of_gt h), Nat.add_sub_cancel_left, Nat.div_self h]
  simp

theorem chunkTags_append (cs : Nat) (a b : List Entry) :
    chunkTags cs (a ++ b) = chunkTags cs a ++ chunkTags cs b := by
  simp [chunkTags, emitted]

theorem mem_chunkTags {cs : Nat} {l : List Entry} {t : Entry × Bool} (h : t ∈ chunkTags cs l) :
    t.1 ∈ emitted l ∧ t.1.isReg = true ∧ t.2 = needsOpenGz t.1 := by
  unfold chunkTags at h
  obtain ⟨e, he, ht⟩ := List.mem_flatMap.mp h
  by_cases hr : e.isReg = true
  · simp only [hr, if_true] at ht
    obtain ⟨_, _, rfl⟩ := List.mem_map.mp ht
    exact ⟨he, hr, rfl⟩
  · simp [hr] at ht

theorem tag_mem_of_chunkTags {cs : Nat} {l : List Entry} {os : List (ChunkOut Entry)}
    (h : os.map (fun o => (o.tag, o.force)) = chunkTags cs l) : ∀ o ∈ os, o.tag ∈ l :=
  fun _ ho => (List.mem_filter.mp (mem_chunkTags (h ▸ List.mem_map_of_mem ho)).1).1

theorem chunkTags_landmark {cs : Nat} (hcs : 0 < cs) (prio : List String) :
    chunkTags cs [landmarkFor prio] = [(landmarkFor prio, true)] := by
  simp [chunkTags, emitted, landmarkFor_not_toc, landmarkFor_reg, landmarkFor_needsOpenGz,
    chunkOffsets_one cs hcs]

end SV.Sort
