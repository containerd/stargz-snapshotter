/-
Lemmas for C19 (SV/Model/Convert.lean).  The store is touched through `commit` only (`commit_lookup`,
`Written`).  The converters are one pipeline, `convertWith`, and differ in four tables (`Target.kind`,
`Env.checked`, `Target.outMT`, `Target.ext`), with `extStage` the external-TOC wrapper on top: `convert_eq`,
`Converted` (`convert_ok`), `convert_congr`.  The external-TOC map is a finite map (`lookup_put`) kept as a
sorted list, the TOC image a sorted rearrangement of it.  `rowOK`, `rowExc`: the demand on the media-type
table and the rows that miss it.
-/
import SV.Model.Convert

namespace SV.Convert

def Store.WF (H : Bytes → Digest) (s : Store) : Prop :=
  ∀ d e, s.lookup d = some e → H e.bytes = d

theorem Store.commit_blobs (H : Bytes → Digest) (s : Store) (r : Ref) (data : Bytes) (l : Option Digest) :
    (s.commit H r data l).1.blobs =
      if (s.lookup (H data)).isSome then s.blobs else (H data, ⟨data, l⟩) :: s.blobs := by
  unfold Store.commit
  cases s.lookup (H data) <;> rfl

theorem Store.commit_congr (H : Bytes → Digest) {s1 s2 : Store} (hb : s1.blobs = s2.blobs) (r1 r2 : Ref)
    (data : Bytes) (l : Option Digest) : (s1.commit H r1 data l).1.blobs = (s2.commit H r2 data l).1.blobs := by
  rw [Store.commit_blobs, Store.commit_blobs, Store.lookup, Store.lookup, hb]

theorem lookup_cons_ne {α : Type} {k k' : Digest} (h : k' ≠ k) (v : α) (m : List (Digest × α)) :
    List.lookup k' ((k, v) :: m) = List.lookup k' m := by
  rw [List.lookup_cons, beq_false_of_ne h]

theorem Store.commit_lookup (H : Bytes → Digest) (s : Store) (r : Ref) (data : Bytes) (l : Option Digest)
    (d : Digest) :
    (s.commit H r data l).1.lookup d =
      if d = H data then some ((s.lookup d).getD ⟨data, l⟩) else s.lookup d := by
  unfold Store.lookup
  rw [Store.commit_blobs]
  by_cases hd : d = H data
  · subst hd
    rw [if_pos rfl]
    unfold Store.lookup
    cases hx : s.blobs.lookup (H data) with
    | some e => exact hx
    | none => exact List.lookup_cons_self
  · rw [if_neg hd]
    split
    · rfl
    · exact lookup_cons_ne hd _ _

theorem Store.commit_mono (H : Bytes → Digest) (s : Store) (r : Ref) (data : Bytes) (l : Option Digest)
    (d : Digest) (e : Entry) (h : s.lookup d = some e) :
    (s.commit H r data l).1.lookup d = some e := by
  rw [Store.commit_lookup, h]
  split <;> rfl

theorem Store.commit_wf (H : Bytes → Digest) (s : Store) (r : Ref) (data : Bytes) (l : Option Digest)
    (wf : s.WF H) : (s.commit H r data l).1.WF H := by
  intro d e h
  rw [Store.commit_lookup] at h
  split at h
  · next hd =>
    subst hd
    injection h with h
    subst h
    cases hx : s.lookup (H data) with
    | some e => exact wf _ e hx
    | none => rfl
  · exact wf d e h

def Built.desc (E : Env) (b : Built) (mt : MT) : Desc :=
  { mt := mt, digest := E.H b.blob, size := b.blob.length, tocAnn := E.H b.tocJSON,
    uncompressedAnn := b.stream.length }

/-- Whatever an interrupted earlier run left under the ref, the blob committed and the descriptor are
those of the build alone (`Truncate(0)` discards the resumed bytes). -/
theorem writeAndDescribe_eq (E : Env) (s : Store) (r : Ref) (b : Built) (mt : MT) :
    writeAndDescribe E s r b mt = ((s.commit E.H r b.blob (some (E.H b.stream))).1, b.desc E mt) :=
  rfl

theorem writeAndDescribe_wf (E : Env) (s : Store) (r : Ref) (b : Built) (mt : MT) (wf : s.WF E.H) :
    (writeAndDescribe E s r b mt).1.WF E.H := by
  rw [writeAndDescribe_eq]; exact Store.commit_wf E.H s r _ _ wf

/-- `s'` is `s` after build `b` was written (and possibly other blobs committed after it): the built
blob sits under its digest unless that digest was taken, and no stored blob changed. -/
structure Written (E : Env) (s : Store) (b : Built) (s' : Store) : Prop where
  blob : s'.lookup (E.H b.blob) = some ((s.lookup (E.H b.blob)).getD ⟨b.blob, some (E.H b.stream)⟩)
  mono : ∀ d e, s.lookup d = some e → s'.lookup d = some e

theorem Written.commit (E : Env) (s : Store) (r : Ref) (b : Built) :
    Written E s b (s.commit E.H r b.blob (some (E.H b.stream))).1 :=
  ⟨by rw [Store.commit_lookup, if_pos rfl], Store.commit_mono E.H s r _ _⟩

theorem Written.then_commit {E : Env} {s s' : Store} {b : Built} (h : Written E s b s') (r : Ref)
    (data : Bytes) (l : Option Digest) : Written E s b (s'.commit E.H r data l).1 :=
  ⟨Store.commit_mono _ _ _ _ _ _ _ h.blob, fun d e h0 => Store.commit_mono _ _ _ _ _ _ _ (h.mono d e h0)⟩

theorem Written.present {E : Env} {s s' : Store} {b : Built} (h : Written E s b s') (wf : s.WF E.H) :
    ∃ e, s'.lookup (E.H b.blob) = some e ∧ E.H e.bytes = E.H b.blob := by
  refine ⟨_, h.blob, ?_⟩
  cases hx : s.lookup (E.H b.blob) with
  | none => rfl
  | some e => exact wf _ e hx

theorem Written.fresh {E : Env} {s s' : Store} {b : Built} (h : Written E s b s')
    (hn : s.lookup (E.H b.blob) = none) : s'.lookup (E.H b.blob) = some ⟨b.blob, some (E.H b.stream)⟩ := by
  rw [h.blob, hn]; rfl

/-- The build a successful conversion is made from, and the media type it gets. -/
structure FromBuild (E : Env) (s : Store) (src : Src) (s' : Store) (d : Desc) (b : Built) (r : Ref) (mt : MT) : Prop where
  layer : isLayerType src.mt = true
  store : s' = (writeAndDescribe E s r b mt).1
  desc : d = { (writeAndDescribe E s r b mt).2 with mt := d.mt }

/-- The lossless build together with its double check against the source's decompression. -/
def losslessBuild (E : Env) (o : List Opt) (blob : Bytes) : Option Built :=
  match E.buildLossless o blob, E.decomp blob with
  | some b, some org => if E.H b.stream = E.H org ∧ b.stream.length = org.length then some b else none
  | _, _ => none

theorem losslessBuild_some {E : Env} {o : List Opt} {blob : Bytes} {b : Built}
    (h : losslessBuild E o blob = some b) :
    E.buildLossless o blob = some b ∧
      ∃ org, E.decomp blob = some org ∧ E.H b.stream = E.H org ∧ b.stream.length = org.length := by
  unfold losslessBuild at h
  split at h
  · next b' org hb hd =>
    split at h
    · next hc => injection h with h; subst h; exact ⟨hb, org, hd, hc⟩
    · cases h
  · cases h

theorem losslessBuild_mismatch {E : Env} {o : List Opt} {blob : Bytes} {b : Built} {org : Bytes}
    (hb : E.buildLossless o blob = some b) (hd : E.decomp blob = some org)
    (hm : E.H b.stream ≠ E.H org ∨ b.stream.length ≠ org.length) : losslessBuild E o blob = none := by
  unfold losslessBuild
  rw [hb, hd]
  exact if_neg fun h => hm.elim (· h.1) (· h.2)

def Target.kind : Target → RefKind
  | .zstdchunked => .zstd
  | _ => .esgz

/-- The build converter `t` runs: the lossless one only counts if it passes the double check
(`losslessBuild`). -/
def Env.checked (E : Env) : Target → List Opt → Bytes → Option Built
  | .esgz | .extToc => E.build
  | .zstdchunked => E.buildZstd
  | .extTocLossless => losslessBuild E

/-- The media type the descriptor gets in the end; `none`: there is none, an error after the commit. -/
def Target.outMT : Target → MT → Option MT
  | .zstdchunked, m => zstdTargetMT m
  | _, m => some (gzipTargetMT m)

def Target.ext : Target → Bool
  | .extToc | .extTocLossless => true
  | _ => false

def extTarget (lossless : Bool) : Target := if lossless then .extTocLossless else .extToc

/-- The conclusion has the shape of `SV.Props.C19.BuiltBy`, which it is by definition. -/
theorem Env.checked_built {E : Env} {t : Target} {o : List Opt} {x : Bytes} {b : Built} :
    E.checked t o x = some b →
    match t with
    | .esgz | .extToc => E.build o x = some b
    | .zstdchunked => E.buildZstd o x = some b
    | .extTocLossless => E.buildLossless o x = some b := by
  cases t
  · exact id
  · exact id
  · exact id
  · exact fun h => (losslessBuild_some h).1

theorem BuildSound.checked {E : Env} (sound : BuildSound E) {t : Target} {o : List Opt} {x : Bytes} {b : Built}
    (h : E.checked t o x = some b) :
    E.decomp b.blob = some b.stream ∧ E.tocOf b.blob b.tocBlob = some b.tocJSON := by
  cases t
  · exact sound.gz o x b h
  · exact sound.zs o x b h
  · exact sound.gz o x b h
  · exact sound.ll o x b (losslessBuild_some h).1

theorem outMediaType_ok {t : Target} {m m' : MT} (hl : isLayerType m = true) (h : t.outMT m = some m') :
    outMediaType t m = .ok m' := by
  unfold outMediaType
  rw [hl]
  cases t
  · cases h; rfl
  · rw [show zstdTargetMT m = some m' from h]; rfl
  · cases h; rfl
  · cases h; rfl

/-- The inner converters are one pipeline: layer check, `cs.Info` on the source, a build that may fail,
`writeAndDescribe` under the ref derived from the source digest, and a final media type that may not
exist (the error then comes after the commit). -/
def convertWith (E : Env) (t : Target) (o : List Opt) (s : Store) (src : Src) : Store × Res × Option Built :=
  if !isLayerType src.mt then (s, .untouched, none) else
  match s.lookup src.digest, E.checked t o src.blob with
  | some _, some b =>
    let w := writeAndDescribe E s (t.kind, src.digest) b src.mt
    match t.outMT src.mt with
    | some m => (w.1, .ok { w.2 with mt := m }, some b)
    | none => (w.1, .err, some b)
  | _, _ => (s, .err, none)

theorem convertEsgz_eq (E : Env) (o : List Opt) (s : Store) (src : Src) :
    convertEsgz E o s src = convertWith E .esgz o s src := by
  unfold convertEsgz convertWith
  simp only [Env.checked]
  cases isLayerType src.mt
  · rfl
  cases s.lookup src.digest
  · rfl
  cases E.build o src.blob <;> rfl

theorem convertZstd_eq (E : Env) (o : List Opt) (s : Store) (src : Src) :
    convertZstd E o s src = convertWith E .zstdchunked o s src := by
  unfold convertZstd convertWith
  simp only [Env.checked, Target.outMT]
  cases isLayerType src.mt
  · rfl
  cases s.lookup src.digest
  · rfl
  cases E.buildZstd o src.blob
  · rfl
  cases zstdTargetMT src.mt <;> rfl

theorem convertLossless_eq (E : Env) (o : List Opt) (s : Store) (src : Src) :
    convertLossless E o s src = convertWith E .extTocLossless o s src := by
  unfold convertLossless convertWith
  simp only [Env.checked]
  unfold losslessBuild
  cases isLayerType src.mt
  · rfl
  cases s.lookup src.digest
  · rfl
  cases E.buildLossless o src.blob
  · rfl
  cases E.decomp src.blob
  · rfl
  next _ b org =>
    by_cases h1 : E.H b.stream = E.H org
    · by_cases h2 : b.stream.length = org.length
      · simp only [if_neg (not_not_intro h1), if_neg (not_not_intro h2), if_pos (And.intro h1 h2)]; rfl
      · simp only [if_neg (not_not_intro h1), if_pos h2, if_neg fun h => h2 (And.right h)]
    · simp only [if_pos h1, if_neg fun h => h1 (And.left h)]

/-- A successful conversion by converter `t`: the (checked) build `b` it was made from, the final media
type, and `s'` = `s` after `b` was written. -/
structure Converted (E : Env) (t : Target) (o : List Opt) (s : Store) (src : Src) (s' : Store) (d : Desc)
    (b : Built) : Prop where
  built : E.checked t o src.blob = some b
  mt : t.outMT src.mt = some d.mt
  layer : isLayerType src.mt = true
  known : s.lookup src.digest ≠ none
  desc : d = b.desc E d.mt
  written : Written E s b s'

section
variable {E : Env} {t : Target} {o : List Opt} {s s' : Store} {src : Src} {d : Desc}

theorem convertWith_ok {ob : Option Built} (h : convertWith E t o s src = (s', .ok d, ob)) :
    ∃ b, ob = some b ∧ Converted E t o s src s' d b := by
  unfold convertWith at h
  split at h
  · cases h
  · next hl =>
    split at h
    · next b hs hb =>
      rw [writeAndDescribe_eq] at h
      split at h
      · next m hm =>
        cases h
        exact ⟨b, rfl, hb, hm, by simpa using hl, hs ▸ nofun, rfl, Written.commit E s _ b⟩
      · cases h
    · cases h

theorem convertWith_unbuilt (s : Store) (hl : isLayerType src.mt = true) (h : E.checked t o src.blob = none) :
    convertWith E t o s src = (s, .err, none) := by
  unfold convertWith
  rw [hl, h]
  cases s.lookup src.digest <;> rfl

theorem convertWith_congr (E : Env) (t : Target) (o : List Opt) {s1 s2 : Store} (hb : s1.blobs = s2.blobs)
    (src : Src) :
    (convertWith E t o s1 src).2 = (convertWith E t o s2 src).2 ∧
    (convertWith E t o s1 src).1.blobs = (convertWith E t o s2 src).1.blobs := by
  unfold convertWith
  simp only [writeAndDescribe_eq]
  rw [show s1.lookup src.digest = s2.lookup src.digest by rw [Store.lookup, Store.lookup, hb]]
  split
  · exact ⟨rfl, hb⟩
  · split
    · split <;> exact ⟨rfl, Store.commit_congr E.H hb _ _ _ _⟩
    · exact ⟨rfl, hb⟩

/-- The wrapper of `layerConvert` on top of what the inner conversion returned. -/
def extStage (E : Env) (x : Store × Res × Option Built) : Store × Res × Option (Digest × TocInfo) :=
  match x.2.1 with
  | .err => (x.1, .err, none)
  | .panic => (x.1, .panic, none)
  | .untouched => (x.1, .panic, none)
  | .ok d =>
    match x.2.2.bind (·.tocBlob) with
    | none => (x.1, .panic, none)
    | some toc => ((x.1.commit E.H (.toc, 0) toc none).1, .ok d, some (d.digest, ⟨E.H toc, toc.length⟩))

theorem convertExt_eq (E : Env) (ll : Bool) (o : List Opt) (s : Store) (src : Src) :
    convertExt E ll o s src = extStage E (convertWith E (extTarget ll) o s src) := by
  have h : (if ll then convertLossless E o s src else convertEsgz E o s src) =
      convertWith E (extTarget ll) o s src := by
    cases ll
    · exact convertEsgz_eq E o s src
    · exact convertLossless_eq E o s src
  unfold convertExt
  rw [h]
  generalize convertWith E (extTarget ll) o s src = x
  obtain ⟨s1, r, b⟩ := x
  cases r <;> rfl

theorem extStage_congr (E : Env) {x1 x2 : Store × Res × Option Built} (h2 : x1.2 = x2.2)
    (h1 : x1.1.blobs = x2.1.blobs) :
    (extStage E x1).2 = (extStage E x2).2 ∧ (extStage E x1).1.blobs = (extStage E x2).1.blobs := by
  obtain ⟨t1, r, ob⟩ := x1
  obtain ⟨t2, r', ob'⟩ := x2
  cases h2
  unfold extStage
  cases r with
  | ok d =>
    dsimp only
    cases ob.bind (·.tocBlob) with
    | none => exact ⟨rfl, h1⟩
    | some toc => exact ⟨rfl, Store.commit_congr E.H h1 _ _ toc none⟩
  | _ => exact ⟨rfl, h1⟩

/-- A successful conversion under the wrapper: the TOC blob the build buffered is committed after the layer
blob (`s1` is the store between the two), and the put is keyed by the converted digest. -/
structure ConvertedExt (E : Env) (t : Target) (o : List Opt) (s : Store) (src : Src) (s' : Store) (d : Desc)
    (b : Built) (toc : Bytes) (p : Option (Digest × TocInfo)) : Prop extends Converted E t o s src s' d b where
  tocBlob : b.tocBlob = some toc
  put : p = some (E.H b.blob, ⟨E.H toc, toc.length⟩)
  store : ∃ s1, Written E s b s1 ∧ s' = (s1.commit E.H (.toc, 0) toc none).1

theorem extStage_convertWith_ok {p : Option (Digest × TocInfo)}
    (h : extStage E (convertWith E t o s src) = (s', .ok d, p)) :
    ∃ b toc, ConvertedExt E t o s src s' d b toc p := by
  generalize hx : convertWith E t o s src = x at h
  obtain ⟨s1, r, ob⟩ := x
  unfold extStage at h
  cases r with
  | ok d0 =>
    obtain ⟨b, rfl, hc⟩ := convertWith_ok hx
    cases ht : b.tocBlob with
    | none => simp only [Option.bind_some, ht] at h; cases h
    | some toc =>
      simp only [Option.bind_some, ht] at h
      cases h
      exact ⟨b, toc, { hc with written := hc.written.then_commit _ _ _ }, ht, by rw [hc.desc]; rfl, s1,
        hc.written, rfl⟩
  | _ => cases h

theorem convertExt_ok {ll : Bool} {p : Option (Digest × TocInfo)} (h : convertExt E ll o s src = (s', .ok d, p)) :
    ∃ b toc, ConvertedExt E (extTarget ll) o s src s' d b toc p :=
  extStage_convertWith_ok (convertExt_eq E ll o s src ▸ h)

def forget {α : Type} (x : Store × Res × α) : Store × Res := (x.1, x.2.1)

/-- Takes `convert .. = (s', r)`, rewritten with `convert_eq`, to the converter's own result. -/
theorem eq_of_forget {α : Type} {x : Store × Res × α} {s' : Store} {r : Res} (h : forget x = (s', r)) :
    x = (s', r, x.2.2) := by
  obtain ⟨_, _, _⟩ := x
  cases h
  rfl

theorem convert_eq (E : Env) (t : Target) (o : List Opt) (s : Store) (src : Src) :
    convert E t o s src =
      if t.ext then forget (extStage E (convertWith E t o s src)) else forget (convertWith E t o s src) := by
  cases t
  · exact congrArg forget (convertEsgz_eq E o s src)
  · exact congrArg forget (convertZstd_eq E o s src)
  · exact congrArg forget (convertExt_eq E false o s src)
  · exact congrArg forget (convertExt_eq E true o s src)

theorem convert_ok (h : convert E t o s src = (s', .ok d)) : ∃ b, Converted E t o s src s' d b := by
  rw [convert_eq] at h
  split at h
  · obtain ⟨b, _, hc⟩ := extStage_convertWith_ok (eq_of_forget h)
    exact ⟨b, hc.toConverted⟩
  · obtain ⟨b, _, hc⟩ := convertWith_ok (eq_of_forget h)
    exact ⟨b, hc⟩

theorem convert_congr (E : Env) (t : Target) (o : List Opt) {s1 s2 : Store} (hb : s1.blobs = s2.blobs)
    (src : Src) :
    (convert E t o s1 src).2 = (convert E t o s2 src).2 ∧
    (convert E t o s1 src).1.blobs = (convert E t o s2 src).1.blobs := by
  have ⟨h2, h1⟩ := convertWith_congr E t o hb src
  rw [convert_eq, convert_eq]
  split
  · have h := extStage_congr E h2 h1
    exact ⟨congrArg Prod.fst h.1, h.2⟩
  · exact ⟨congrArg Prod.fst h2, h1⟩

end

def TocMap.Sorted (m : TocMap) : Prop := m.Pairwise fun a b => a.1 < b.1

theorem TocMap.put_cons_lt {k k' : Digest} (v v' : TocInfo) (m : TocMap) (h : k < k') :
    TocMap.put k v ((k', v') :: m) = (k, v) :: (k', v') :: m := by
  rw [TocMap.put, if_pos h]

theorem TocMap.put_cons_eq (k : Digest) (v v' : TocInfo) (m : TocMap) :
    TocMap.put k v ((k, v') :: m) = (k, v) :: m := by
  rw [TocMap.put, if_neg (Nat.lt_irrefl k), if_pos rfl]

theorem TocMap.put_cons_gt {k k' : Digest} (v v' : TocInfo) (m : TocMap) (h : k' < k) :
    TocMap.put k v ((k', v') :: m) = (k', v') :: TocMap.put k v m := by
  rw [TocMap.put, if_neg (Nat.lt_asymm h), if_neg (Nat.ne_of_gt h)]

theorem TocMap.lookup_put (k : Digest) (v : TocInfo) (m : TocMap) (k' : Digest) :
    (TocMap.put k v m).lookup k' = if k' = k then some v else m.lookup k' := by
  induction m with
  | nil =>
    rw [TocMap.put]
    split
    · next h => rw [h]; exact List.lookup_cons_self
    · next h => exact lookup_cons_ne h v []
  | cons hd tl ih =>
    obtain ⟨k1, v1⟩ := hd
    rcases Nat.lt_trichotomy k k1 with hk | hk | hk
    · rw [put_cons_lt v v1 tl hk]
      split
      · next h => rw [h]; exact List.lookup_cons_self
      · next h => exact lookup_cons_ne h v _
    · subst hk
      rw [put_cons_eq]
      split
      · next h => rw [h]; exact List.lookup_cons_self
      · next h => rw [lookup_cons_ne h, lookup_cons_ne h]
    · rw [put_cons_gt v v1 tl hk]
      by_cases h1 : k' = k1
      · rw [h1, List.lookup_cons_self, List.lookup_cons_self, if_neg (Nat.ne_of_lt hk)]
      · rw [lookup_cons_ne h1, lookup_cons_ne h1, ih]

theorem TocMap.mem_put (k : Digest) (v : TocInfo) (m : TocMap) (x : Digest × TocInfo)
    (h : x ∈ TocMap.put k v m) : x = (k, v) ∨ x ∈ m := by
  induction m with
  | nil => exact Or.inl (List.mem_singleton.mp h)
  | cons hd tl ih =>
    obtain ⟨k', v'⟩ := hd
    rcases Nat.lt_trichotomy k k' with hk | hk | hk
    · rw [put_cons_lt v v' tl hk] at h
      exact List.mem_cons.mp h
    · subst hk
      rw [put_cons_eq] at h
      exact (List.mem_cons.mp h).imp_right (List.mem_cons_of_mem _)
    · rw [put_cons_gt v v' tl hk] at h
      rcases List.mem_cons.mp h with h | h
      · exact Or.inr (h ▸ List.mem_cons_self)
      · exact (ih h).imp_right (List.mem_cons_of_mem _)

theorem TocMap.put_sorted (k : Digest) (v : TocInfo) (m : TocMap) (hs : m.Sorted) : (TocMap.put k v m).Sorted := by
  induction m with
  | nil => exact List.pairwise_singleton _ _
  | cons hd tl ih =>
    obtain ⟨k', v'⟩ := hd
    have ⟨hhd, htl⟩ := List.pairwise_cons.mp hs
    rcases Nat.lt_trichotomy k k' with hk | hk | hk
    · rw [put_cons_lt v v' tl hk]
      refine List.pairwise_cons.mpr ⟨fun x hx => ?_, hs⟩
      rcases List.mem_cons.mp hx with hx | hx
      · exact hx ▸ hk
      · exact Nat.lt_trans hk (hhd x hx)
    · subst hk
      rw [put_cons_eq]
      exact List.pairwise_cons.mpr ⟨hhd, htl⟩
    · rw [put_cons_gt v v' tl hk]
      refine List.pairwise_cons.mpr ⟨fun x hx => ?_, ih htl⟩
      rcases TocMap.mem_put k v tl x hx with hx | hx
      · exact hx ▸ hk
      · exact hhd x hx

theorem TocMap.puts_sorted (ps : List (Digest × TocInfo)) (m : TocMap) (hs : m.Sorted) :
    (TocMap.puts ps m).Sorted :=
  ps.foldlRecOn (motive := TocMap.Sorted) _ hs fun m hs p _ => TocMap.put_sorted p.1 p.2 m hs

theorem TocMap.put_comm (k1 k2 : Digest) (v1 v2 : TocInfo) (m : TocMap) (h : k1 ≠ k2 ∨ v1 = v2) :
    TocMap.put k1 v1 (TocMap.put k2 v2 m) = TocMap.put k2 v2 (TocMap.put k1 v1 m) := by
  -- the statement is symmetric in the two puts, so the smaller key may be taken first
  have lt : ∀ {k1 k2 : Digest} (v1 v2 : TocInfo) (m : TocMap), k1 < k2 →
      TocMap.put k1 v1 (TocMap.put k2 v2 m) = TocMap.put k2 v2 (TocMap.put k1 v1 m) := by
    intro k1 k2 v1 v2 m h12
    induction m with
    | nil => exact (put_cons_lt v1 v2 [] h12).trans (put_cons_gt v2 v1 [] h12).symm
    | cons hd tl ih =>
      obtain ⟨k', v'⟩ := hd
      rcases Nat.lt_trichotomy k1 k' with h1 | h1 | h1
      · rw [put_cons_lt v1 v' tl h1, put_cons_gt v2 v1 _ h12]
        rcases Nat.lt_trichotomy k2 k' with h2 | h2 | h2
        · rw [put_cons_lt v2 v' tl h2, put_cons_lt v1 v2 _ h12]
        · subst h2; rw [put_cons_eq, put_cons_lt v1 v2 _ h12]
        · rw [put_cons_gt v2 v' tl h2, put_cons_lt v1 v' _ h1]
      · subst h1
        rw [put_cons_gt v2 v' tl h12, put_cons_eq, put_cons_eq, put_cons_gt v2 v1 tl h12]
      · rw [put_cons_gt v1 v' tl h1, put_cons_gt v2 v' tl (Nat.lt_trans h1 h12), put_cons_gt v1 v' _ h1,
          put_cons_gt v2 v' _ (Nat.lt_trans h1 h12), ih]
  rcases Nat.lt_trichotomy k1 k2 with hk | hk | hk
  · exact lt v1 v2 m hk
  · subst hk
    rcases h with h | h
    · exact absurd rfl h
    · rw [h]
  · exact (lt v2 v1 m hk).symm

theorem TocMap.puts_perm (ps qs : List (Digest × TocInfo)) (m : TocMap) (hp : ps.Perm qs)
    (hc : ∀ p ∈ ps, ∀ q ∈ ps, p.1 = q.1 → p.2 = q.2) :
    TocMap.puts ps m = TocMap.puts qs m := by
  unfold TocMap.puts
  apply List.Perm.foldl_eq' hp
  intro x hx y hy z
  apply TocMap.put_comm
  by_cases hk : y.1 = x.1
  · exact Or.inr (hc y hy x hx hk)
  · exact Or.inl hk

theorem TocMap.lookup_puts_none (ps : List (Digest × TocInfo)) (m : TocMap) (k : Digest)
    (h : ∀ p ∈ ps, p.1 ≠ k) : (TocMap.puts ps m).lookup k = m.lookup k :=
  ps.foldlRecOn (motive := fun m' : TocMap => m'.lookup k = m.lookup k) _ rfl fun m' e p hp =>
    ((TocMap.lookup_put _ _ m' k).trans (if_neg (h p hp).symm)).trans e

theorem TocMap.lookup_puts_of (qs : List (Digest × TocInfo)) (m : TocMap) {k : Digest} {v : TocInfo}
    (hm : m.lookup k = some v) (hq : ∀ q ∈ qs, q.1 = k → q.2 = v) : (TocMap.puts qs m).lookup k = some v := by
  refine qs.foldlRecOn (motive := fun m' : TocMap => m'.lookup k = some v) _ hm fun m' e q hq' => ?_
  rw [TocMap.lookup_put]
  split
  · next h => rw [hq q hq' h.symm]
  · exact e

theorem TocMap.lookup_puts (ps : List (Digest × TocInfo)) (m : TocMap)
    (hc : ∀ p ∈ ps, ∀ q ∈ ps, p.1 = q.1 → p.2 = q.2) (p : Digest × TocInfo) (hp : p ∈ ps) :
    (TocMap.puts ps m).lookup p.1 = some p.2 := by
  induction ps generalizing m with
  | nil => cases hp
  | cons a ps ih =>
    rcases List.mem_cons.mp hp with h | h
    · subst h
      exact TocMap.lookup_puts_of ps _ ((TocMap.lookup_put _ _ m _).trans (if_pos rfl))
        fun q hq e => (hc p List.mem_cons_self q (List.mem_cons_of_mem _ hq) e.symm).symm
    · exact ih _ (fun p hp q hq => hc p (List.mem_cons_of_mem _ hp) q (List.mem_cons_of_mem _ hq)) h

theorem TocMap.Sorted.mem_iff {m : TocMap} (hs : m.Sorted) {k : Digest} {v : TocInfo} :
    (k, v) ∈ m ↔ m.lookup k = some v := by
  induction m with
  | nil => exact ⟨nofun, nofun⟩
  | cons hd tl ih =>
    obtain ⟨k1, v1⟩ := hd
    have ⟨hhd, htl⟩ := List.pairwise_cons.mp hs
    rw [List.mem_cons]
    by_cases hk : k = k1
    · subst hk
      rw [List.lookup_cons_self]
      constructor
      · rintro (h | h)
        · cases h; rfl
        · exact absurd (hhd _ h) (Nat.lt_irrefl k)
      · rintro h; cases h; exact Or.inl rfl
    · rw [lookup_cons_ne hk, ← ih htl]
      exact ⟨fun h => h.resolve_left fun e => hk (congrArg Prod.fst e), Or.inr⟩

theorem TocMap.Sorted.unique {m : TocMap} (hs : m.Sorted) {k : Digest} {v1 v2 : TocInfo}
    (h1 : (k, v1) ∈ m) (h2 : (k, v2) ∈ m) : v1 = v2 :=
  Option.some.inj ((hs.mem_iff.mp h1).symm.trans (hs.mem_iff.mp h2))

theorem insertByToc_perm (l : TocLayer) (xs : List TocLayer) : (insertByToc l xs).Perm (l :: xs) := by
  induction xs with
  | nil => exact List.Perm.refl _
  | cons y ys ih =>
    unfold insertByToc
    split
    · exact List.Perm.refl _
    · exact (ih.cons y).trans (List.Perm.swap l y ys)

theorem finalize_perm (m : TocMap) : (finalize m).Perm (m.map fun kv => (⟨kv.2, kv.1⟩ : TocLayer)) := by
  unfold finalize
  induction m with
  | nil => exact List.Perm.refl _
  | cons kv m ih => exact (insertByToc_perm _ _).trans (ih.cons _)

theorem mem_finalize (m : TocMap) (x : TocLayer) : x ∈ finalize m ↔ (x.layer, x.toc) ∈ m := by
  rw [(finalize_perm m).mem_iff, List.mem_map]
  constructor
  · rintro ⟨kv, h, rfl⟩; exact h
  · exact fun h => ⟨_, h, rfl⟩

theorem length_finalize (m : TocMap) : (finalize m).length = m.length :=
  (finalize_perm m).length_eq.trans (List.length_map _)

theorem insertByToc_sorted (l : TocLayer) (xs : List TocLayer)
    (h : xs.Pairwise fun a b => a.toc.digest ≤ b.toc.digest) :
    (insertByToc l xs).Pairwise fun a b => a.toc.digest ≤ b.toc.digest := by
  induction xs with
  | nil => exact List.pairwise_singleton _ _
  | cons y ys ih =>
    have ⟨hy, hys⟩ := List.pairwise_cons.mp h
    unfold insertByToc
    split
    · next hle =>
      refine List.pairwise_cons.mpr ⟨fun x hx => ?_, h⟩
      rcases List.mem_cons.mp hx with e | e
      · exact e ▸ hle
      · exact Nat.le_trans hle (hy x e)
    · next hnle =>
      refine List.pairwise_cons.mpr ⟨fun x hx => ?_, ih hys⟩
      rcases List.mem_cons.mp ((insertByToc_perm l ys).mem_iff.mp hx) with e | e
      · exact e ▸ Nat.le_of_lt (Nat.lt_of_not_le hnle)
      · exact hy x e

/-- What `sort.Slice` establishes. -/
theorem finalize_sorted (m : TocMap) : (finalize m).Pairwise fun a b => a.toc.digest ≤ b.toc.digest := by
  unfold finalize
  induction m with
  | nil => exact List.Pairwise.nil
  | cons kv m ih => exact insertByToc_sorted _ _ ih

theorem fetchToc_some {ls : List TocLayer} {k : Digest} {v : TocInfo} (h : fetchToc ls k = some v) :
    (⟨v, k⟩ : TocLayer) ∈ ls := by
  unfold fetchToc at h
  obtain ⟨l, hf, rfl⟩ := Option.map_eq_some_iff.mp h
  have hk : l.layer = k := of_decide_eq_true (List.find?_some (p := fun l : TocLayer => decide (l.layer = k)) hf)
  subst hk
  exact List.mem_of_find?_eq_some hf

theorem fetchToc_none {ls : List TocLayer} {k : Digest} (h : fetchToc ls k = none) (v : TocInfo) :
    (⟨v, k⟩ : TocLayer) ∉ ls := by
  unfold fetchToc at h
  exact fun hm => absurd (decide_eq_true rfl) (List.find?_eq_none.mp (Option.map_eq_none_iff.mp h) _ hm)

theorem fetchToc_finalize (m : TocMap) (hs : m.Sorted) (k : Digest) : fetchToc (finalize m) k = m.lookup k := by
  cases hf : fetchToc (finalize m) k with
  | some v => exact (hs.mem_iff.mp ((mem_finalize m ⟨v, k⟩).mp (fetchToc_some hf))).symm
  | none =>
    cases hl : m.lookup k with
    | none => rfl
    | some v => exact absurd ((mem_finalize m ⟨v, k⟩).mpr (hs.mem_iff.mpr hl)) (fetchToc_none hf v)

/-- What C19 demands of the row (converter `t`, input media type `m`): a non-layer type is left
untouched; a layer type gets a layer media type that names the compression the converter really
writes, keeps (non-)distributability, stays in its family for the gzip converters and becomes OCI for
zstd:chunked; an error return is tolerated only where the target family has no such media type
(Docker zstd input to zstd:chunked); a panic never. -/
def rowOK (t : Target) (m : MT) : Bool :=
  match outMediaType t m with
  | .untouched => !isLayerType m
  | .ok m' =>
    isLayerType m && isLayerType m' && (m'.comp == some t.comp) &&
    (isNonDistributable m' == isNonDistributable m) &&
    (if t = .zstdchunked then !isDockerType m' else isDockerType m' == isDockerType m)
  | .err => t = .zstdchunked && m = .dockerLayerZstd
  | .panic => false

/-- The rows on which the code as written misses `rowOK`:
 (E1) a zstd-typed layer given to a gzip-producing converter keeps its zstd media type;
 (E2) a non-layer media type given to an external-TOC converter panics. -/
def rowExc (t : Target) (m : MT) : Bool :=
  (isLayerType m && (m.comp == some .zstd) && (t != .zstdchunked)) ||
  (!isLayerType m && (t == .extToc || t == .extTocLossless))

end SV.Convert
