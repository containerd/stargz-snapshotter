/-
Success of the `file.ReadAt` loop: when every chunk fetch of the file delivers the genuine chunk
(`Delivers`), no round of the loop takes an error branch (`readLoop_succeeds`, `fileReadAt_succeeds`).
-/
import SV.Lemmas.LazyRead

namespace SV.LazyRead

/-- Every miss-path fetch of a chunk of `f` succeeds with the genuine chunk, from every cache. -/
def Delivers (content : Nat → Bytes) (E : Env) (u : Under) (f : FileInfo) : Prop :=
  ∀ ch ∈ f.table, ∀ c : Cache,
    (fetchChunk E u c ⟨f.id, ch.off, ch.size⟩).2 = some (trueChunk content ⟨f.id, ch.off, ch.size⟩)

/-- No round errs: for a well-formed file and a lower layer that delivers, the loop ends with `.ok`
- for EVERY cache content (a cache entry that cannot serve the window is refetched), every offset
(at/after EOF: the lookup finds no chunk and the loop breaks with what it has) and every length
(`n = 0`: the loop body never runs). -/
theorem readLoop_succeeds {content : Nat → Bytes} {E : Env} {u : Under} {f : FileInfo}
    (hf : WF content f) (hd : Delivers content E u f) (off n : Nat) :
    ∀ (fuel : Nat) (c : Cache) (acc : Bytes), n - acc.length < fuel → acc.length ≤ n →
      (acc.length = 0 ∨ acc.length = n ∨ NotInside f.table (off + acc.length)) →
      ∃ b, (readLoop E u f off n fuel c acc).2 = .ok b := by
  intro fuel c acc hfuel hle hb
  refine readLoop_rule hf (J := fun _ _ => True) (R := fun r => ∃ b, r.2 = .ok b)
    ⟨fun c acc _ _ _ => ⟨acc, rfl⟩, ?_⟩ fuel c acc hfuel hle hb trivial
  intro c acc ch lo e _ hmem _ hfit _
  refine ⟨fun hs => ?_, fun _ _ => trivial⟩
  -- the fetch delivers the whole genuine chunk, which covers every window of `ch`
  exact absurd hs (serve_delivers c (hd ch hmem c)
    (slice_length_of_fit (by rw [trueChunk_length hf ch hmem]; exact hfit)))

theorem fileReadAt_succeeds {content : Nat → Bytes} {E : Env} {u : Under} {f : FileInfo}
    (hf : WF content f) (hd : Delivers content E u f) (c : Cache) (off n : Nat) :
    ∃ b, (fileReadAt E u f c off n).2 = .ok b :=
  readLoop_succeeds hf hd off n (n + 1) c [] (Nat.lt_succ_self _) (Nat.zero_le _) (Or.inl rfl)

theorem fetchChunk_of_under {E : Env} {u : Under} (hco : ∀ id, E.co id = some []) {id : ChunkId}
    {b : Bytes} (hu : u id = some b) (hl : b.length = id.size) (hv : E.verify id b = true) (c : Cache) :
    (fetchChunk E u c id).2 = some b := by
  simp only [fetchChunk, hco, preStore, hu]
  rw [if_pos ⟨hl, hv⟩]

end SV.LazyRead
