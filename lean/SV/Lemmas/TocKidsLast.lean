/-
The memory store alone: `addChild` keys the children of a directory by base name, so a directory announced again
replaces the child its parent held: a directory held as a child is the last entry of its name (`KidsLast`).
`kid_is_last` gives the `closed` field of `TreesAgree`.
-/
import SV.Lemmas.TocNames

namespace SV.Toc.R

/-- the key `mGetOrCreateDir` returns for the directory named `d` (`kidsLast_getOrCreateDir`) -/
def memKeyOf (ms : List MEnt) (d : Path) : Key :=
  match lastIdx ms d with
  | some L => .ent L
  | none => impKey d

/-- the directory entry `j`, held as the child `kv` of `k`, is the last of its name among the entries `< i`, and it
is filed where its name says -/
structure ChildLast (ms : List MEnt) (i : Nat) (k : Key) (kv : String × Key) (j : Nat) (m : MEnt) : Prop where
  lt : j < i
  base : kv.1 = baseName m.path
  parent : k = memKeyOf ms (parentDir m.path)
  last : ∀ j' m', j < j' → j' < i → ms[j']? = some m' → m'.e.type ≠ "chunk" → m'.path ≠ m.path

theorem ChildLast.succ {ms : List MEnt} {i : Nat} {k : Key} {kv : String × Key} {j : Nat} {m : MEnt}
    (h : ChildLast ms i k kv j m) (hno : ∀ m', ms[i]? = some m' → m'.e.type ≠ "chunk" → m'.path ≠ m.path) :
    ChildLast ms (i + 1) k kv j m := by
  refine ⟨Nat.lt_succ_of_lt h.lt, h.base, h.parent, fun j' m' hjj' hj' hm' hc' => ?_⟩
  by_cases hji : j' = i
  · subst hji; exact hno m' hm' hc'
  · exact h.last j' m' hjj' (by omega) hm' hc'

structure KidsLast (ms : List MEnt) (i : Nat) (sm : MState) : Prop where
  nodup : ∀ k, KNodup (sm.kids k)
  last : ∀ k kv j m, kv ∈ sm.kids k → kv.2 = .ent j → ms[j]? = some m → m.e.type = "dir" → ChildLast ms i k kv j m

theorem kNodup_addChild {ms : List MEnt} {s : MState} (h : ∀ k, KNodup (s.kids k)) (pk : Key) (b : String) (c : Key) :
    ∀ k, KNodup ((mAddChild ms s pk b c).kids k) := by
  intro k
  simp only [mAddChild]
  split
  · exact setKid_nodup _ _ _ (h _)
  · exact h _

theorem kidsLast_getOrCreateDir (ms : List MEnt) (i : Nat) : ∀ (rev : List String) (sm : MState), KidsLast ms i sm →
    KidsLast ms i (mGetOrCreateDir ms sm rev).1 ∧ (mGetOrCreateDir ms sm rev).2 = memKeyOf ms rev.reverse := by
  intro rev
  induction rev with
  | nil =>
    intro sm mk
    simp only [mGetOrCreateDir, List.reverse_nil, memKeyOf, mLookup]
    cases hl : lastIdx ms [] with
    | some L => exact ⟨mk, rfl⟩
    | none =>
      simp only
      by_cases h : [] ∈ sm.imps
      · simp only [h, ↓reduceIte]; exact ⟨mk, trivial⟩
      · simp only [h, ↓reduceIte]; exact ⟨⟨mk.nodup, mk.last⟩, rfl⟩
  | cons b rest ih =>
    intro sm mk
    simp only [mGetOrCreateDir, memKeyOf, mLookup]
    cases hl : lastIdx ms (b :: rest).reverse with
    | some L => exact ⟨mk, rfl⟩
    | none =>
      simp only
      by_cases h : (b :: rest).reverse ∈ sm.imps
      · simp only [h, ↓reduceIte]; exact ⟨mk, trivial⟩
      · simp only [h, ↓reduceIte]
        have mk2' : ∀ s : MState, s.kids = sm.kids → KidsLast ms i (mGetOrCreateDir ms s rest).1 :=
          fun s hs => (ih s ⟨by rw [hs]; exact mk.nodup, by rw [hs]; exact mk.last⟩).1
        have mk2 := mk2' { sm with imps := (b :: rest).reverse :: sm.imps,
                                   nl := fun k => if k = .imp (b :: rest).reverse then 2 else sm.nl k } rfl
        refine ⟨⟨kNodup_addChild mk2.nodup _ _ _, ?_⟩, by simp [impKey]⟩
        · intro k kv j m hkv hj hm hd
          simp only [mAddChild] at hkv
          split at hkv
          · rcases mem_setKid hkv with e | e
            · rw [e] at hj; cases hj
            · rename_i hk; rw [hk]; rw [hk] at e; exact mk2.last _ kv j m e hj hm hd
          · exact mk2.last k kv j m hkv hj hm hd

theorem kidsLast_step {ms : List MEnt} (ok : TreeOK ms) {i : Nat} {sm sm' : MState} {m : MEnt}
    (hm : ms[i]? = some m) (mk : KidsLast ms i sm) (h : pass2Step ms sm i m = some sm') : KidsLast ms (i + 1) sm' := by
  have weaken : ∀ s : MState, s.kids = sm.kids → (∀ p, ¬ NonChunkAt ms i p) → KidsLast ms (i + 1) s := by
    intro s hs hno
    refine ⟨by rw [hs]; exact mk.nodup, ?_⟩
    intro k kv j mj hkv hj hmj hd
    rw [hs] at hkv
    exact (mk.last k kv j mj hkv hj hmj hd).succ fun m' hm' hc' _ => hno _ ⟨m', hm', hc', rfl⟩
  unfold pass2Step at h
  by_cases hc : m.e.type = "chunk"
  · rw [if_pos hc] at h; cases h
    exact weaken _ rfl (by rintro p ⟨m', hm', h2, _⟩; rw [hm] at hm'; cases hm'; exact h2 hc)
  · rw [if_neg hc] at h
    have hne : m.path ≠ [] := fun e => ok.noRoot i ⟨m, hm, hc, e⟩
    rw [if_neg hne] at h
    obtain ⟨mk2, hpk⟩ := kidsLast_getOrCreateDir ms i (parentDir m.path).reverse sm mk
    rw [List.reverse_reverse] at hpk
    generalize hg : mGetOrCreateDir ms sm (parentDir m.path).reverse = g at h mk2 hpk
    obtain ⟨s2, pk⟩ := g
    simp only at h mk2 hpk
    have link : ∀ (s : MState) (c : Key), s.kids = s2.kids →
        (∀ j mj, c = .ent j → ms[j]? = some mj → mj.e.type = "dir" → j = i) →
        KidsLast ms (i + 1) (mAddChild ms s pk (baseName m.path) c) := by
      intro s c hs hci
      refine ⟨kNodup_addChild (by rw [hs]; exact mk2.nodup) _ _ _, ?_⟩
      · intro k kv j mj hkv hj hmj hd
        have old : kv ∈ s2.kids k → (k = pk → kv.1 ≠ baseName m.path) → ChildLast ms (i + 1) k kv j mj := by
          intro hkv' hnb
          have h0 := mk2.last k kv j mj hkv' hj hmj hd
          refine h0.succ fun m' hm' _ hp => ?_
          rw [hm] at hm'; cases hm'
          -- the entry announces the same directory again: it replaces this child
          apply hnb
          · rw [h0.parent, ← hp]; exact hpk.symm
          · rw [h0.base, ← hp]
        simp only [mAddChild, hs] at hkv
        by_cases hk : k = pk
        · rw [if_pos hk] at hkv
          rcases mem_setKid_of_nodup (mk2.nodup _) hkv with e | ⟨e1, e2⟩
          · rw [e] at hj
            simp only at hj
            have hji := hci j mj hj hmj hd
            subst hji
            rw [hm] at hmj; cases hmj
            refine ⟨by omega, by rw [e], by rw [hk]; exact hpk, ?_⟩
            intro j' m' h1 h2; omega
          · exact old e1 (fun _ => e2)
        · rw [if_neg hk] at hkv
          exact old hkv (fun e => absurd e hk)
    by_cases hh : m.e.type = "hardlink"
    · simp only [hh, ↓reduceIte] at h
      split at h
      · cases h
      · rename_i org horg
        split at h
        · cases h
        · rename_i hkt
          cases h
          refine link _ org rfl ?_
          intro j mj e hmj hd
          rw [e, keyType_ent hmj] at hkt
          exact absurd hd hkt
    · simp only [hh, ↓reduceIte] at h
      cases h
      refine link _ (.ent i) rfl ?_
      intro j mj e _ _; cases e; rfl

theorem kidsLast_run {ms : List MEnt} (ok : TreeOK ms) : ∀ (d i : Nat) (sm smF : MState), i + d = ms.length →
    KidsLast ms i sm → pass2 ms (enumFrom' i (ms.drop i)) sm = some smF → KidsLast ms ms.length smF := by
  intro d
  induction d with
  | zero =>
    intro i sm smF hd mk h
    obtain rfl : i = ms.length := hd
    rw [List.drop_eq_nil_of_le (Nat.le_refl _)] at h
    cases h
    exact mk
  | succ d ih =>
    intro i sm smF hd mk h
    have hlt : i < ms.length := by omega
    rw [List.drop_eq_getElem_cons hlt] at h
    simp only [enumFrom', pass2] at h
    split at h
    · rename_i s' hs'
      exact ih (i + 1) s' smF (by omega) (kidsLast_step ok (List.getElem?_eq_getElem hlt) mk hs') h
    · cases h

theorem kidsLast_init (ms : List MEnt) : KidsLast ms 0 { nl := initNl ms } :=
  ⟨fun _ => List.nodup_nil, fun _ _ _ _ h => by cases h⟩

theorem kid_is_last {ms : List MEnt} (ok : TreeOK ms) {sm : MState} (mk : KidsLast ms ms.length sm)
    {k : Key} {kv : String × Key} (hkv : kv ∈ sm.kids k) : kv.2 = lastOf ms (canon ms kv.2) := by
  cases hc : kv.2 with
  | root => rfl
  | imp p => rfl
  | ent j =>
    cases hm : ms[j]? with
    | none => simp [canon, lastOf, hm]
    | some mj =>
      by_cases hd : mj.e.type = "dir"
      · have h4 := (mk.last k kv j mj hkv hc hm hd).last
        obtain ⟨L, hL, hjL⟩ := dir_last hm hd
        obtain ⟨mL, hmL, hcL, hpL⟩ := lastIdx_nonChunk hL
        have hLn := (List.getElem?_eq_some_iff.mp hmL).1
        have hLj : L = j := by
          rcases Nat.lt_or_ge j L with h | h
          · exact absurd hpL (h4 L mL h hLn hmL hcL)
          · omega
        subst hLj
        exact (lastOf_canon ok (km := .ent L) ⟨mj, hm, hd, hL⟩).symm
      · rw [canon_of_nondir hm hd, lastOf_of_nondir hm hd]

end SV.Toc.R
