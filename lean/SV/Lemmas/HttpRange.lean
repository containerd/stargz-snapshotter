/-
Lemmas about SV/Model/HttpRange.lean: numerals and the Content-Range regexp (`Numeral`,
`matchHere_iff`, `parseRange_fmtContentRange`); wire parts as parts of the blob model
(`storePartsW_eq`); the Range header, read back by the RFC 7233 automaton (`rfcParse_header`).
-/
import SV.Model.HttpRange
import SV.Lemmas.Region

namespace SV.HttpRange
open SV.Region SV.Blob

/-! ## numerals and the Content-Range regexp -/

theorem digit_roundtrip : ∀ d, d < 10 → isDigit (digitChar d) = true ∧ digitVal (digitChar d) = d := by
  decide

theorem decFrom_append (acc : Nat) (a b : Str) : decFrom acc (a ++ b) = decFrom (decFrom acc a) b :=
  List.foldl_append ..

theorem fmtNat_ne_nil (n : Nat) : fmtNat n ≠ [] := by
  rw [fmtNat]
  split
  · exact List.cons_ne_nil _ _
  · exact List.append_ne_nil_of_right_ne_nil _ (List.cons_ne_nil _ _)

theorem fmtNat_spec (n : Nat) : (fmtNat n).all isDigit = true ∧ decVal (fmtNat n) = n := by
  induction n using Nat.strongRecOn with
  | _ n ih =>
    rw [fmtNat]
    split
    · rename_i h
      obtain ⟨h1, h2⟩ := digit_roundtrip n h
      exact ⟨by rw [List.all_cons, h1]; rfl,
        by simp only [decVal, decFrom, List.foldl, h2, Nat.zero_mul, Nat.zero_add]⟩
    · rename_i h
      obtain ⟨i1, i2⟩ := ih (n / 10)
        (Nat.div_lt_self (Nat.lt_of_lt_of_le (by decide) (Nat.le_of_not_lt h)) (by decide))
      obtain ⟨h1, h2⟩ := digit_roundtrip (n % 10) (Nat.mod_lt _ (by decide))
      refine ⟨by rw [List.all_append, i1, List.all_cons, h1]; rfl, ?_⟩
      unfold decVal at i2 ⊢
      rw [decFrom_append, i2]
      simp only [decFrom, List.foldl, h2]
      exact Nat.div_add_mod' n 10

theorem fmtNat_all (n : Nat) : (fmtNat n).all isDigit = true := (fmtNat_spec n).1
theorem decVal_fmtNat (n : Nat) : decVal (fmtNat n) = n := (fmtNat_spec n).2

/-- A non-empty string of decimal digits: what a group `[0-9]+` of the regexp matches. -/
structure Digits (d : Str) : Prop where
  ne : d ≠ []
  all : d.all isDigit = true

structure Numeral (d : Str) (v : Nat) : Prop extends Digits d where
  val : decVal d = v
  lt : v < two63

theorem fmtNat_digits (n : Nat) : Digits (fmtNat n) := ⟨fmtNat_ne_nil n, fmtNat_all n⟩

theorem parseDec63_some (s : Str) (v : Nat) : parseDec63 s = some v ↔ Numeral s v := by
  unfold parseDec63
  constructor
  · intro h
    split at h
    · cases h
    · rename_i h1
      split at h
      · rename_i h3
        cases h
        exact ⟨⟨fun e => h1 (Or.inl e), Decidable.of_not_not fun e => h1 (Or.inr e)⟩, rfl, h3⟩
      · cases h
  · rintro ⟨⟨h1, h2⟩, rfl, h3⟩
    rw [if_neg (fun h => h.elim h1 (fun h => h h2)), if_pos h3]

theorem parseDec63_fmtNat (n : Nat) (h : n < two63) : parseDec63 (fmtNat n) = some n :=
  (parseDec63_some _ _).mpr ⟨fmtNat_digits n, decVal_fmtNat n, h⟩

theorem parseDec63_fmtNat_big (n : Nat) (h : two63 ≤ n) : parseDec63 (fmtNat n) = none := by
  cases hq : parseDec63 (fmtNat n) with
  | none => rfl
  | some v =>
    have hv := (parseDec63_some _ _).mp hq
    exact absurd (decVal_fmtNat n ▸ hv.val ▸ hv.lt) (Nat.not_lt.mpr h)

theorem span_run (p : UInt8 → Bool) (ds rest : Str) (c : UInt8) (h : ds.all p = true)
    (hc : p c = false) :
    (ds ++ c :: rest).takeWhile p = ds ∧ (ds ++ c :: rest).dropWhile p = c :: rest :=
  ⟨by rw [List.takeWhile_append_of_pos (List.all_eq_true.mp h), List.takeWhile_cons_of_neg (by rw [hc]; nofun), List.append_nil],
   by rw [List.dropWhile_append_of_pos (List.all_eq_true.mp h), List.dropWhile_cons_of_neg (by rw [hc]; nofun)]⟩

theorem dropPrefix?_append (p s : Str) : dropPrefix? p (p ++ s) = some s := by
  induction p with
  | nil => cases s <;> rfl
  | cons c cs ih => simp only [List.cons_append, dropPrefix?, if_true, ih]

theorem dropPrefix?_some (p s r : Str) (h : dropPrefix? p s = some r) : s = p ++ r := by
  induction p generalizing s with
  | nil => cases s <;> cases h <;> rfl
  | cons c cs ih =>
    cases s with
    | nil => cases h
    | cons d ds =>
      simp only [dropPrefix?] at h
      split at h
      · rename_i hcd; rw [hcd, ih ds h]; rfl
      · cases h

def NoDigitHead (s : Str) : Prop := s.takeWhile isDigit = []

theorem noDigitHead_cons (c : UInt8) (s : Str) (h : isDigit c = false) : NoDigitHead (c :: s) :=
  List.takeWhile_cons_of_neg (by rw [h]; nofun)

theorem noDigitHead_dropWhile (s : Str) : NoDigitHead (s.dropWhile isDigit) := by
  induction s with
  | nil => rfl
  | cons c cs ih =>
    rw [List.dropWhile_cons]
    split
    · exact ih
    · rename_i hc; exact noDigitHead_cons c cs (by simpa using hc)

theorem digits_then {r r' : Str} {c : UInt8} (h : r.dropWhile isDigit = c :: r') :
    r = r.takeWhile isDigit ++ c :: r' := by
  rw [← h, List.takeWhile_append_dropWhile]

/-- The anchored matches with three numerals (the `\\*` alternative of the third group yields only
backslashes): a well-formed value at the start, its third numeral not followed by a digit. -/
theorem matchHere_iff (s d1 d2 d3 : Str) (h1 : Digits d1) (h2 : Digits d2) (h3 : Digits d3) :
    matchHere s = some (d1, d2, d3) ↔
      ∃ post, s = bytesSp ++ d1 ++ [45] ++ d2 ++ [47] ++ d3 ++ post ∧ NoDigitHead post := by
  constructor
  · -- each `split` follows one test of `matchHere`; a failed test is `none`
    intro h
    unfold matchHere at h
    split at h
    · cases h
    rename_i r1 hr1
    dsimp only at h
    split at h
    · cases h
    split at h
    case h_2 => cases h
    rename_i r3 hr3
    split at h
    · cases h
    split at h
    case h_2 => cases h
    rename_i r5 hr5
    split at h
    · cases h
      refine ⟨r5.dropWhile isDigit, ?_, noDigitHead_dropWhile r5⟩
      rw [dropPrefix?_some _ _ _ hr1]
      conv => lhs; rw [digits_then hr3, digits_then hr5]
      simp only [List.append_assoc, List.cons_append, List.nil_append, List.takeWhile_append_dropWhile]
    · -- group 3 is a run of backslashes, which is not a numeral
      cases h
      have hb := List.all_takeWhile (p := (· = 92)) (l := r5)
      cases hd3 : r5.takeWhile (· = 92) with
      | nil => exact absurd hd3 h3.ne
      | cons c cs =>
        have a3 := h3.all
        rw [hd3, List.all_cons, Bool.and_eq_true] at hb a3
        rw [of_decide_eq_true hb.1] at a3
        cases a3.1
  · rintro ⟨post, rfl, hp⟩
    obtain ⟨t1, r1⟩ := span_run isDigit d1 (d2 ++ 47 :: (d3 ++ post)) 45 h1.all rfl
    obtain ⟨t2, r2⟩ := span_run isDigit d2 (d3 ++ post) 47 h2.all rfl
    have t3 : (d3 ++ post).takeWhile isDigit = d3 := by
      rw [List.takeWhile_append_of_pos (List.all_eq_true.mp h3.all), hp, List.append_nil]
    simp only [List.append_assoc, List.cons_append, List.nil_append]
    unfold matchHere
    rw [dropPrefix?_append]
    simp only [t1, r1, t2, r2, t3, h1.ne, h2.ne, h3.ne, if_false, ne_eq, not_false_eq_true, if_true]

theorem findMatch_of_matchHere (s : Str) (m : Str × Str × Str) (h : matchHere s = some m) :
    findMatch s = some m := by
  cases s with
  | nil => simp [matchHere, dropPrefix?, bytesSp] at h
  | cons c cs => rw [findMatch, h]

theorem findMatch_some (h : Str) (m : Str × Str × Str) :
    findMatch h = some m ↔
      ∃ pre s, h = pre ++ s ∧ matchHere s = some m ∧
        ∀ k, k < pre.length → matchHere (h.drop k) = none := by
  constructor
  · induction h with
    | nil => intro hf; cases hf
    | cons c cs ih =>
      intro hf
      rw [findMatch] at hf
      cases hm : matchHere (c :: cs) with
      | some m' =>
        rw [hm] at hf; cases hf
        exact ⟨[], _, rfl, hm, fun k hk => absurd hk (Nat.not_lt_zero k)⟩
      | none =>
        rw [hm] at hf
        obtain ⟨pre, s, hps, hs, hnone⟩ := ih hf
        refine ⟨c :: pre, s, by rw [hps]; rfl, hs, fun k hk => ?_⟩
        cases k with
        | zero => exact hm
        | succ k => exact hnone k (Nat.lt_of_succ_lt_succ hk)
  · rintro ⟨pre, s, rfl, hs, hnone⟩
    induction pre with
    | nil => exact findMatch_of_matchHere s m hs
    | cons p pre ih =>
      rw [List.cons_append, findMatch,
        show matchHere (p :: (pre ++ s)) = none from hnone 0 (Nat.zero_lt_succ _)]
      exact ih fun k hk => hnone (k + 1) (Nat.succ_lt_succ hk)

theorem bytesSp_cons : ∃ t, bytesSp = 98 :: t := ⟨_, rfl⟩

theorem findMatch_fmtContentRange (b e size : Nat) :
    findMatch (fmtContentRange b e size) = some (fmtNat b, fmtNat e, fmtNat size) :=
  findMatch_of_matchHere _ _ ((matchHere_iff _ _ _ _ (fmtNat_digits _) (fmtNat_digits _)
    (fmtNat_digits _)).mpr ⟨[], (List.append_nil _).symm, rfl⟩)

theorem parseRange_fmtContentRange (b e size : Nat) :
    parseRange (fmtContentRange b e size) =
      if b < two63 ∧ e < two63 ∧ size < two63 then some (b, e, size) else none := by
  unfold parseRange
  rw [findMatch_fmtContentRange]
  by_cases hb : b < two63
  · by_cases he : e < two63
    · by_cases hs : size < two63
      · rw [if_pos ⟨hb, he, hs⟩]
        simp only [parseDec63_fmtNat _ hb, parseDec63_fmtNat _ he, parseDec63_fmtNat _ hs]
      · rw [if_neg fun h => hs h.2.2]
        simp only [parseDec63_fmtNat _ hb, parseDec63_fmtNat _ he,
          parseDec63_fmtNat_big _ (Nat.le_of_not_lt hs)]
    · rw [if_neg fun h => he h.2.1]
      simp only [parseDec63_fmtNat _ hb, parseDec63_fmtNat_big _ (Nat.le_of_not_lt he)]
  · rw [if_neg fun h => hb h.1]
    simp only [parseDec63_fmtNat_big _ (Nat.le_of_not_lt hb)]

theorem parseRange_some (h : Str) (b e sz : Nat) :
    parseRange h = some (b, e, sz) ↔ ∃ d1 d2 d3, findMatch h = some (d1, d2, d3) ∧
      parseDec63 d1 = some b ∧ parseDec63 d2 = some e ∧ parseDec63 d3 = some sz := by
  unfold parseRange
  cases findMatch h with
  | none => simp
  | some m =>
    obtain ⟨d1, d2, d3⟩ := m
    dsimp only
    constructor
    · intro hp
      split at hp
      · cases hp
      · split at hp
        · cases hp
        · split at hp
          · cases hp
          · rename_i _ _ h1 _ _ h2 _ _ h3
            cases hp
            exact ⟨d1, d2, d3, rfl, h1, h2, h3⟩
    · rintro ⟨_, _, _, hf, h1, h2, h3⟩
      cases hf
      rw [h1, h2, h3]

/-! ## wire parts as parts of the blob model -/

theorem walkChunksI_of_le (P : Params) (b : Nat) (e : Int) (h : (b : Int) ≤ e) :
    walkChunksI P b e = walkChunks P b e.toNat := by
  unfold walkChunksI walkChunks
  split
  · rfl
  · rw [if_neg (Int.not_lt.mpr h)]

theorem storePartsW_eq (P : Params) (ps : List WPart) : ∀ s : St,
    storePartsW P s ps = storeParts P s (toPartsP P ps) := by
  induction ps with
  | nil => intro s; rfl
  | cons p ps ih =>
    intro s
    unfold toPartsP
    by_cases he : p.e < (p.b : Int)
    · by_cases hb : p.b % P.chunk = 0
      · rw [if_pos he, if_pos hb]
        rw [storePartsW]
        have : walkChunksI P p.b p.e = some [] := by
          unfold walkChunksI; rw [if_neg fun h' => h' hb, if_pos he]
        rw [this]
        simp only [storeChunks]
        rw [ih s]
        cases h : storeParts P s (toPartsP P ps) with
        | mk s'' r => cases r <;> simp
      · rw [if_pos he, if_neg hb]
        rw [storePartsW, storeParts]
        have h1 : walkChunksI P p.b p.e = none := by unfold walkChunksI; rw [if_pos hb]
        have h2 : walkChunks P p.b p.b = none := by unfold walkChunks; rw [if_pos hb]
        rw [h1]; simp only [h2]
    · rw [if_neg he]
      rw [storePartsW, storeParts, walkChunksI_of_le P p.b p.e (Int.not_lt.mp he)]
      simp only
      cases walkChunks P p.b p.e.toNat with
      | none => rfl
      | some cs =>
        simp only
        cases hsc : storeChunks s p.data cs with
        | mk s' r =>
          cases r with
          | none => rfl
          | some got => simp only [ih s']

theorem fetchMissingW_of_stream (P : Params) (s : St) {missing : List Chunk} (w : Wire)
    {ps : List WPart} {bad : Bool} (hm : missing ≠ []) (hst : stream w = some (ps, bad)) :
    fetchMissingW P s missing w =
      match storePartsW P s ps with
      | (s', none) => (s', none)
      | (s', some got) =>
        if bad then (s', none)
        else if missing.all (fun c => got.any (fun g => g.1 = c)) then (s', some got)
        else (s', none) := by
  unfold fetchMissingW
  rw [show missing.isEmpty = false by cases missing <;> simp_all, hst]
  rfl

/-! ## the Range header -/

/-- Phase of the automaton after a digit: inside `first` (1) or inside `last` (3). -/
def digPh (ph : Nat) : Nat := if ph = 0 ∨ ph = 1 then 1 else 3

theorem digPh_idem (ph : Nat) : digPh (digPh ph) = digPh ph := by
  unfold digPh; split <;> simp

theorem rfcStep_digit (s : RfcSt) (d : UInt8) (hb : s.bad = false) (hd : isDigit d = true) :
    rfcStep s d = { s with cur := s.cur * 10 + digitVal d, ph := digPh s.ph } := by
  unfold rfcStep digPh
  simp only [hb, hd, Bool.false_eq_true, if_false, if_true]
  split <;> rfl

theorem rfc_run_digits (ds : Str) : ∀ (s : RfcSt), s.bad = false → ds.all isDigit = true → ds ≠ [] →
    ds.foldl rfcStep s = { s with cur := decFrom s.cur ds, ph := digPh s.ph } := by
  induction ds with
  | nil => intro s _ _ h; exact absurd rfl h
  | cons d ds ih =>
    intro s hb ha _
    simp only [List.all_cons, Bool.and_eq_true] at ha
    rw [List.foldl_cons, rfcStep_digit s d hb ha.1]
    cases ds with
    | nil => simp [decFrom]
    | cons e es =>
      rw [ih { s with cur := s.cur * 10 + digitVal d, ph := digPh s.ph } hb ha.2 (by simp)]
      simp [decFrom, digPh_idem]

theorem fmtInt_nonneg (i : Int) (h : 0 ≤ i) : fmtInt i = fmtNat i.toNat := by
  unfold fmtInt; rw [if_neg (Int.not_lt.mpr h)]

theorem rfc_run_nat (n : Nat) (s : RfcSt) (hb : s.bad = false) (hc : s.cur = 0) :
    (fmtNat n).foldl rfcStep s = { s with cur := n, ph := digPh s.ph } := by
  rw [rfc_run_digits _ s hb (fmtNat_all n) (fmtNat_ne_nil n), hc]
  have := decVal_fmtNat n
  unfold decVal at this
  rw [this]

/-- What a server should read back from the header sent for `reqs`. -/
def pairsOf (reqs : List Region) : List (Nat × Nat) := reqs.map fun r => (r.b.toNat, r.e.toNat)

/-- One range `first-last` (a byte-range-spec of RFC 7233). -/
theorem rfc_run_spec (r : Region) (hb : 0 ≤ r.b) (he : 0 ≤ r.e) (acc : List (Nat × Nat)) :
    (fmtInt r.b ++ [45] ++ fmtInt r.e).foldl rfcStep { acc := acc } =
      { acc := acc, first := r.b.toNat, cur := r.e.toNat, ph := 3, bad := false } := by
  rw [fmtInt_nonneg _ hb, fmtInt_nonneg _ he, List.foldl_append, List.foldl_append,
    rfc_run_nat r.b.toNat { acc := acc } rfl rfl]
  exact rfc_run_nat r.e.toNat { acc := acc, first := r.b.toNat, ph := 2 } rfl rfl

theorem rfc_run_ranges (reqs : List Region) (h : ∀ r ∈ reqs, 0 ≤ r.b ∧ 0 ≤ r.e) :
    ∀ acc, (rangesStr reqs).foldl rfcStep { acc := acc } = { acc := acc ++ pairsOf reqs } := by
  induction reqs with
  | nil => intro acc; rw [pairsOf, List.map_nil, List.append_nil]; rfl
  | cons r rs ih =>
    intro acc
    obtain ⟨hb, he⟩ := h r (List.mem_cons_self ..)
    rw [rangesStr, List.append_assoc (fmtInt r.b ++ [45] ++ fmtInt r.e), List.foldl_append,
      rfc_run_spec r hb he acc, List.foldl_append]
    -- the comma ends the range `first-last`: one step of the automaton on a concrete character
    show (rangesStr rs).foldl rfcStep { acc := acc ++ [(r.b.toNat, r.e.toNat)] } = _
    rw [ih (fun r' hm => h r' (List.mem_cons_of_mem _ hm)), List.append_assoc]
    rfl

theorem rangesStr_append (a b : List Region) : rangesStr (a ++ b) = rangesStr a ++ rangesStr b := by
  induction a with
  | nil => rfl
  | cons r rs ih => simp [rangesStr, ih]

theorem rfcParse_header (reqs : List Region) (hne : reqs ≠ []) (h : ∀ r ∈ reqs, 0 ≤ r.b ∧ 0 ≤ r.e) :
    rangesStr reqs ≠ [] ∧ rfcParse (bytesEq ++ (rangesStr reqs).dropLast) = some (pairsOf reqs) := by
  rcases List.eq_nil_or_concat reqs with h0 | ⟨init, r, hreq⟩
  · exact absurd h0 hne
  · rw [List.concat_eq_append] at hreq
    subst hreq
    obtain ⟨hb, he⟩ := h r (List.mem_append_right _ (List.mem_singleton_self r))
    rw [rangesStr_append, rangesStr, rangesStr, List.append_nil, ← List.append_assoc,
      List.dropLast_concat]
    refine ⟨List.append_ne_nil_of_right_ne_nil _ (List.cons_ne_nil _ _), ?_⟩
    unfold rfcParse
    rw [dropPrefix?_append]
    dsimp only
    rw [List.foldl_append, rfc_run_ranges init (fun r' hm => h r' (List.mem_append_left _ hm)) [],
      rfc_run_spec r hb he]
    unfold pairsOf
    rw [List.map_append]
    rfl

theorem squash_spec (rs : List Region) (hne : rs ≠ []) (h : ∀ r ∈ rs, 0 ≤ r.b ∧ r.b ≤ r.e) :
    WF (squash rs) ∧ (∀ l ∈ squash rs, 0 ≤ l.b) ∧ squash rs ≠ [] := by
  refine ⟨wf_foldl_add rs (fun r hr => (h r hr).2) [] wf_nil, fun l hl =>
    (foldl_add_ends (fun x => 0 ≤ x) (fun _ => True) rs []
      (fun r hr => ⟨(h r hr).1, trivial⟩) nofun l hl).1, ?_⟩
  -- the first request stays covered
  obtain ⟨r, hr⟩ := List.exists_mem_of_ne_nil rs hne
  obtain ⟨l, hl, _⟩ := (cov_foldl_add r.b rs []).mpr (Or.inr ⟨r, hr, Int.le_refl _, (h r hr).2⟩)
  exact List.ne_nil_of_mem hl

end SV.HttpRange
