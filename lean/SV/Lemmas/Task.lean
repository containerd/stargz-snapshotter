/-
Lemmas for C13: `WF` is inductive for `step`, the variant `mu` decreases on every event except
`doPrio`, and some event other than `doPrio` is enabled until every invocation has returned.
`forcePass` at the end is not used by C13: it justifies the trace acceptor of `Driver/C13`, which
replays a logged `bg.pass_wait` after the events it was overtaken by.
-/
import SV.Model.Task

namespace SV.Task

theorem sumBy_set (f : Invo → Nat) :
    ∀ (l : List Invo) (i : Nat) (v v' : Invo), l[i]? = some v →
      sumBy f (l.set i v') + f v = sumBy f l + f v'
  | [], _, _, _, h => by cases h
  | a :: l, 0, v, v', h => by
    cases h
    show f v' + sumBy f l + f a = f a + sumBy f l + f v'
    omega
  | a :: l, i + 1, v, v', h => by
    have := sumBy_set f l i v v' h
    show f a + sumBy f (l.set i v') + f v = f a + sumBy f l + f v'
    omega

theorem sumBy_le (f g : Invo → Nat) :
    ∀ (l : List Invo), (∀ v ∈ l, f v ≤ g v) → sumBy f l ≤ sumBy g l
  | [], _ => Nat.le_refl _
  | a :: l, h =>
    Nat.add_le_add (h a (List.mem_cons_self ..)) (sumBy_le f g l fun v hv => h v (List.mem_cons_of_mem _ hv))

theorem sumBy_congr (f g : Invo → Nat) (l : List Invo) (h : ∀ v ∈ l, f v = g v) :
    sumBy f l = sumBy g l :=
  Nat.le_antisymm (sumBy_le f g l fun v hv => Nat.le_of_eq (h v hv))
    (sumBy_le g f l fun v hv => Nat.le_of_eq (h v hv).symm)

theorem sumBy_replicate_zero (f : Invo → Nat) (v : Invo) (h : f v = 0) :
    ∀ n, sumBy f (List.replicate n v) = 0
  | 0 => rfl
  | n + 1 => by
    show f v + sumBy f (List.replicate n v) = 0
    rw [h, sumBy_replicate_zero f v h n]

theorem exists_of_sumBy_pos (f : Invo → Nat) :
    ∀ (l : List Invo), 0 < sumBy f l → ∃ (i : Nat) (v : Invo), l[i]? = some v ∧ 0 < f v
  | [], h => absurd h (Nat.lt_irrefl 0)
  | a :: l, h => by
    by_cases ha : 0 < f a
    · exact ⟨0, a, rfl, ha⟩
    · have h' : 0 < f a + sumBy f l := h
      obtain ⟨i, v, hi, hv⟩ := exists_of_sumBy_pos f l (by omega)
      exact ⟨i + 1, v, hi, hv⟩

/-- What a step is, event by event; the one place where `step` is opened for a step that happened. -/
inductive Stepped (s : State) : Event → State → Prop
  | inv {i a v sf v'} : s.invs[i]? = some v → localStep true s.semFree s.prio s.epoch v a = some (sf, v') →
      Stepped s (.inv i a) { s with semFree := sf, invs := s.invs.set i v' }
  | doPrio : Stepped s .doPrio { s with prio := s.prio + 1, epoch := s.epoch + 1 }
  | donePrio : s.silent < s.prio → Stepped s .donePrio { s with silent := s.silent + 1 }
  | silenceElapsed : 0 < s.silent ∧ 0 < s.prio →
      Stepped s .silenceElapsed { s with prio := s.prio - 1, silent := s.silent - 1 }

theorem step_cases {s s' : State} {e : Event} (h : step s e = some s') : Stepped s e s' := by
  cases e <;> simp only [step, stepGen] at h
  · cases h; exact .doPrio
  · split at h <;> cases h; exact .donePrio ‹_›
  · split at h <;> cases h; exact .silenceElapsed ‹_›
  · split at h
    · cases h
    · split at h <;> cases h
      exact .inv ‹_› ‹_›

theorem getElem?_set_of_some {l : List Invo} {i : Nat} {v : Invo} (v' : Invo) (h : l[i]? = some v) :
    (l.set i v')[i]? = some v' :=
  List.getElem?_set_self (List.getElem?_eq_some_iff.mp h).1

/-- `Good` survives a move to a later epoch and any change of `prio` that keeps it zero when the
epoch stays: only `running` looks at them. -/
theorem good_mono {epoch prio epoch' prio' : Nat} {v : Invo} (h : Good epoch prio v) (he : epoch ≤ epoch')
    (hp : epoch' = epoch → prio = 0 → prio' = 0) : Good epoch' prio' v := by
  unfold Good at *
  refine ⟨h.1, ?_⟩
  split <;> simp_all
  omega

theorem WF.good {s : State} (hw : WF s) {i : Nat} {v : Invo} (hv : s.invs[i]? = some v) :
    Good s.epoch s.prio v := hw.2.2 v (List.mem_of_getElem? hv)

/-- Weight of one invocation in the progress variant.  Every action must descend:
`waitZero 8 → passed 7 → haveSem 6 → running 4+alive → doneOk 2 → finished 1 → returned 0` while
`prio = 0`; `passed 11 → haveSem 10 → backoff 9 → waitZero 8` while `prio > 0`; a body watching an
old epoch: `running 12+alive → cancelling 10+alive → cancelDone 9 → waitZero 8`; `bodyReturns`
lowers `alive`.  `doPrio` raises weights (7→11, 6→10, 4→12), so it is excluded; a falling `prio`
only lowers them (`wt_silence`). -/
def wt (epoch prio : Nat) (v : Invo) : Nat :=
  match v.pc with
  | .returned => 0
  | .finished => 1
  | .doneOk => 2
  | .running e0 => (if e0 < epoch then 12 else 4) + v.aliveN
  | .cancelling => 10 + v.aliveN
  | .cancelDone => 9
  | .backoff => 9
  | .waitZero => 8
  | .passed => if prio = 0 then 7 else 11
  | .haveSem => if prio = 0 then 6 else 10

/-- The progress variant: pending prioritized work + the distance of every invocation from
`returned`.  `donePrio` lowers `prio - silent`, `silenceElapsed` lowers `prio` and keeps
`prio - silent`. -/
def mu (s : State) : Nat :=
  s.prio + (s.prio - s.silent) + sumBy (wt s.epoch s.prio) s.invs

/-- One action keeps `Good` and `semFree + holdW` (`wf_step`), lowers `wt` (`mu_step`); alive bodies grow
only at a quiet `decideStart`. -/
theorem localStep_spec {sf prio epoch : Nat} {v : Invo} {a : Act} {sf' : Nat} {v' : Invo}
    (h : localStep true sf prio epoch v a = some (sf', v')) (hg : Good epoch prio v) :
    Good epoch prio v' ∧ sf' + holdW v' = sf + holdW v ∧ wt epoch prio v' < wt epoch prio v ∧
    (v'.aliveN ≤ v.aliveN ∨ (a = .decideStart ∧ prio = 0)) := by
  obtain ⟨pc, cur, orph, canc⟩ := v
  obtain ⟨rfl, hg⟩ := hg
  -- every action but `bodyReturns` and `orphanReturns` fixes the program counter by its guard
  cases a <;> simp only [localStep] at h <;> split at h <;> (try split at h) <;> (try cases h)
  case bodyReturns => cases pc <;> simp_all [Good, holdW, holds, wt, Invo.aliveN]
  all_goals simp_all [Good, holdW, holds, wt, Invo.aliveN] <;> (try split) <;> omega

theorem wf_init (cap n : Nat) : WF (init cap n) := by
  refine ⟨Nat.le_refl _, ?_, fun v hv => ?_⟩
  · show cap + sumBy holdW (List.replicate n ({} : Invo)) = cap
    rw [sumBy_replicate_zero holdW {} rfl n]
    rfl
  · cases List.eq_of_mem_replicate hv
    show Good 0 0 ({} : Invo)
    decide

theorem run_nil (s : State) : run s [] = some s := rfl

theorem run_cons (s : State) (e : Event) (es : List Event) :
    run s (e :: es) = (step s e).bind (fun s1 => run s1 es) := by
  simp only [run, runGen, step]; cases stepGen true s e <;> rfl

theorem run_cons_some {s s' : State} {e : Event} {es : List Event} :
    run s (e :: es) = some s' ↔ ∃ s1, step s e = some s1 ∧ run s1 es = some s' := by
  rw [run_cons, Option.bind_eq_some_iff]

theorem run_induction (P : State → Prop) (hstep : ∀ s e s', P s → step s e = some s' → P s') :
    ∀ {es : List Event} {s s' : State}, P s → run s es = some s' → P s'
  | [], _, _, hp, h => Option.some.inj h ▸ hp
  | e :: es, s, s', hp, h => by
    obtain ⟨s1, h1, h⟩ := run_cons_some.mp h
    exact run_induction P hstep (hstep s e s1 hp h1) h

theorem wf_step {s s' : State} {e : Event} (hw : WF s) (h : step s e = some s') : WF s' := by
  have ⟨h1, h2, h3⟩ := hw
  cases step_cases h with
  | doPrio =>
    exact ⟨Nat.le_succ_of_le h1, h2, fun v hv => good_mono (h3 v hv) (Nat.le_succ _) fun e => absurd e (Nat.succ_ne_self _)⟩
  | donePrio hlt => exact ⟨hlt, h2, h3⟩
  | silenceElapsed =>
    exact ⟨Nat.sub_le_sub_right h1 1, h2, fun v hv => good_mono (h3 v hv) (Nat.le_refl _) fun _ hp => by rw [hp]⟩
  | @inv i _ v sf v' hv hl =>
    obtain ⟨g1, g2, _⟩ := localStep_spec hl (hw.good hv)
    refine ⟨h1, ?_, fun w hw => ?_⟩
    · have := sumBy_set holdW s.invs i v v' hv
      show sf + sumBy holdW (s.invs.set i v') = s.cap
      have h2' : s.semFree + sumBy holdW s.invs = s.cap := h2
      omega
    · rcases List.mem_or_eq_of_mem_set hw with hw | rfl
      · exact h3 w hw
      · exact g1

def Reachable (cap n : Nat) (s : State) : Prop := ∃ es, run (init cap n) es = some s

theorem Reachable.wf {cap n : Nat} {s : State} (h : Reachable cap n s) : WF s := by
  obtain ⟨es, h⟩ := h
  exact run_induction WF (fun _ _ _ hw hs => wf_step hw hs) (wf_init cap n) h

theorem run_append {s s1 : State} {es : List Event} (h : run s es = some s1) (fs : List Event) :
    run s (es ++ fs) = run s1 fs := by
  induction es generalizing s with
  | nil => cases h; rfl
  | cons e es ih =>
    obtain ⟨s2, h2, h⟩ := run_cons_some.mp h
    rw [List.cons_append, run_cons, h2]
    exact ih h

theorem Reachable.next {cap n : Nat} {s s' : State} {e : Event} (h : Reachable cap n s)
    (hs : step s e = some s') : Reachable cap n s' := by
  obtain ⟨es, h⟩ := h
  refine ⟨es ++ [e], ?_⟩
  rw [run_append h, run_cons, hs]
  rfl

theorem Reachable.cap_eq {cap n : Nat} {s : State} (h : Reachable cap n s) : s.cap = cap := by
  obtain ⟨es, h⟩ := h
  refine run_induction (fun t => t.cap = cap) (fun s e s' hc hs => ?_) rfl h
  cases step_cases hs <;> exact hc

theorem aliveN_le_holdW {epoch prio : Nat} {v : Invo} (h : Good epoch prio v) :
    v.aliveN ≤ holdW v ∧ (holds v.pc = false → v.aliveN = 0) := by
  obtain ⟨pc, cur, orph, canc⟩ := v
  obtain ⟨rfl, hg⟩ := h
  cases cur
  · exact ⟨Nat.zero_le _, fun _ => rfl⟩
  · -- a body is alive only in `running` and `cancelling`, where a slot is held
    cases pc <;> try cases (hg : true = false)
    all_goals exact ⟨Nat.le_refl 1, fun h => by cases h⟩

theorem wf_safe {s : State} (hw : WF s) : Safe s := by
  obtain ⟨_, h2, h3⟩ := hw
  refine ⟨?_, ?_⟩
  · have := sumBy_le Invo.aliveN holdW s.invs (fun v hv => (aliveN_le_holdW (h3 v hv)).1)
    simp only [aliveTotal, holders] at *; omega
  · intro v hv
    have := aliveN_le_holdW (h3 v hv)
    refine ⟨?_, this.2⟩
    have h1 := this.1
    unfold holdW at h1
    split at h1 <;> omega

theorem wt_silence (epoch prio : Nat) (v : Invo) : wt epoch (prio - 1) v ≤ wt epoch prio v := by
  unfold wt
  split <;> first
    | omega
    | (split <;> split <;> omega)

theorem mu_step {s s' : State} {e : Event} (hw : WF s) (he : e ≠ .doPrio)
    (h : step s e = some s') : mu s' < mu s := by
  have ⟨h1, h2, h3⟩ := hw
  cases step_cases h with
  | doPrio => exact absurd rfl he
  | donePrio => simp only [mu]; omega
  | silenceElapsed =>
    have := sumBy_le (wt s.epoch (s.prio - 1)) (wt s.epoch s.prio) s.invs
      (fun v _ => wt_silence s.epoch s.prio v)
    simp only [mu]; omega
  | @inv i _ v sf v' hv hl =>
    obtain ⟨_, _, g3, _⟩ := localStep_spec hl (hw.good hv)
    have := sumBy_set (wt s.epoch s.prio) s.invs i v v' hv
    simp only [mu]; omega

theorem mu_run {s s' : State} {es : List Event} (hw : WF s) (hno : Event.doPrio ∉ es)
    (h : run s es = some s') : mu s' + es.length ≤ mu s := by
  induction es generalizing s with
  | nil => cases h; exact Nat.le_refl _
  | cons e es ih =>
    obtain ⟨s1, h1, h⟩ := run_cons_some.mp h
    have := ih (wf_step hw h1) (fun hh => hno (List.mem_cons_of_mem _ hh)) h
    have := mu_step hw (fun hh => hno (hh ▸ List.mem_cons_self ..)) h1
    simp only [List.length_cons]; omega

theorem step_inv_isSome {s : State} {j : Nat} {w : Invo} {a : Act} (hj : s.invs[j]? = some w)
    (h : (localStep true s.semFree s.prio s.epoch w a).isSome) : (step s (.inv j a)).isSome := by
  simp only [step, stepGen, hj]
  cases hl : localStep true s.semFree s.prio s.epoch w a with
  | none => simp [hl] at h
  | some p => simp

/-- An invocation that holds a semaphore slot can always move (when `prio = 0`), provided bodies
return: this is where the "bodies terminate" part of the fairness assumption enters. -/
theorem holder_enabled {s : State} (hp : s.prio = 0) {j : Nat} {w : Invo}
    (hj : s.invs[j]? = some w) (hh : holds w.pc = true) : ∃ a, (step s (.inv j a)).isSome := by
  obtain ⟨pc, cur, orph, canc⟩ := w
  cases pc <;> simp [holds] at hh
  · exact ⟨.decideStart, step_inv_isSome hj (by simp [localStep, hp])⟩
  · exact ⟨.release, step_inv_isSome hj (by simp [localStep])⟩
  · cases cur
    · exact ⟨.observeDone, step_inv_isSome hj (by simp [localStep])⟩
    · exact ⟨.bodyReturns, step_inv_isSome hj (by simp [localStep])⟩
  · cases cur
    · exact ⟨.observeDoneAfterCancel, step_inv_isSome hj (by simp [localStep])⟩
    · exact ⟨.bodyReturns, step_inv_isSome hj (by simp [localStep])⟩
  · exact ⟨.release, step_inv_isSome hj (by simp [localStep])⟩
  · exact ⟨.release, step_inv_isSome hj (by simp [localStep])⟩

def AllReturned (s : State) : Prop := ∀ v ∈ s.invs, v.pc = .returned

instance (s : State) : Decidable (AllReturned s) := by unfold AllReturned; infer_instance

theorem some_event_enabled {s : State} (hw : WF s) (hcap : 0 < s.cap)
    (hnot : ¬ AllReturned s) : ∃ e, e ≠ Event.doPrio ∧ (step s e).isSome := by
  obtain ⟨h1, h2, _⟩ := hw
  by_cases hp : s.prio = 0
  · obtain ⟨v, hv, hne⟩ : ∃ v ∈ s.invs, v.pc ≠ .returned :=
      Classical.byContradiction fun hn => hnot fun v hv => Classical.byContradiction fun hne => hn ⟨v, hv, hne⟩
    obtain ⟨i, hi⟩ := List.getElem?_of_mem hv
    by_cases hh : holds v.pc = true
    · obtain ⟨a, ha⟩ := holder_enabled hp hi hh
      exact ⟨.inv i a, by simp, ha⟩
    · obtain ⟨pc, cur, orph, canc⟩ := v
      cases pc <;> simp [holds] at hh hne
      · exact ⟨.inv i .passWait, by simp, step_inv_isSome hi (by simp [localStep, hp])⟩
      · by_cases hs : 0 < s.semFree
        · exact ⟨.inv i .acquire, by simp, step_inv_isSome hi (by simp [localStep, hs])⟩
        · have : 0 < sumBy holdW s.invs := by simp only [holders] at h2; omega
          obtain ⟨j, w, hj, hwp⟩ := exists_of_sumBy_pos holdW s.invs this
          have hh' : holds w.pc = true := by
            unfold holdW at hwp; split at hwp
            · assumption
            · omega
          obtain ⟨a, ha⟩ := holder_enabled hp hj hh'
          exact ⟨.inv j a, by simp, ha⟩
      · exact ⟨.inv i .ret, by simp, step_inv_isSome hi (by simp [localStep])⟩
  · by_cases hs : s.silent < s.prio
    · exact ⟨.donePrio, by simp, by simp [step, stepGen, hs]⟩
    · exact ⟨.silenceElapsed, by simp, by
        have : 0 < s.silent ∧ 0 < s.prio := by omega
        simp [step, stepGen, this]⟩

theorem exists_of_get {o : Option State} (h : o.isSome = true) (P : State → Prop)
    (hp : P (o.get h)) : ∃ s, o = some s ∧ P s := ⟨o.get h, by simp, hp⟩

theorem forcePass_eq_passWait (s : State) (i : Nat) (hp : s.prio = 0) :
    forcePass s i = step s (.inv i .passWait) := by
  simp only [forcePass, step, stepGen, localStep, hp]
  cases s.invs[i]? with
  | none => rfl
  | some v => by_cases h : v.pc = .waitZero <;> simp [h]

theorem step_set_comm (s : State) (i : Nat) (v' : Invo) (e : Event) (he : ∀ a, e ≠ .inv i a) :
    step { s with invs := s.invs.set i v' } e = (step s e).map fun t => { t with invs := t.invs.set i v' } := by
  cases e with
  | doPrio => rfl
  | donePrio => simp only [step, stepGen]; split <;> rfl
  | silenceElapsed => simp only [step, stepGen]; split <;> rfl
  | inv j a =>
    have hij : i ≠ j := fun hh => he a (by rw [hh])
    simp only [step, stepGen, List.getElem?_set_ne hij]
    cases s.invs[j]? with
    | none => rfl
    | some w =>
      simp only
      cases localStep true s.semFree s.prio s.epoch w a with
      | none => rfl
      | some p => simp only [Option.map_some, List.set_comm _ _ hij]

theorem step_getElem?_ne {s t : State} {i : Nat} {e : Event} (he : ∀ a, e ≠ .inv i a)
    (h : step s e = some t) : t.invs[i]? = s.invs[i]? := by
  cases step_cases h with
  | inv => exact List.getElem?_set_ne (fun hh => he _ (by rw [hh]))
  | _ => rfl

theorem forcePass_cases (s : State) (i : Nat) :
    (∀ t : State, t.invs[i]? = s.invs[i]? → forcePass t i = none) ∨
    ∃ v', ∀ t : State, t.invs[i]? = s.invs[i]? → forcePass t i = some { t with invs := t.invs.set i v' } := by
  cases hi : s.invs[i]? with
  | none => exact Or.inl fun t ht => by rw [forcePass, ht]
  | some v =>
    by_cases hv : v.pc = .waitZero
    · exact Or.inr ⟨{ v with pc := .passed }, fun t ht => by rw [forcePass, ht]; exact if_pos hv⟩
    · exact Or.inl fun t ht => by rw [forcePass, ht]; exact if_neg hv

/-- `forcePass i` commutes with every event that is not an action of invocation `i`: applying it
where the hook logged `bg.pass_wait` gives the same state as taking `passWait` at the earlier
point where the wait loop read `prioritizedTasks == 0`. -/
theorem forcePass_comm (s : State) (i : Nat) (e : Event) (he : ∀ a, e ≠ .inv i a) :
    (forcePass s i).bind (fun s1 => step s1 e) = (step s e).bind (fun s1 => forcePass s1 i) := by
  rcases forcePass_cases s i with h | ⟨v', h⟩
  · rw [h s rfl]
    cases ht : step s e with
    | none => rfl
    | some t => exact (h t (step_getElem?_ne he ht)).symm
  · rw [h s rfl, Option.bind_some, step_set_comm s i v' e he]
    cases ht : step s e with
    | none => rfl
    | some t => exact (h t (step_getElem?_ne he ht)).symm

end SV.Task
