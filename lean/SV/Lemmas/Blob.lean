/-
Vocabulary and lemmas for the model of fs/remote/blob.go (`SV/Model/Blob.lean`), C06.
`StoreTrace` with `storeChunks_walk` / `storeParts_walk` / `fetchMissing_walk` and `commits_inv` give
`fetchMissing_spec`, and `storeParts_ok` its success against an honest server; with `classify_spec`,
`tiles_readAt` and `assemble_lookup` that gives `readAt_specQ` and `readAt_honest_ok`, then
`runOps_specQ`.  Last, `bytesWriter` (`BW.write_dest`) and the retry state machine (`FetchCase`).
`Op`, `stepOp`, `runOps`, `trace`, `dropEntry`, `truncEntry` are defined here, not in the model.
`SV.Props.C06` is imported for `InBlob`, the type of a field of `Inv` and `InvQ`; `SV.Model.BlobShared`
for `Cache.lose`.
-/
import SV.Model.BlobShared
import SV.Lemmas.Region
import SV.Props.C06

namespace SV.Blob
open SV.Region

/-! ## floor / ceil and multiples of the chunk size -/

theorem floorU_le (n c : Nat) : floorU n c ≤ n := Nat.div_mul_le_self n c

theorem lt_floorU_add (n c : Nat) (h : 0 < c) : n < floorU n c + c := Nat.lt_div_mul_add h

theorem floorU_mod (n c : Nat) : floorU n c % c = 0 := Nat.mul_mod_left ..

theorem ceilU_eq (n c : Nat) : ceilU n c = floorU n c + c := Nat.succ_mul ..

theorem aligned_add_le {a b c : Nat} (ha : a % c = 0) (hb : b % c = 0) (h : a < b) :
    a + c ≤ b := by
  obtain ⟨k, rfl⟩ := Nat.dvd_of_mod_eq_zero ha
  obtain ⟨m, rfl⟩ := Nat.dvd_of_mod_eq_zero hb
  rw [← Nat.mul_succ]
  exact Nat.mul_le_mul_left c (Nat.lt_of_mul_lt_mul_left h)

theorem aligned_le_floorU {i x c : Nat} (hi : i % c = 0) (h : i ≤ x) :
    i ≤ floorU x c := by
  rcases Nat.eq_zero_or_pos c with rfl | hc
  · rw [Nat.mod_zero] at hi; rw [hi]; exact Nat.zero_le _
  · exact Nat.le_of_not_lt fun hlt => Nat.lt_irrefl x
      (Nat.lt_of_lt_of_le (lt_floorU_add x c hc)
        (Nat.le_trans (aligned_add_le (floorU_mod x c) hi hlt) h))

theorem aligned_le_ceil {i x c : Nat} (hc : 0 < c) (hi : i % c = 0) :
    i ≤ ceilU x c - 1 ↔ i ≤ x := by
  rw [ceilU_eq]
  constructor
  · intro h
    refine Nat.le_trans (Nat.le_of_not_lt fun hlt => ?_) (floorU_le x c)
    have := aligned_add_le (floorU_mod x c) hi hlt
    omega
  · intro h
    have := lt_floorU_add x c hc
    omega

/-! ## slices -/

@[simp] theorem slice_length (b : Bytes) (lo len : Nat) :
    (slice b lo len).length = min len (b.length - lo) := by
  simp [slice]

theorem slice_zero (b : Bytes) (lo : Nat) : slice b lo 0 = [] := by simp [slice]

theorem slice_slice (b : Bytes) (lo len lo' len' : Nat) (h : lo' + len' ≤ len) :
    slice (slice b lo len) lo' len' = slice b (lo + lo') len' := by
  unfold slice
  rw [List.drop_take, List.take_take, List.drop_drop]
  congr 1; omega

theorem slice_append (b : Bytes) (a m l : Nat) :
    slice b a m ++ slice b (a + m) l = slice b a (m + l) := by
  unfold slice
  rw [List.take_add, List.drop_drop]

theorem take_slice (b : Bytes) (lo len m : Nat) :
    (slice b lo len).take m = slice b lo (min m len) := by
  unfold slice; rw [List.take_take]

theorem drop_slice (b : Bytes) (lo len m : Nat) :
    (slice b lo len).drop m = slice b (lo + m) (len - m) := by
  unfold slice; rw [List.drop_take, List.drop_drop]

theorem slice_self_length (B : Bytes) (lo len : Nat) :
    slice B lo len = slice B lo (slice B lo len).length := by
  rw [slice_length]
  unfold slice
  apply List.ext_getElem?
  intro j
  rw [List.getElem?_take, List.getElem?_take, List.getElem?_drop]
  by_cases h1 : j < len
  · by_cases h2 : j < min len (B.length - lo)
    · rw [if_pos h1, if_pos h2]
    · rw [if_pos h1, if_neg h2, List.getElem?_eq_none (by omega)]
  · rw [if_neg h1, if_neg (by omega)]

theorem getElem?_slice (b : Bytes) (lo len k : Nat) :
    (slice b lo len)[k]? = if k < len then b[lo + k]? else none := by
  unfold slice; rw [List.getElem?_take, List.getElem?_drop]

theorem slice_append_left (a b : Bytes) (lo len : Nat) (h : lo + len ≤ a.length) :
    slice (a ++ b) lo len = slice a lo len := by
  unfold slice
  rw [List.drop_append_of_le_length (Nat.le_trans (Nat.le_add_right ..) h),
    List.take_append_of_le_length (by rw [List.length_drop]; exact Nat.le_sub_of_add_le' h)]

/-! ## the chunk grid and `walkChunks` -/

def chunkAt (P : Params) (i : Nat) : Chunk := ⟨i, min (i + P.chunk - 1) (P.size - 1)⟩

/-- Number of iterations of `for i := b; i <= e && i < size; i += chunk`. -/
def numChunks (P : Params) (b e : Nat) : Nat :=
  if b ≤ e ∧ b < P.size then (min e (P.size - 1) - b) / P.chunk + 1 else 0

/-- Closed form of the chunk walk, without fuel. -/
def chunkList (P : Params) (b e : Nat) : List Chunk :=
  (List.range (numChunks P b e)).map (fun j => chunkAt P (b + j * P.chunk))

def GridChunk (P : Params) (c : Chunk) : Prop :=
  c.b % P.chunk = 0 ∧ c.b < P.size ∧ c.e = min (c.b + P.chunk - 1) (P.size - 1)

instance (P : Params) (c : Chunk) : Decidable (GridChunk P c) := by
  unfold GridChunk; infer_instance

theorem chunksFrom_succ (P : Params) (e fuel i : Nat) :
    chunksFrom P e (fuel + 1) i =
      if i ≤ e ∧ i < P.size then chunkAt P i :: chunksFrom P e fuel (i + P.chunk) else [] := rfl

theorem chunkAt_end (P : Params) (hc : 0 < P.chunk) (i : Nat) (h : i < P.size) :
    (chunkAt P i).e + 1 = min (i + P.chunk) P.size := by
  show min (i + P.chunk - 1) (P.size - 1) + 1 = _
  rw [← Nat.add_min_add_right, Nat.sub_add_cancel (Nat.le_trans hc (Nat.le_add_left ..)),
    Nat.sub_add_cancel (Nat.lt_of_le_of_lt (Nat.zero_le _) h)]

theorem chunkAt_size (P : Params) (hc : 0 < P.chunk) (i : Nat) (h : i < P.size) :
    (chunkAt P i).size = min (i + P.chunk) P.size - i :=
  congrArg (· - i) (chunkAt_end P hc i h)

theorem lt_numChunks_iff (P : Params) (hc : 0 < P.chunk) (b e j : Nat) :
    j < numChunks P b e ↔ (b + j * P.chunk ≤ e ∧ b + j * P.chunk < P.size) := by
  unfold numChunks
  split
  · rw [Nat.lt_succ_iff, Nat.le_div_iff_mul_le hc]
    omega
  · omega

theorem numChunks_step (P : Params) (hc : 0 < P.chunk) (i e : Nat) (h1 : i ≤ e) (h2 : i < P.size) :
    numChunks P i e = numChunks P (i + P.chunk) e + 1 := by
  unfold numChunks
  rw [if_pos ⟨h1, h2⟩]
  split
  · have : min e (P.size - 1) - i = (min e (P.size - 1) - (i + P.chunk)) + P.chunk := by omega
    rw [this, Nat.add_div_right _ hc]
  · have : min e (P.size - 1) - i < P.chunk := by omega
    rw [Nat.div_eq_of_lt this]

theorem numChunks_zero (P : Params) (i e : Nat) (h : ¬ (i ≤ e ∧ i < P.size)) :
    numChunks P i e = 0 := by
  unfold numChunks; rw [if_neg h]

theorem chunkList_step (P : Params) (hc : 0 < P.chunk) (i e : Nat) (h1 : i ≤ e) (h2 : i < P.size) :
    chunkList P i e = chunkAt P i :: chunkList P (i + P.chunk) e := by
  unfold chunkList
  rw [numChunks_step P hc i e h1 h2, List.range_succ_eq_map, List.map_cons, List.map_map]
  congr 1
  · simp
  · apply List.map_congr_left
    intro j _
    simp only [Function.comp, Nat.succ_eq_add_one, Nat.succ_mul]
    congr 1; omega

theorem chunksFrom_eq_chunkList (P : Params) (hc : 0 < P.chunk) (e fuel i : Nat) :
    P.size - i ≤ fuel → chunksFrom P e fuel i = chunkList P i e := by
  fun_induction chunksFrom P e fuel i with
  | case1 i =>
    intro h
    simp [chunkList, numChunks_zero P i e fun h' => by omega]
  | case2 fuel i hcond ih =>
    intro h
    rw [ih (by omega), chunkList_step P hc i e hcond.1 hcond.2]
    rfl
  | case3 fuel i hcond => exact fun _ => by simp [chunkList, numChunks_zero P i e hcond]

theorem chunksFrom_fuel_indep (P : Params) (hc : 0 < P.chunk) (e i f1 f2 : Nat)
    (h1 : P.size - i ≤ f1) (h2 : P.size - i ≤ f2) :
    chunksFrom P e f1 i = chunksFrom P e f2 i := by
  rw [chunksFrom_eq_chunkList P hc e f1 i h1, chunksFrom_eq_chunkList P hc e f2 i h2]

theorem walkChunks_eq (P : Params) (hc : 0 < P.chunk) (b e : Nat) :
    walkChunks P b e = if b % P.chunk = 0 then some (chunkList P b e) else none := by
  unfold walkChunks
  by_cases h : b % P.chunk = 0
  · simp [h, chunksFrom_eq_chunkList P hc e (P.size + 1) b (by omega)]
  · simp [h]

theorem chunkList_length (P : Params) (b e : Nat) : (chunkList P b e).length = numChunks P b e := by
  simp [chunkList]

theorem chunkList_getElem (P : Params) (b e j : Nat) (h : j < (chunkList P b e).length) :
    (chunkList P b e)[j] = chunkAt P (b + j * P.chunk) := by
  simp [chunkList]

theorem mem_chunkList (P : Params) (b e : Nat) (c : Chunk) :
    c ∈ chunkList P b e ↔ ∃ j, j < numChunks P b e ∧ c = chunkAt P (b + j * P.chunk) := by
  simp only [chunkList, List.mem_map, List.mem_range]
  constructor
  · rintro ⟨j, hj, rfl⟩; exact ⟨j, hj, rfl⟩
  · rintro ⟨j, hj, rfl⟩; exact ⟨j, hj, rfl⟩

theorem gridChunk_chunkAt (P : Params) (i : Nat) (hi : i % P.chunk = 0) (h : i < P.size) :
    GridChunk P (chunkAt P i) := ⟨hi, h, rfl⟩

theorem GridChunk.eq_chunkAt {P : Params} {c : Chunk} (h : GridChunk P c) : c = chunkAt P c.b := by
  cases c; simp only [chunkAt]; congr 1; exact h.2.2

theorem GridChunk.le {P : Params} {c : Chunk} (hc : 0 < P.chunk) (h : GridChunk P c) :
    c.b ≤ c.e ∧ c.e < P.size ∧ c.e < c.b + P.chunk := by
  have he := chunkAt_end P hc c.b h.2.1
  rw [← h.eq_chunkAt] at he
  refine ⟨Nat.le_of_lt_succ ?_, Nat.lt_of_succ_le ?_, Nat.lt_of_succ_le ?_⟩ <;>
    rw [Nat.succ_eq_add_one, he]
  · exact Nat.lt_min.mpr ⟨Nat.lt_add_of_pos_right hc, h.2.1⟩
  · exact Nat.min_le_right ..
  · exact Nat.min_le_left ..

theorem gridChunk_start_le {P : Params} {ch : Chunk} {a : Nat} (hg : GridChunk P ch)
    (ha : a % P.chunk = 0) (h : a < ch.b + P.chunk) : a ≤ ch.b :=
  Nat.le_of_not_lt fun hlt => by have := aligned_add_le hg.1 ha hlt; omega

theorem chunkAt_end_le {P : Params} {m : Chunk} (hc : 0 < P.chunk) (hm : GridChunk P m) {i : Nat}
    (hi : i % P.chunk = 0) (h : i ≤ m.e) : (chunkAt P i).e ≤ m.e := by
  have hib := gridChunk_start_le hm hi (Nat.lt_of_le_of_lt h (hm.le hc).2.2)
  rw [hm.2.2]
  exact Nat.le_min.mpr ⟨Nat.le_trans (Nat.min_le_left ..)
    (Nat.sub_le_sub_right (Nat.add_le_add_right hib _) 1), Nat.min_le_right ..⟩

theorem gridChunk_end_le {P : Params} {c : Chunk} {e : Nat} (hc : 0 < P.chunk)
    (hg : GridChunk P c) (he : c.b ≤ e) : c.e ≤ ceilU e P.chunk - 1 := by
  have := aligned_le_floorU hg.1 he
  have := hg.le hc
  rw [ceilU_eq]
  omega

theorem gridChunk_slice_length {P : Params} {B : Bytes} (hc : 0 < P.chunk) (hB : B.length = P.size)
    {c : Chunk} (hg : GridChunk P c) : (slice B c.b c.size).length = c.size := by
  rw [slice_length]
  exact Nat.min_eq_left (Nat.sub_le_sub_right (hB ▸ (hg.le hc).2.1) _)

theorem gridChunk_of_mem_chunkList (P : Params) (hc : 0 < P.chunk) (b e : Nat)
    (hb : b % P.chunk = 0) (c : Chunk) (h : c ∈ chunkList P b e) :
    GridChunk P c ∧ b ≤ c.b ∧ c.b ≤ e := by
  obtain ⟨j, hj, rfl⟩ := (mem_chunkList P b e c).mp h
  have := (lt_numChunks_iff P hc b e j).mp hj
  refine ⟨gridChunk_chunkAt P _ ?_ this.2, ?_, this.1⟩
  · rw [Nat.add_mul_mod_self_right]; exact hb
  · simp only [chunkAt]; omega

theorem mem_chunkList_of_grid (P : Params) (hc : 0 < P.chunk) {b e : Nat} (hb : b % P.chunk = 0)
    {c : Chunk} (hg : GridChunk P c) (h1 : b ≤ c.b) (h2 : c.b ≤ e) : c ∈ chunkList P b e := by
  have hdiv : (c.b - b) / P.chunk * P.chunk = c.b - b :=
    Nat.div_mul_cancel (Nat.dvd_of_mod_eq_zero (Nat.sub_mod_eq_zero_of_mod_eq (by rw [hg.1, hb])))
  have hcb : b + (c.b - b) / P.chunk * P.chunk = c.b := by rw [hdiv]; exact Nat.add_sub_cancel' h1
  refine (mem_chunkList P b e c).mpr ⟨(c.b - b) / P.chunk, ?_, ?_⟩
  · rw [lt_numChunks_iff P hc, hcb]; exact ⟨h2, hg.2.1⟩
  · rw [hcb]; exact hg.eq_chunkAt

theorem mem_chunkAt_iff (P : Params) (hc : 0 < P.chunk) (i x : Nat) (h : i < P.size) :
    ((chunkAt P i).b ≤ x ∧ x ≤ (chunkAt P i).e) ↔ (i ≤ x ∧ x < i + P.chunk ∧ x < P.size) := by
  rw [← Nat.lt_succ_iff (m := x), Nat.succ_eq_add_one, chunkAt_end P hc i h, Nat.lt_min]
  rfl

theorem chunkList_cover (P : Params) (hc : 0 < P.chunk) (b e : Nat) (hb : b % P.chunk = 0) (x : Nat) :
    (∃ c ∈ chunkList P b e, c.b ≤ x ∧ x ≤ c.e) ↔
      (b ≤ x ∧ x ≤ ceilU e P.chunk - 1 ∧ x < P.size) := by
  constructor
  · rintro ⟨c, hmem, hx⟩
    obtain ⟨j, hj, rfl⟩ := (mem_chunkList P b e c).mp hmem
    have hlt := (lt_numChunks_iff P hc b e j).mp hj
    rw [mem_chunkAt_iff P hc _ x hlt.2] at hx
    have := aligned_le_floorU (by rw [Nat.add_mul_mod_self_right]; exact hb) hlt.1
    rw [ceilU_eq]
    omega
  · rintro ⟨h1, h2, h3⟩
    have hj1 : (x - b) / P.chunk * P.chunk ≤ x - b := Nat.div_mul_le_self _ _
    have hj2 : x - b < (x - b) / P.chunk * P.chunk + P.chunk := Nat.lt_div_mul_add hc
    generalize (x - b) / P.chunk = j at hj1 hj2
    have hle : b + j * P.chunk ≤ e :=
      (aligned_le_ceil hc (by rw [Nat.add_mul_mod_self_right]; exact hb)).mp (by omega)
    have hlt : b + j * P.chunk < P.size := by omega
    exact ⟨chunkAt P (b + j * P.chunk),
      (mem_chunkList P b e _).mpr ⟨j, (lt_numChunks_iff P hc b e j).mpr ⟨hle, hlt⟩, rfl⟩,
      (mem_chunkAt_iff P hc _ x hlt).mpr (by omega)⟩

theorem chunksFrom_of_size_le (P : Params) (e fuel i : Nat) (h : P.size ≤ i) :
    chunksFrom P e fuel i = [] := by
  cases fuel with
  | zero => rfl
  | succ f => unfold chunksFrom; rw [if_neg (by omega)]

theorem chunksFrom_ceil (P : Params) (hc : 0 < P.chunk) (x fuel i : Nat) : i % P.chunk = 0 →
    chunksFrom P (ceilU x P.chunk - 1) fuel i = chunksFrom P x fuel i := by
  fun_induction chunksFrom P x fuel i with
  | case1 i => exact fun _ => rfl
  | case2 fuel i hcond ih =>
    intro hi
    rw [chunksFrom, if_pos ⟨(aligned_le_ceil hc hi).mpr hcond.1, hcond.2⟩,
      ih (by rw [Nat.add_mod_right]; exact hi)]
  | case3 fuel i hcond =>
    intro hi
    rw [chunksFrom, if_neg fun h => hcond ⟨(aligned_le_ceil hc hi).mp h.1, h.2⟩]

/-! ## placement of a chunk in the caller's buffer; `Tiles` -/

theorem place_expected (o n : Nat) (c : Chunk) :
    (place o n c).expected = min (c.e + 1) (o + n) - max c.b o := by
  simp only [place, Chunk.size]
  rw [Nat.sub_right_comm (c.e + 1), Nat.sub_sub_eq_min, Nat.sub_sub, Nat.add_comm c.b,
    Nat.sub_add_eq_max, Nat.max_comm]

theorem place_offsets (o n : Nat) (c : Chunk) :
    c.b + (place o n c).lower = o + (place o n c).base := by
  show c.b + (o - c.b) = o + (c.b - o)
  rw [Nat.add_comm, Nat.sub_add_eq_max, Nat.add_comm, Nat.sub_add_eq_max, Nat.max_comm]

theorem place_base_add (o n : Nat) (c : Chunk) (h : max c.b o ≤ min (c.e + 1) (o + n)) :
    (place o n c).base + (place o n c).expected = min (c.e + 1) (o + n) - o := by
  rw [place_expected]
  show c.b - o + _ = _
  rw [Nat.sub_eq_max_sub, Nat.add_comm, Nat.sub_add_sub_cancel h (Nat.le_max_right ..)]

theorem place_lower_add (o n : Nat) (c : Chunk) (h : max c.b o ≤ min (c.e + 1) (o + n)) :
    (place o n c).lower + (place o n c).expected = min (c.e + 1) (o + n) - c.b := by
  rw [place_expected]
  show o - c.b + _ = _
  rw [Nat.sub_eq_max_sub, Nat.max_comm, Nat.add_comm, Nat.sub_add_sub_cancel h (Nat.le_max_left ..)]

theorem place_slice (B : Bytes) (o n : Nat) (c : Chunk) :
    slice (slice B c.b c.size) (place o n c).lower (place o n c).expected =
      slice B (o + (place o n c).base) (place o n c).expected := by
  by_cases h : max c.b o ≤ min (c.e + 1) (o + n)
  · rw [slice_slice, place_offsets]
    rw [place_lower_add o n c h]
    exact Nat.sub_le_sub_right (Nat.min_le_left ..) _
  · rw [place_expected, Nat.sub_eq_zero_of_le (Nat.le_of_not_le h), slice_zero, slice_zero]

/-- `Tiles a ps k`: the intervals `[base, base+expected)` of `ps` are consecutive, start at `a`
and end at `k`. -/
def Tiles : Nat → List Place → Nat → Prop
  | a, [], k => a = k
  | a, p :: ps, k => p.base = a ∧ Tiles (a + p.expected) ps k

instance : ∀ (a : Nat) (ps : List Place) (k : Nat), Decidable (Tiles a ps k)
  | a, [], k => by unfold Tiles; infer_instance
  | a, p :: ps, k => by
    unfold Tiles
    have := instDecidableTiles (a + p.expected) ps k
    infer_instance

theorem Tiles.le : ∀ {a : Nat} {ps : List Place} {k : Nat}, Tiles a ps k → a ≤ k
  | a, [], k, h => by unfold Tiles at h; omega
  | a, p :: ps, k, h => by
    unfold Tiles at h
    have := Tiles.le h.2
    omega

/-- Bytes of the buffer already final when the walk is at chunk start `i`. -/
def progress (P : Params) (o n i : Nat) : Nat := min i (min (o + n) P.size) - o

theorem adjust_eq (P : Params) (n o : Nat) : adjust P n o = min n (P.size - o) := by
  unfold adjust; split <;> omega

theorem progress_step (P : Params) (o n i : Nat) (hc : 0 < P.chunk) (hn : 0 < n) (ho : o ≤ P.size)
    (hi : o < i + P.chunk) (h1 : i ≤ o + n - 1) (h2 : i < P.size) :
    (place o n (chunkAt P i)).base = progress P o n i ∧
    progress P o n i + (place o n (chunkAt P i)).expected = progress P o n (i + P.chunk) := by
  have hW : i < min (o + n) P.size := Nat.lt_min.mpr ⟨by omega, h2⟩
  have hb : (place o n (chunkAt P i)).base = progress P o n i := by
    rw [progress, Nat.min_eq_left (Nat.le_of_lt hW)]; rfl
  have he : min ((chunkAt P i).e + 1) (o + n) = min (i + P.chunk) (min (o + n) P.size) := by
    rw [chunkAt_end P hc i h2, Nat.min_assoc, Nat.min_comm P.size]
  refine ⟨hb, ?_⟩
  rw [← hb, place_base_add, he, progress]
  rw [he]
  exact Nat.max_le.mpr ⟨Nat.le_min.mpr ⟨Nat.le_add_right .., Nat.le_of_lt hW⟩,
    Nat.le_min.mpr ⟨Nat.le_of_lt hi, Nat.le_min.mpr ⟨Nat.le_add_right .., ho⟩⟩⟩

theorem progress_done (P : Params) (o n i : Nat) (h : ¬ (i ≤ o + n - 1 ∧ i < P.size)) :
    progress P o n i = adjust P n o := by
  have hW : min (o + n) P.size ≤ i := by omega
  rw [adjust_eq, progress, Nat.min_eq_right hW, ← Nat.sub_min_sub_right, Nat.add_sub_cancel_left]

theorem tiles_chunksFrom (P : Params) (hc : 0 < P.chunk) (o n : Nat) (hn : 0 < n)
    (ho : o ≤ P.size) (fuel i : Nat) : P.size - i ≤ fuel → o < i + P.chunk →
      Tiles (progress P o n i) ((chunksFrom P (o + n - 1) fuel i).map (place o n)) (adjust P n o) := by
  fun_induction chunksFrom P (o + n - 1) fuel i with
  | case1 i => exact fun hf _ => progress_done P o n i (fun h => by omega)
  | case2 fuel i hcond ih =>
    intro hf hi
    obtain ⟨hb, hstep⟩ := progress_step P o n i hc hn ho hi hcond.1 hcond.2
    exact ⟨hb, hstep ▸ ih (by omega) (by omega)⟩
  | case3 fuel i hcond => exact fun _ _ => progress_done P o n i hcond

/-- The chunk list of `cacheAt(o, n)` / `ReadAt(o, n)`. -/
def rangeChunks (P : Params) (o n : Nat) : List Chunk :=
  chunksFrom P (o + n - 1) (P.size + 1) (floorU o P.chunk)

theorem walk_readAt (P : Params) (hc : 0 < P.chunk) (o n : Nat) :
    walkChunks P (floorU o P.chunk) (ceilU (o + n - 1) P.chunk - 1) =
      some (rangeChunks P o n) := by
  unfold walkChunks
  rw [if_neg (by rw [floorU_mod]; simp), chunksFrom_ceil P hc _ _ _ (floorU_mod ..)]
  rfl

theorem rangeChunks_eq (P : Params) (hc : 0 < P.chunk) (o n : Nat) :
    rangeChunks P o n = chunkList P (floorU o P.chunk) (o + n - 1) :=
  chunksFrom_eq_chunkList P hc _ _ _ (Nat.le_succ_of_le (Nat.sub_le ..))

theorem gridChunk_of_mem_rangeChunks (P : Params) (hc : 0 < P.chunk) (o n : Nat) (c : Chunk)
    (h : c ∈ rangeChunks P o n) : GridChunk P c ∧ o < c.b + P.chunk ∧ c.b ≤ o + n - 1 := by
  rw [rangeChunks_eq P hc] at h
  obtain ⟨hg, ha, hb⟩ := gridChunk_of_mem_chunkList P hc _ _ (floorU_mod ..) c h
  exact ⟨hg, Nat.lt_of_lt_of_le (lt_floorU_add o P.chunk hc) (Nat.add_le_add_right ha _), hb⟩

theorem mem_rangeChunks (P : Params) (hc : 0 < P.chunk) (o n : Nat) (hn : 0 < n) (ch : Chunk) :
    ch ∈ rangeChunks P o n ↔ (GridChunk P ch ∧ o < ch.b + P.chunk ∧ ch.b < o + n) := by
  constructor
  · intro h
    obtain ⟨hg, ha, hb⟩ := gridChunk_of_mem_rangeChunks P hc o n ch h
    exact ⟨hg, ha, by omega⟩
  · rintro ⟨hg, ha, hb⟩
    rw [rangeChunks_eq P hc]
    exact mem_chunkList_of_grid P hc (floorU_mod ..) hg
      (gridChunk_start_le hg (floorU_mod ..) (Nat.lt_of_le_of_lt (floorU_le o P.chunk) ha))
      (Nat.le_pred_of_lt hb)

theorem rangeChunks_sorted (P : Params) (hc : 0 < P.chunk) (o n : Nat) :
    (rangeChunks P o n).Pairwise (fun a c => a.b < c.b) := by
  rw [rangeChunks_eq P hc]
  unfold chunkList
  rw [List.pairwise_map]
  apply List.Pairwise.imp _ List.pairwise_lt_range
  intro a b hab
  simp only [chunkAt]
  have := Nat.mul_lt_mul_of_pos_right hab hc
  omega

theorem tiles_readAt (P : Params) (hc : 0 < P.chunk) (o n : Nat) (hn : 0 < n) (ho : o ≤ P.size) :
    Tiles 0 ((rangeChunks P o n).map (place o n)) (adjust P n o) := by
  have := tiles_chunksFrom P hc o n hn ho (P.size + 1) (floorU o P.chunk) (by omega)
    (lt_floorU_add o _ hc)
  have h0 : progress P o n (floorU o P.chunk) = 0 := by
    have := floorU_le o P.chunk
    unfold progress; omega
  rwa [h0] at this

theorem place_bounds (P : Params) (hc : 0 < P.chunk) (o n : Nat) (ho : o ≤ P.size)
    (c : Chunk) (h : c ∈ rangeChunks P o n) :
    (o - c.b) + ((c.e + 1) - (o + n)) ≤ c.size ∧
    (place o n c).base + (place o n c).expected ≤ n ∧
    (place o n c).lower + (place o n c).expected ≤ c.size := by
  obtain ⟨hg, h1, h2⟩ := gridChunk_of_mem_rangeChunks P hc o n c h
  have he := chunkAt_end P hc c.b hg.2.1
  rw [← hg.eq_chunkAt] at he
  -- the chunk meets the read window
  have hm : max c.b o ≤ min (c.e + 1) (o + n) :=
    Nat.max_le.mpr ⟨Nat.le_min.mpr ⟨Nat.le_succ_of_le (hg.le hc).1, Nat.le_trans h2 (Nat.sub_le ..)⟩,
      Nat.le_min.mpr ⟨he ▸ Nat.le_min.mpr ⟨Nat.le_of_lt h1, ho⟩, Nat.le_add_right o n⟩⟩
  rw [place_base_add o n c hm, place_lower_add o n c hm]
  refine ⟨?_, ?_, Nat.sub_le_sub_right (Nat.min_le_left ..) _⟩
  · show o - c.b + _ ≤ c.e + 1 - c.b
    rw [Nat.sub_eq_sub_min (c.e + 1), Nat.sub_eq_max_sub, Nat.max_comm, Nat.add_comm,
      ← Nat.sub_add_sub_cancel (Nat.min_le_left (c.e + 1) (o + n))
        (Nat.le_trans (Nat.le_max_left c.b o) hm)]
    exact Nat.add_le_add_left (Nat.sub_le_sub_right hm c.b) _
  · exact Nat.le_trans (Nat.sub_le_sub_right (Nat.min_le_right ..) o)
      (Nat.le_of_eq (Nat.add_sub_cancel_left ..))

/-! ## `writeAt` -/

theorem writeAt_length (buf : Bytes) (base : Nat) (seg : Bytes) (h : base + seg.length ≤ buf.length) :
    (writeAt buf base seg).length = buf.length := by
  simp [writeAt]; omega

theorem writeAt_take (buf : Bytes) (base : Nat) (seg : Bytes) (h : base ≤ buf.length) :
    (writeAt buf base seg).take (base + seg.length) = buf.take base ++ seg := by
  unfold writeAt
  apply List.take_left'
  simp; omega

theorem writeAt_nil (buf : Bytes) (base : Nat) : writeAt buf base [] = buf := by
  simp [writeAt]

theorem writeAt_getElem? (buf : Bytes) (base : Nat) (seg : Bytes) (h : base ≤ buf.length) (j : Nat) :
    (writeAt buf base seg)[j]? =
      if j < base then buf[j]? else if j < base + seg.length then seg[j - base]? else buf[j]? := by
  unfold writeAt
  rw [List.append_assoc, List.getElem?_append, List.length_take, Nat.min_eq_left h,
    List.getElem?_take, List.getElem?_append, List.getElem?_drop]
  by_cases h1 : j < base
  · rw [if_pos h1, if_pos h1, if_pos h1]
  · rw [if_neg h1, if_neg h1]
    by_cases h2 : j - base < seg.length
    · rw [if_pos h2, if_pos (by omega)]
    · rw [if_neg h2, if_neg (by omega)]; congr 1; omega

/-! ## state invariants (`Inv`, `InvQ`) and honest replies -/

def CacheOK (P : Params) (B : Bytes) (cache : Cache) : Prop :=
  ∀ c d, cache.get c = some d → d = slice B c.b c.size ∧ GridChunk P c

/-- The body of a part is a prefix of the blob bytes starting at the announced offset
(possibly shorter than announced: a short body must give an error, never wrong bytes). -/
def HonestPart (B : Bytes) (p : Part) : Prop := p.data = slice B p.b p.data.length

instance (B : Bytes) (p : Part) : Decidable (HonestPart B p) := by
  unfold HonestPart; infer_instance

def HonestReply (B : Bytes) : Reply → Prop
  | .fail => True
  | .parts ps => ∀ p ∈ ps, HonestPart B p

instance (B : Bytes) : (r : Reply) → Decidable (HonestReply B r)
  | .fail => by unfold HonestReply; infer_instance
  | .parts ps => by unfold HonestReply; infer_instance

/-- The strong invariant: `InvQ` (below) at `QExact` (`Inv.invQ`, `InvQ.inv`). -/
structure Inv (P : Params) (B : Bytes) (s : St) : Prop where
  cacheOK : CacheOK P B s.cache
  wf : WF s.fetched
  inBlob : SV.Props.C06.InBlob P.size s.fetched

/-- Generic form of the invariant: `Q c d` is what is known about a cache entry `d` stored under
key `c`. -/
structure InvQ (P : Params) (Q : Chunk → Bytes → Prop) (s : St) : Prop where
  cacheQ : ∀ c d, s.cache.get c = some d → Q c d
  wf : WF s.fetched
  inBlob : SV.Props.C06.InBlob P.size s.fetched

/-- What the proofs need from `Q`: the true data of a grid chunk may be stored, and every entry is
at least a prefix of the true blob bytes from the chunk start. -/
structure GoodQ (P : Params) (B : Bytes) (Q : Chunk → Bytes → Prop) : Prop where
  put : ∀ c, GridChunk P c → Q c (slice B c.b c.size)
  pre : ∀ c d, Q c d → d = slice B c.b d.length

def QExact (P : Params) (B : Bytes) (c : Chunk) (d : Bytes) : Prop :=
  d = slice B c.b c.size ∧ GridChunk P c

/-- Entry is a (possibly truncated) prefix of the true bytes at the chunk start: what a cache
that may return short data still guarantees. -/
def QPrefix (P : Params) (B : Bytes) (c : Chunk) (d : Bytes) : Prop :=
  d = slice B c.b d.length ∧ GridChunk P c

def CachePrefixOK (P : Params) (B : Bytes) (cache : Cache) : Prop :=
  ∀ c d, cache.get c = some d → QPrefix P B c d

def CovSub (s s' : St) : Prop := ∀ x, cov x s.fetched → cov x s'.fetched

theorem CovSub.refl (s : St) : CovSub s s := fun _ h => h
theorem CovSub.trans {a b c : St} (h1 : CovSub a b) (h2 : CovSub b c) : CovSub a c :=
  fun x h => h2 x (h1 x h)

def Exact (P : Params) (B : Bytes) (got : List (Chunk × Bytes)) : Prop :=
  ∀ cd ∈ got, QExact P B cd.1 cd.2

theorem inv_init (P : Params) (B : Bytes) : Inv P B {} :=
  ⟨nofun, wf_nil, nofun⟩

theorem invQ_init (P : Params) (Q : Chunk → Bytes → Prop) : InvQ P Q {} :=
  ⟨nofun, wf_nil, nofun⟩

theorem Inv.invQ {P : Params} {B : Bytes} {s : St} (h : Inv P B s) : InvQ P (QExact P B) s :=
  ⟨h.cacheOK, h.wf, h.inBlob⟩

theorem InvQ.inv {P : Params} {B : Bytes} {s : St} (h : InvQ P (QExact P B) s) : Inv P B s :=
  ⟨h.cacheQ, h.wf, h.inBlob⟩

theorem goodQ_exact (P : Params) (B : Bytes) : GoodQ P B (QExact P B) :=
  ⟨fun _ hg => ⟨rfl, hg⟩, fun _ _ h => by rw [h.1]; exact slice_self_length B _ _⟩

theorem goodQ_prefix (P : Params) (B : Bytes) : GoodQ P B (QPrefix P B) :=
  ⟨fun _ hg => ⟨slice_self_length B _ _, hg⟩, fun _ _ h => h.1⟩

/-! ## keyed lists: `find?` by chunk, `Cache.get` -/

theorem find?_key {β : Type} (l : List (Chunk × β)) (c : Chunk) :
    (∃ b, (c, b) ∈ l ∧ l.find? (fun kv => kv.1 = c) = some (c, b)) ∨
    (l.find? (fun kv => kv.1 = c) = none ∧ ∀ b, (c, b) ∉ l) := by
  cases hf : l.find? (fun kv => kv.1 = c) with
  | none => exact Or.inr ⟨rfl, fun b hb => by simpa using List.find?_eq_none.mp hf (c, b) hb⟩
  | some kv =>
    obtain ⟨k, b⟩ := kv
    obtain rfl : k = c := by simpa using List.find?_some hf
    exact Or.inl ⟨b, List.mem_of_find?_eq_some hf, rfl⟩

theorem find?_key_or {β : Type} {l : List (Chunk × β)} {c : Chunk} {X : Prop}
    (h : (∃ b, (c, b) ∈ l) ∨ X) :
    (∃ b, (c, b) ∈ l ∧ l.find? (fun kv => kv.1 = c) = some (c, b)) ∨
    (l.find? (fun kv => kv.1 = c) = none ∧ X) :=
  (find?_key l c).imp_right fun ⟨hf, hno⟩ => ⟨hf, h.resolve_left fun ⟨b, hb⟩ => hno b hb⟩

theorem find?_key_of_mem {β : Type} {l : List (Chunk × β)} {c : Chunk} (h : ∃ kv ∈ l, kv.1 = c) :
    ∃ b, (c, b) ∈ l ∧ l.find? (fun kv => kv.1 = c) = some (c, b) :=
  (find?_key l c).resolve_right fun ⟨_, hno⟩ =>
    let ⟨kv, hkv, e⟩ := h; hno kv.2 (by rw [← e]; exact hkv)

theorem find?_map_key {β : Type} (f : Chunk × β → Chunk × β) (hf : ∀ kv, (f kv).1 = kv.1)
    (l : List (Chunk × β)) (c : Chunk) :
    (l.map f).find? (fun kv => kv.1 = c) = (l.find? (fun kv => kv.1 = c)).map f := by
  rw [List.find?_map]
  congr 2
  funext kv
  simp only [Function.comp, hf]

theorem find?_filter_key {β : Type} (l : List (Chunk × β)) (c c' : Chunk) :
    (l.filter fun kv => kv.1 ≠ c).find? (fun kv => kv.1 = c') =
      if c' = c then none else l.find? (fun kv => kv.1 = c') := by
  rw [List.find?_filter]
  by_cases h : c' = c
  · rw [if_pos h, List.find?_eq_none]
    intro kv _
    simp [h]
  · rw [if_neg h]
    congr 1
    funext kv
    by_cases hk : kv.1 = c'
    · simp [hk, h]
    · simp [hk]

theorem Cache.get_singleton {c0 c : Chunk} {d0 d : Bytes}
    (h : Cache.get [(c0, d0)] c = some d) : c = c0 ∧ d = d0 := by
  unfold Cache.get at h
  rw [List.find?_cons] at h
  split at h
  · rename_i hc
    exact ⟨(of_decide_eq_true hc).symm, (Option.some.inj h).symm⟩
  · cases h

theorem Cache.get_put_some (cache : Cache) (c c' : Chunk) (d d' : Bytes)
    (h : (cache.put c d).get c' = some d') : cache.get c' = some d' ∨ (c' = c ∧ d' = d) := by
  unfold Cache.put at h
  split at h
  · exact Or.inl h
  · unfold Cache.get at h ⊢
    rw [List.find?_append] at h
    cases hf : cache.find? (fun kv => decide (kv.1 = c')) with
    | some kv => rw [hf] at h; exact Or.inl (by simpa using h)
    | none =>
      rw [hf] at h
      right
      by_cases hcc : c = c'
      · subst hcc; simp at h; exact ⟨rfl, h.symm⟩
      · simp [hcc] at h

/-! ## the store loops: `commit`, `StoreTrace`, `fetchMissing` -/

/-- `cacheChunkData` adds a chunk to the cache and its region to the fetched set in one step;
whatever the reply, the state after `fetchRegions` is the old state plus a list of such steps. -/
def commit (s : St) (cd : Chunk × Bytes) : St :=
  { cache := s.cache.put cd.1 cd.2, fetched := add s.fetched cd.1.toRegion }

theorem storeChunks_cons (s : St) (stream : Bytes) (c : Chunk) (cs : List Chunk) :
    storeChunks s stream (c :: cs) =
      if stream.length < c.size then (s, none)
      else
        let R := storeChunks (commit s (c, stream.take c.size)) (stream.drop c.size) cs
        (R.1, R.2.map ((c, stream.take c.size) :: ·)) := by
  simp only [storeChunks, commit]

/-- The outcome `R` of a store loop from `s`: the state is `s` plus the commits of pairs that
satisfy `C`, and on success exactly those pairs are delivered. -/
def StoreTrace (C : Chunk × Bytes → Prop) (s : St) (R : St × Option (List (Chunk × Bytes))) : Prop :=
  ∃ stored, R.1 = stored.foldl commit s ∧ (∀ cd ∈ stored, C cd) ∧
    ∀ got, R.2 = some got → got = stored

theorem StoreTrace.stop {C : Chunk × Bytes → Prop} {s : St} : StoreTrace C s (s, none) :=
  ⟨[], rfl, nofun, nofun⟩

theorem StoreTrace.nil {C : Chunk × Bytes → Prop} {s : St} : StoreTrace C s (s, some []) :=
  ⟨[], rfl, nofun, fun _ h => by cases h; rfl⟩

theorem StoreTrace.seq {C : Chunk × Bytes → Prop} {s s1 : St} {got1 : List (Chunk × Bytes)}
    {R : St × Option (List (Chunk × Bytes))} (h : StoreTrace C s (s1, some got1)) (h' : StoreTrace C s1 R) :
    StoreTrace C s (R.1, R.2.map (got1 ++ ·)) := by
  obtain ⟨st1, h1, h2, h3⟩ := h
  obtain ⟨st2, k1, k2, k3⟩ := h'
  refine ⟨st1 ++ st2, by rw [List.foldl_append, ← h1]; exact k1,
    fun cd hcd => (List.mem_append.mp hcd).elim (h2 cd) (k2 cd), fun got hgot => ?_⟩
  obtain ⟨got', hg', rfl⟩ := Option.map_eq_some_iff.mp hgot
  rw [h3 got1 rfl, k3 got' hg']

/-- The store loop over a walk: `J` is what is known of the rest of the stream at chunk start `i`,
`C` what follows for the pair committed there. -/
theorem storeChunks_walk (P : Params) (e : Nat) (C : Chunk × Bytes → Prop) (J : Nat → Bytes → Prop)
    (step : ∀ i stream, J i stream → i ≤ e ∧ i < P.size → (chunkAt P i).size ≤ stream.length →
      C (chunkAt P i, stream.take (chunkAt P i).size) ∧
        J (i + P.chunk) (stream.drop (chunkAt P i).size))
    (fuel i : Nat) : ∀ (s : St) (stream : Bytes), J i stream →
      StoreTrace C s (storeChunks s stream (chunksFrom P e fuel i)) := by
  fun_induction chunksFrom P e fuel i with
  | case1 i => exact fun s stream _ => StoreTrace.nil
  | case2 fuel i hcond ih =>
    intro s stream hJ
    show StoreTrace C s (storeChunks s stream (chunkAt P i :: _))
    rw [storeChunks_cons]
    by_cases hlen : stream.length < (chunkAt P i).size
    · rw [if_pos hlen]; exact StoreTrace.stop
    · rw [if_neg hlen]
      obtain ⟨hC, hJ'⟩ := step i stream hJ hcond (Nat.le_of_not_lt hlen)
      have hcd : StoreTrace C s (commit s (chunkAt P i, stream.take (chunkAt P i).size),
          some [(chunkAt P i, stream.take (chunkAt P i).size)]) :=
        ⟨[_], rfl, List.forall_mem_cons.mpr ⟨hC, nofun⟩, fun _ h => by cases h; rfl⟩
      exact hcd.seq (ih _ _ hJ')
  | case3 fuel i hcond => exact fun s stream _ => StoreTrace.nil

theorem storeParts_cons (P : Params) (s : St) (p : Part) (ps : List Part) :
    storeParts P s (p :: ps) =
      if p.b % P.chunk ≠ 0 then (s, none)
      else
        let R := storeChunks s p.data (chunksFrom P p.e (P.size + 1) p.b)
        match R.2 with
        | none => (R.1, none)
        | some got =>
          let R' := storeParts P R.1 ps
          (R'.1, R'.2.map (got ++ ·)) := by
  by_cases h : p.b % P.chunk ≠ 0
  · simp only [storeParts, walkChunks, if_pos h]
  · simp only [storeParts, walkChunks, if_neg h]
    rcases storeChunks s p.data (chunksFrom P p.e (P.size + 1) p.b) with ⟨s', _ | got⟩ <;> rfl

theorem storeParts_walk (P : Params) (C : Chunk × Bytes → Prop) (H : Part → Prop)
    (part : ∀ p, H p → p.b % P.chunk = 0 → ∀ s : St,
      StoreTrace C s (storeChunks s p.data (chunksFrom P p.e (P.size + 1) p.b))) :
    ∀ (ps : List Part) (s : St), (∀ p ∈ ps, H p) → StoreTrace C s (storeParts P s ps) := by
  intro ps
  induction ps with
  | nil => exact fun s _ => StoreTrace.nil
  | cons p ps ih =>
    intro s hH
    rw [storeParts_cons]
    by_cases hal : p.b % P.chunk = 0
    · rw [if_neg fun h => h hal]
      have h1 := part p (hH p (List.mem_cons_self ..)) hal s
      generalize storeChunks s p.data (chunksFrom P p.e (P.size + 1) p.b) = R at h1
      obtain ⟨s1, r1⟩ := R
      cases r1 with
      | none => exact h1
      | some got1 => exact h1.seq (ih s1 fun p' h' => hH p' (List.mem_cons_of_mem _ h'))
    · rw [if_pos hal]; exact StoreTrace.stop

theorem fetchMissing_walk (P : Params) (C : Chunk × Bytes → Prop) (s : St) (missing : List Chunk)
    (reply : Reply) (hps : ∀ ps, reply = .parts ps → StoreTrace C s (storeParts P s ps)) :
    StoreTrace C s (fetchMissing P s missing reply) ∧
      ∀ got, (fetchMissing P s missing reply).2 = some got → ∀ c ∈ missing, ∃ cd ∈ got, cd.1 = c := by
  unfold fetchMissing
  by_cases hemp : missing.isEmpty = true
  · rw [if_pos hemp]
    rw [List.isEmpty_iff] at hemp
    subst hemp
    exact ⟨StoreTrace.nil, fun _ _ => nofun⟩
  · rw [if_neg hemp]
    cases reply with
    | fail => exact ⟨StoreTrace.stop, nofun⟩
    | parts ps =>
      have ht := hps ps rfl
      simp only
      generalize storeParts P s ps = R at ht
      obtain ⟨s1, r1⟩ := R
      cases r1 with
      | none => exact ⟨ht, nofun⟩
      | some got1 =>
        dsimp only
        by_cases hall : (missing.all fun c => got1.any fun g => g.1 = c) = true
        · rw [if_pos hall]
          refine ⟨ht, fun got h c hcm => ?_⟩
          cases h
          obtain ⟨g, hg, hgc⟩ := List.any_eq_true.mp (List.all_eq_true.mp hall c hcm)
          exact ⟨g, hg, of_decide_eq_true hgc⟩
        · rw [if_neg hall]
          obtain ⟨stored, h1, h2, _⟩ := ht
          exact ⟨⟨stored, h1, h2, nofun⟩, nofun⟩

theorem commits_fetched : ∀ (stored : List (Chunk × Bytes)) (s : St),
    (stored.foldl commit s).fetched = (stored.map (·.1.toRegion)).foldl add s.fetched
  | [], _ => rfl
  | cd :: stored, s => commits_fetched stored (commit s cd)

theorem commits_get : ∀ (stored : List (Chunk × Bytes)) (s : St) (c : Chunk) (d : Bytes),
    (stored.foldl commit s).cache.get c = some d → s.cache.get c = some d ∨ (c, d) ∈ stored := by
  intro stored
  induction stored with
  | nil => intro s c d h; exact Or.inl h
  | cons cd stored ih =>
    intro s c d h
    rcases ih (commit s cd) c d h with h | h
    · rcases Cache.get_put_some _ _ _ _ _ h with h | ⟨rfl, rfl⟩
      · exact Or.inl h
      · exact Or.inr (List.mem_cons_self ..)
    · exact Or.inr (List.mem_cons_of_mem _ h)

theorem commits_cov (x : Int) (stored : List (Chunk × Bytes)) (s : St) :
    cov x (stored.foldl commit s).fetched ↔
      (cov x s.fetched ∨ ∃ cd ∈ stored, (cd.1.b : Int) ≤ x ∧ x ≤ cd.1.e) := by
  rw [commits_fetched, cov_foldl_add]
  refine or_congr_right ⟨fun ⟨r, hr, h⟩ => ?_, fun ⟨cd, hcd, h⟩ => ⟨_, List.mem_map_of_mem hcd, h⟩⟩
  obtain ⟨cd, hcd, rfl⟩ := List.mem_map.mp hr
  exact ⟨cd, hcd, h⟩

theorem commits_inv (P : Params) (B : Bytes) (Q : Chunk → Bytes → Prop) (hQ : GoodQ P B Q)
    (hc : 0 < P.chunk) (stored : List (Chunk × Bytes)) (s : St) (hs : InvQ P Q s)
    (hex : Exact P B stored) :
    InvQ P Q (stored.foldl commit s) ∧ CovSub s (stored.foldl commit s) := by
  have hv : ∀ r ∈ stored.map (·.1.toRegion), r.b ≤ r.e ∧ 0 ≤ r.b ∧ r.e < (P.size : Int) := by
    intro r hr
    obtain ⟨cd, hcd, rfl⟩ := List.mem_map.mp hr
    have := (hex cd hcd).2.le hc
    simp only [Chunk.toRegion]; omega
  have h1 := wf_foldl_add _ (fun r hr => (hv r hr).1) _ hs.wf
  have h2 := foldl_add_ends (0 ≤ ·) (· < (P.size : Int)) _ _ (fun r hr => (hv r hr).2) hs.inBlob
  rw [← commits_fetched] at h1 h2
  refine ⟨⟨fun c d h => ?_, h1, h2⟩, fun x hx => (commits_cov x stored s).mpr (Or.inl hx)⟩
  rcases commits_get stored s c d h with h | h
  · exact hs.cacheQ c d h
  · obtain ⟨hd, hg⟩ : QExact P B c d := hex _ h
    exact hd ▸ hQ.put c hg

theorem storeChunks_exact (P : Params) (B : Bytes) (hc : 0 < P.chunk) (p : Part)
    (hp : HonestPart B p) (hal : p.b % P.chunk = 0) (s : St) :
    StoreTrace (fun cd => QExact P B cd.1 cd.2) s
      (storeChunks s p.data (chunksFrom P p.e (P.size + 1) p.b)) := by
  refine storeChunks_walk P p.e _
    (fun i stream => i % P.chunk = 0 ∧ (i < P.size → stream = slice B i stream.length))
    (fun i stream hJ hcond hlen => ?_) _ _ s p.data ⟨hal, fun _ => hp⟩
  have hst' := hJ.2 hcond.2
  refine ⟨⟨?_, gridChunk_chunkAt P i hJ.1 hcond.2⟩, by rw [Nat.add_mod_right]; exact hJ.1,
    fun hlt => ?_⟩
  · show stream.take _ = slice B i _
    rw [hst', take_slice, Nat.min_eq_left hlen]
  · rw [chunkAt_size P hc i hcond.2, Nat.min_eq_left (Nat.le_of_lt hlt),
      Nat.add_sub_cancel_left, List.length_drop]
    conv => lhs; rw [hst']
    exact drop_slice ..

theorem fetchMissing_spec (P : Params) (B : Bytes) (Q : Chunk → Bytes → Prop) (hQ : GoodQ P B Q)
    (hc : 0 < P.chunk) (s : St)
    (missing : List Chunk) (reply : Reply) (hs : InvQ P Q s) (hr : HonestReply B reply) :
    InvQ P Q (fetchMissing P s missing reply).1 ∧ CovSub s (fetchMissing P s missing reply).1 ∧
    ∀ got, (fetchMissing P s missing reply).2 = some got →
      Exact P B got ∧ ∀ c ∈ missing, ∃ cd ∈ got, cd.1 = c := by
  obtain ⟨⟨stored, h1, h2, h3⟩, h4⟩ := fetchMissing_walk P _ s missing reply fun ps e =>
    storeParts_walk P _ (HonestPart B) (fun p hp hal s => storeChunks_exact P B hc p hp hal s) ps s
      (by subst e; exact hr)
  obtain ⟨k1, k2⟩ := commits_inv P B Q hQ hc stored s hs h2
  rw [h1]
  exact ⟨k1, k2, fun got hg => ⟨h3 got hg ▸ h2, h4 got hg⟩⟩

/-! ## requested ranges -/

/-- The squashed request set of `httpFetcher.fetch`. -/
def reqSet (missing : List Chunk) : List Region :=
  missing.foldl (fun acc c => add acc c.toRegion) []

theorem requestRanges_eq (single : Bool) (missing : List Chunk) :
    requestRanges single missing =
      if single then (match superRegion (reqSet missing) with | some r => [r] | none => [])
      else reqSet missing := rfl

theorem reqSet_eq (missing : List Chunk) :
    reqSet missing = (missing.map Chunk.toRegion).foldl add [] :=
  List.foldl_map.symm

theorem request_covers (missing : List Chunk) (single : Bool) :
    ∀ c ∈ missing, ∀ x : Int, (c.b : Int) ≤ x → x ≤ c.e → cov x (requestRanges single missing) := by
  intro c hc x h1 h2
  have hx : cov x (reqSet missing) := by
    rw [reqSet_eq, cov_foldl_add]
    exact Or.inr ⟨c.toRegion, List.mem_map_of_mem hc, h1, h2⟩
  rw [requestRanges_eq]
  cases single with
  | false => exact hx
  | true =>
    simp only [if_true]
    obtain ⟨l, hl, hl1, hl2⟩ := hx
    obtain ⟨r, hr, hall, _, _⟩ := superRegion_of_ne_nil (List.ne_nil_of_mem hl)
    rw [hr]
    have := hall l hl
    exact ⟨r, List.mem_cons_self .., by omega, by omega⟩

def GridStart (P : Params) (x : Int) : Prop := ∃ m : Chunk, GridChunk P m ∧ (m.b : Int) = x
def GridEnd (P : Params) (x : Int) : Prop := ∃ m : Chunk, GridChunk P m ∧ (m.e : Int) = x

theorem requestRanges_grid (P : Params) (hc : 0 < P.chunk) (missing : List Chunk)
    (hm : ∀ c ∈ missing, GridChunk P c) (single : Bool) :
    ∀ r ∈ requestRanges single missing, r.b ≤ r.e ∧ GridStart P r.b ∧ GridEnd P r.e := by
  have hreg : ∀ r ∈ missing.map Chunk.toRegion, r.b ≤ r.e ∧ GridStart P r.b ∧ GridEnd P r.e := by
    intro r hr
    obtain ⟨c, hcm, rfl⟩ := List.mem_map.mp hr
    exact ⟨Int.ofNat_le.mpr ((hm c hcm).le hc).1, ⟨c, hm c hcm, rfl⟩, ⟨c, hm c hcm, rfl⟩⟩
  have hwf : WF (reqSet missing) := by
    rw [reqSet_eq]; exact wf_foldl_add _ (fun r hr => (hreg r hr).1) [] wf_nil
  have hends : ∀ l ∈ reqSet missing, GridStart P l.b ∧ GridEnd P l.e := by
    rw [reqSet_eq]
    exact foldl_add_ends _ _ _ [] (fun r hr => (hreg r hr).2) nofun
  intro r hr
  rw [requestRanges_eq] at hr
  cases single with
  | false => exact ⟨hwf.1 r hr, hends r hr⟩
  | true =>
    simp only [if_true] at hr
    by_cases hne' : reqSet missing = []
    · rw [hne'] at hr; cases hr
    · obtain ⟨r', hr', hall, ⟨x, hx, hxb⟩, ⟨y, hy, hye⟩⟩ := superRegion_of_ne_nil hne'
      rw [hr'] at hr
      simp only [List.mem_singleton] at hr
      subst hr
      have h1 := hall x hx
      have h2 := hwf.1 x hx
      refine ⟨by omega, ?_, ?_⟩
      · rw [hxb]; exact (hends x hx).1
      · rw [hye]; exact (hends y hy).2

/-! ## an honest server lets the fetch succeed -/

/-- Success needs its own induction: `StoreTrace` says nothing about whether the result is `none`. -/
theorem storeChunks_ok (P : Params) (hc : 0 < P.chunk) (e : Nat)
    (he : ∃ m, GridChunk P m ∧ m.e = e) (fuel i : Nat) :
    ∀ (s : St) (stream : Bytes), i % P.chunk = 0 → e + 1 - i ≤ stream.length →
      ∃ got, (storeChunks s stream (chunksFrom P e fuel i)).2 = some got ∧
        got.map (·.1) = chunksFrom P e fuel i := by
  obtain ⟨m, hm, rfl⟩ := he
  fun_induction chunksFrom P m.e fuel i with
  | case1 i => exact fun s stream _ _ => ⟨[], rfl, rfl⟩
  | case2 fuel i hcond ih =>
    intro s stream hi hlen
    have hend := chunkAt_end_le hc hm hi hcond.1
    have hsz : (chunkAt P i).size ≤ stream.length ∧ (chunkAt P i).size ≤ P.chunk :=
      ⟨Nat.le_trans (Nat.sub_le_sub_right (Nat.succ_le_succ hend) i) hlen,
        chunkAt_size P hc i hcond.2 ▸ Nat.sub_le_iff_le_add'.mpr (Nat.min_le_left ..)⟩
    show ∃ got, (storeChunks s stream (chunkAt P i :: _)).2 = some got ∧ _
    rw [storeChunks_cons, if_neg (Nat.not_lt.mpr hsz.1)]
    obtain ⟨got, hg1, hg2⟩ := ih
      (commit s (chunkAt P i, stream.take (chunkAt P i).size))
      (stream.drop (chunkAt P i).size) (by rw [Nat.add_mod_right]; exact hi)
      (by rw [List.length_drop, Nat.sub_add_eq]
          exact Nat.le_trans (Nat.sub_le_sub_right hlen _) (Nat.sub_le_sub_left hsz.2 _))
    exact ⟨_, congrArg (Option.map _) hg1, by rw [List.map_cons, hg2]; rfl⟩
  | case3 fuel i hcond => exact fun s stream _ _ => ⟨[], rfl, rfl⟩

def FullGridPart (P : Params) (p : Part) : Prop :=
  p.b % P.chunk = 0 ∧ (∃ m, GridChunk P m ∧ m.e = p.e) ∧ p.e + 1 - p.b ≤ p.data.length

theorem storeParts_ok (P : Params) (hc : 0 < P.chunk) :
    ∀ (ps : List Part) (s : St),
      (∀ p ∈ ps, FullGridPart P p) →
      ∃ got, (storeParts P s ps).2 = some got ∧
        ∀ p ∈ ps, ∀ ch ∈ chunksFrom P p.e (P.size + 1) p.b, ∃ g ∈ got, g.1 = ch := by
  intro ps
  induction ps with
  | nil => intro s _; exact ⟨[], rfl, nofun⟩
  | cons p ps ih =>
    intro s hps
    obtain ⟨hp1, hp2, hp3⟩ := hps p (List.mem_cons_self ..)
    rw [storeParts_cons, if_neg (by omega)]
    obtain ⟨got1, hg1, hg2⟩ := storeChunks_ok P hc p.e hp2 (P.size + 1) p.b s p.data hp1 hp3
    simp only [hg1]
    obtain ⟨got2, hk1, hk2⟩ := ih (storeChunks s p.data (chunksFrom P p.e (P.size + 1) p.b)).1
      (fun p' h' => hps p' (List.mem_cons_of_mem _ h'))
    rw [hk1]
    refine ⟨got1 ++ got2, rfl, ?_⟩
    intro p' hp' ch hch
    rcases List.mem_cons.mp hp' with rfl | hp'
    · rw [← hg2] at hch
      obtain ⟨g, hg, rfl⟩ := List.mem_map.mp hch
      exact ⟨g, List.mem_append_left _ hg, rfl⟩
    · obtain ⟨g, hg, hgc⟩ := hk2 p' hp' ch hch
      exact ⟨g, List.mem_append_right _ hg, hgc⟩

/-- The part an honest server sends for a requested range: the announced range and all its
bytes. -/
def fullPart (B : Bytes) (r : Region) : Part :=
  ⟨r.b.toNat, r.e.toNat, slice B r.b.toNat (r.e.toNat + 1 - r.b.toNat)⟩

def honestAnswer (B : Bytes) (rs : List Region) : Reply := .parts (rs.map (fullPart B))

theorem honestAnswer_honest (B : Bytes) (rs : List Region) : HonestReply B (honestAnswer B rs) := by
  intro p hp
  obtain ⟨r, _, rfl⟩ := List.mem_map.mp hp
  exact slice_self_length B _ _

theorem fullPart_fullGrid (P : Params) (hc : 0 < P.chunk) (B : Bytes) (hB : B.length = P.size)
    (r : Region) (h : r.b ≤ r.e ∧ GridStart P r.b ∧ GridEnd P r.e) : FullGridPart P (fullPart B r) := by
  obtain ⟨hle, ⟨mb, hmb, hmbe⟩, ⟨me, hme, hmee⟩⟩ := h
  have h1 := hme.le hc
  simp only [FullGridPart, fullPart, slice_length]
  refine ⟨?_, ⟨me, hme, by omega⟩, by omega⟩
  have : r.b.toNat = mb.b := by omega
  rw [this]; exact hmb.1

theorem fetchMissing_honest_ok (P : Params) (B : Bytes) (hc : 0 < P.chunk) (hB : B.length = P.size)
    (missing : List Chunk) (hm : ∀ c ∈ missing, GridChunk P c) (single : Bool) (s : St) :
    ∃ got, (fetchMissing P s missing (honestAnswer B (requestRanges single missing))).2 = some got := by
  unfold fetchMissing
  split
  · exact ⟨[], rfl⟩
  · simp only [honestAnswer]
    have hgrid := requestRanges_grid P hc missing hm single
    obtain ⟨got, hg1, hg2⟩ := storeParts_ok P hc _ s fun p hp => by
      obtain ⟨r, hr, rfl⟩ := List.mem_map.mp hp
      exact fullPart_fullGrid P hc B hB r (hgrid r hr)
    generalize storeParts P s ((requestRanges single missing).map (fullPart B)) = R at hg1
    obtain ⟨s1, r1⟩ := R
    simp only at hg1
    subst hg1
    simp only
    rw [if_pos]
    · exact ⟨got, rfl⟩
    · rw [List.all_eq_true]
      intro c hcm
      rw [List.any_eq_true]
      have hg := hm c hcm
      have hle := hg.le hc
      obtain ⟨r, hr, hr1, hr2⟩ :=
        request_covers missing single c hcm (c.b : Int) (Int.le_refl _) (Int.ofNat_le.mpr hle.1)
      obtain ⟨_, ⟨mb, hmb, hmbe⟩, _⟩ := hgrid r hr
      have hrb : r.b.toNat = mb.b := by rw [← hmbe]; rfl
      have hmem : c ∈ chunksFrom P (fullPart B r).e (P.size + 1) (fullPart B r).b := by
        rw [chunksFrom_eq_chunkList P hc _ _ _ (by omega)]
        exact mem_chunkList_of_grid P hc (by rw [fullPart, hrb]; exact hmb.1) hg
          (by simp only [fullPart]; omega) (by simp only [fullPart]; omega)
      obtain ⟨g, hgm, hgc⟩ := hg2 _ (List.mem_map.mpr ⟨r, hr, rfl⟩) c hmem
      exact ⟨g, hgm, by simpa using hgc⟩

/-! ## `classify`, `lookupData`, `assemble` -/

/-- A chunk that `readFromCache` serves: cached, with all `expected` bytes at `lower`. -/
def hitOf (o n : Nat) (cache : Cache) (c : Chunk) : Option (Chunk × Bytes) :=
  match cache.get c with
  | some d =>
    if (slice d (place o n c).lower (place o n c).expected).length = (place o n c).expected
    then some (c, d) else none
  | none => none

theorem classify_eq (o n : Nat) (cache : Cache) (cs : List Chunk) :
    classify o n cache cs =
      (cs.filterMap (hitOf o n cache), cs.filter (fun c => (hitOf o n cache c).isNone)) := by
  induction cs with
  | nil => rfl
  | cons c cs ih =>
    simp only [classify, ih, List.filterMap_cons, List.filter_cons, hitOf]
    cases cache.get c with
    | none => rfl
    | some d => simp only []; split <;> rfl

theorem hitOf_some {o n : Nat} {cache : Cache} {c : Chunk} {cd : Chunk × Bytes}
    (h : hitOf o n cache c = some cd) :
    cd.1 = c ∧ cache.get c = some cd.2 ∧
      (slice cd.2 (place o n c).lower (place o n c).expected).length = (place o n c).expected := by
  unfold hitOf at h
  cases hg : cache.get c with
  | none => rw [hg] at h; cases h
  | some d =>
    rw [hg] at h
    simp only [] at h
    split at h
    · cases h; exact ⟨rfl, rfl, ‹_›⟩
    · cases h

theorem classify_spec (o n : Nat) (cache : Cache) :
    ∀ cs : List Chunk,
      (∀ cd ∈ (classify o n cache cs).1, cache.get cd.1 = some cd.2 ∧ cd.1 ∈ cs ∧
        (slice cd.2 (place o n cd.1).lower (place o n cd.1).expected).length
          = (place o n cd.1).expected) ∧
      (∀ c ∈ (classify o n cache cs).2, c ∈ cs) ∧
      (∀ c ∈ cs, (∃ d, (c, d) ∈ (classify o n cache cs).1) ∨ c ∈ (classify o n cache cs).2) := by
  intro cs
  rw [classify_eq]
  refine ⟨fun cd hcd => ?_, fun c hc => (List.mem_filter.mp hc).1, fun c hc => ?_⟩
  · obtain ⟨c, hc, h⟩ := List.mem_filterMap.mp hcd
    obtain ⟨rfl, h1, h2⟩ := hitOf_some h
    exact ⟨h1, hc, h2⟩
  · cases h : hitOf o n cache c with
    | none => exact Or.inr (List.mem_filter.mpr ⟨hc, by rw [h]; rfl⟩)
    | some cd =>
      obtain ⟨rfl, _, _⟩ := hitOf_some h
      exact Or.inl ⟨cd.2, List.mem_filterMap.mpr ⟨_, hc, h⟩⟩

/-- The piece of `cd.2` that `assemble` copies is the piece of the blob that belongs there. -/
def WindowOK (B : Bytes) (o n : Nat) (cd : Chunk × Bytes) : Prop :=
  slice cd.2 (place o n cd.1).lower (place o n cd.1).expected =
    slice B (o + (place o n cd.1).base) (place o n cd.1).expected

theorem windowOK_of_prefix (B : Bytes) (o n : Nat) (c : Chunk) (d : Bytes)
    (hd : d = slice B c.b d.length)
    (hhit : (slice d (place o n c).lower (place o n c).expected).length = (place o n c).expected) :
    WindowOK B o n (c, d) := by
  unfold WindowOK
  simp only
  by_cases h0 : (place o n c).expected = 0
  · rw [h0, slice_zero, slice_zero]
  · rw [slice_length] at hhit
    rw [hd, slice_slice _ _ _ _ _ (by omega)]
    congr 1; simp only [place]; omega

theorem lookupData_window (B : Bytes) (o n : Nat) (hits got : List (Chunk × Bytes)) (c : Chunk)
    (hh : ∀ cd ∈ hits, WindowOK B o n cd) (hg : ∀ cd ∈ got, WindowOK B o n cd)
    (hc : (∃ d, (c, d) ∈ hits) ∨ ∃ cd ∈ got, cd.1 = c) :
    ∃ d, lookupData hits got c = some d ∧ WindowOK B o n (c, d) := by
  unfold lookupData
  rcases find?_key_or hc with ⟨d, hm, hf⟩ | ⟨hf, hgot⟩
  · rw [hf]; exact ⟨d, rfl, hh _ hm⟩
  · obtain ⟨d, hm, hf2⟩ := find?_key_of_mem hgot
    rw [hf, hf2]; exact ⟨d, rfl, hg _ hm⟩

theorem assemble_lookup (B : Bytes) (o n k : Nat) (hk : k ≤ n) (hB : o + k ≤ B.length)
    (look : Chunk → Option Bytes) :
    ∀ (cs : List Chunk) (a : Nat) (buf : Bytes), buf.length = n →
      Tiles a (cs.map (place o n)) k →
      (∀ c ∈ cs, ∃ d, look c = some d ∧ WindowOK B o n (c, d)) →
      buf.take a = slice B o a →
      (assemble o n buf (cs.filterMap fun c => (look c).map fun d => (c, d))).take k = slice B o k ∧
        (assemble o n buf (cs.filterMap fun c => (look c).map fun d => (c, d))).length = n := by
  intro cs
  induction cs with
  | nil =>
    intro a buf hlen ht _ hpre
    cases (show a = k from ht)
    exact ⟨hpre, hlen⟩
  | cons c cs ih =>
    intro a buf hlen ht hlook hpre
    obtain ⟨hbase, ht'⟩ := ht
    obtain ⟨d, hd, hw⟩ := hlook c (List.mem_cons_self ..)
    have hle := Tiles.le ht'
    simp only [List.filterMap_cons, hd, Option.map_some, assemble]
    rw [show slice d _ _ = _ from hw]
    have hsl : (slice B (o + (place o n c).base) (place o n c).expected).length
        = (place o n c).expected := by
      rw [slice_length]; omega
    apply ih (a + (place o n c).expected)
    · rw [writeAt_length _ _ _ (by rw [hsl]; omega)]; exact hlen
    · exact ht'
    · exact fun c' hc' => hlook c' (List.mem_cons_of_mem _ hc')
    · have := writeAt_take buf (place o n c).base
        (slice B (o + (place o n c).base) (place o n c).expected) (by omega)
      rw [hsl] at this
      rw [← hbase, this, hbase, hpre, ← hbase, slice_append]

/-! ## `ReadAt` and `Cache` -/

/-- What `prepareChunksForRead` leaves before any fetch; `bound` is for the writers of BlobShared. -/
structure PendOK (P : Params) (B : Bytes) (o n : Nat) (cs : List Chunk)
    (hits : List (Chunk × Bytes)) (missing : List Chunk) : Prop where
  tiles : Tiles 0 (cs.map (place o n)) (min n (P.size - o))
  inB : o + min n (P.size - o) ≤ B.length
  hitsOK : ∀ cd ∈ hits, WindowOK B o n cd
  total : ∀ c ∈ cs, (∃ d, (c, d) ∈ hits) ∨ c ∈ missing
  bound : ∀ c ∈ missing, (place o n c).lower + (place o n c).expected ≤ c.size

theorem pendOK_prepared (P : Params) (B : Bytes) (Q : Chunk → Bytes → Prop) (hQ : GoodQ P B Q)
    (hc : 0 < P.chunk) (hB : B.length = P.size) (s : St) (hs : InvQ P Q s) (o n : Nat)
    (hn : 0 < n) (ho : o ≤ P.size) :
    PendOK P B o n (rangeChunks P o n) (classify o n s.cache (rangeChunks P o n)).1
      (classify o n s.cache (rangeChunks P o n)).2 := by
  obtain ⟨hcl1, hcl2, hcl3⟩ := classify_spec o n s.cache (rangeChunks P o n)
  refine ⟨?_, ?_, ?_, hcl3, ?_⟩
  · have := tiles_readAt P hc o n hn ho
    rwa [adjust_eq] at this
  · rw [hB]
    exact Nat.le_trans (Nat.add_le_add_left (Nat.min_le_right ..) _)
      (Nat.le_of_eq (Nat.add_sub_cancel' ho))
  · intro cd hcd
    obtain ⟨hget, _, hhit⟩ := hcl1 cd hcd
    exact windowOK_of_prefix B o n cd.1 cd.2 (hQ.pre _ _ (hs.cacheQ cd.1 cd.2 hget)) hhit
  · intro c hcm
    exact (place_bounds P hc o n ho c (hcl2 c hcm)).2.2

/-- The last conjunct of `readAt_specQ`, which spells it out. -/
def ReadExact (P : Params) (B : Bytes) (o n : Nat) (r : Option (Nat × Bytes)) : Prop :=
  r = none ∨ ∃ buf, r = some (min n (P.size - o), buf) ∧ buf.length = n ∧
    buf.take (min n (P.size - o)) = slice B o (min n (P.size - o))

theorem readAt_unfold (P : Params) (s : St) (o n : Nat) (reply : Reply) (hc : 0 < P.chunk)
    (h : ¬ (n = 0 ∨ o > P.size)) :
    readAt P s o n reply =
      let cs := rangeChunks P o n
      let R := fetchMissing P s (classify o n s.cache cs).2 reply
      match R.2 with
      | none => (R.1, none)
      | some got =>
        (R.1, some (adjust P n o, assemble o n (List.replicate n 0)
          (cs.filterMap (fun c => (lookupData (classify o n s.cache cs).1 got c).map
            (fun d => (c, d)))))) := by
  unfold readAt
  rw [if_neg h, walk_readAt P hc]
  simp only
  rcases classify o n s.cache (rangeChunks P o n) with ⟨hits, missing⟩
  simp only
  rcases fetchMissing P s missing reply with ⟨s', _ | got⟩ <;> rfl

theorem readAt_specQ (P : Params) (B : Bytes) (Q : Chunk → Bytes → Prop) (hQ : GoodQ P B Q)
    (hc : 0 < P.chunk) (hB : B.length = P.size)
    (s : St) (hs : InvQ P Q s) (o n : Nat) (reply : Reply) (hr : HonestReply B reply) :
    InvQ P Q (readAt P s o n reply).1 ∧ CovSub s (readAt P s o n reply).1 ∧
    ((readAt P s o n reply).2 = none ∨
      ∃ buf, (readAt P s o n reply).2 = some (min n (P.size - o), buf) ∧ buf.length = n ∧
        buf.take (min n (P.size - o)) = slice B o (min n (P.size - o))) := by
  by_cases h : n = 0 ∨ o > P.size
  · unfold readAt
    rw [if_pos h]
    have : min n (P.size - o) = 0 := by omega
    rw [this]
    exact ⟨hs, CovSub.refl s, Or.inr ⟨List.replicate n 0, rfl, by simp, by simp [slice]⟩⟩
  · rw [readAt_unfold P s o n reply hc h]
    simp only
    obtain ⟨ht, hinB, hhits, hcl3, _⟩ := pendOK_prepared P B Q hQ hc hB s hs o n (by omega) (by omega)
    generalize rangeChunks P o n = cs at ht hhits hcl3 ⊢
    obtain ⟨h1, h2, h3⟩ := fetchMissing_spec P B Q hQ hc s (classify o n s.cache cs).2 reply hs hr
    generalize fetchMissing P s (classify o n s.cache cs).2 reply = R at h1 h2 h3
    obtain ⟨s1, r1⟩ := R
    cases r1 with
    | none => exact ⟨h1, h2, Or.inl rfl⟩
    | some got =>
      simp only
      refine ⟨h1, h2, Or.inr ?_⟩
      obtain ⟨hex, hall⟩ := h3 got rfl
      have hgot : ∀ cd ∈ got, WindowOK B o n cd := fun cd hcd => by
        unfold WindowOK; rw [(hex cd hcd).1]; exact place_slice B o n cd.1
      have hlook : ∀ c ∈ cs, ∃ d, lookupData (classify o n s.cache cs).1 got c = some d ∧
          WindowOK B o n (c, d) := by
        intro c hcm
        apply lookupData_window B o n _ _ _ hhits hgot
        rcases hcl3 c hcm with h' | h'
        · exact Or.inl h'
        · exact Or.inr (hall c h')
      rw [adjust_eq]
      have := assemble_lookup B o n (min n (P.size - o)) (by omega) hinB _ cs 0
        (List.replicate n 0) (by simp) ht hlook (by simp [slice])
      exact ⟨_, rfl, this.2, this.1⟩

theorem cacheAt_eq (P : Params) (hc : 0 < P.chunk) (s : St) (o n : Nat) (reply : Reply) :
    cacheAt P s o n reply =
      let R := fetchMissing P s ((rangeChunks P o n).filter fun c => (s.cache.get c).isNone) reply
      (R.1, R.2.isSome) := by
  unfold cacheAt
  rw [walk_readAt P hc]
  simp only
  rcases fetchMissing P s _ reply with ⟨s', _ | got⟩ <;> rfl

theorem cacheAt_specQ (P : Params) (B : Bytes) (Q : Chunk → Bytes → Prop) (hQ : GoodQ P B Q)
    (hc : 0 < P.chunk)
    (s : St) (hs : InvQ P Q s) (o n : Nat) (reply : Reply) (hr : HonestReply B reply) :
    InvQ P Q (cacheAt P s o n reply).1 ∧ CovSub s (cacheAt P s o n reply).1 := by
  rw [cacheAt_eq P hc]
  obtain ⟨h1, h2, _⟩ := fetchMissing_spec P B Q hQ hc s
    ((rangeChunks P o n).filter fun c => (s.cache.get c).isNone) reply hs hr
  exact ⟨h1, h2⟩

theorem readAt_honest_ok (P : Params) (B : Bytes) (hc : 0 < P.chunk) (hB : B.length = P.size)
    (s : St) (o n : Nat) (single : Bool) :
    ∃ ms, missingFor P s o n = some ms ∧
      (readAt P s o n (honestAnswer B (requestRanges single ms))).2 ≠ none := by
  by_cases h : n = 0 ∨ o > P.size
  · refine ⟨[], by unfold missingFor; rw [if_pos h], ?_⟩
    unfold readAt; rw [if_pos h]; simp
  · refine ⟨(classify o n s.cache (rangeChunks P o n)).2, ?_, ?_⟩
    · unfold missingFor; rw [if_neg h, walk_readAt P hc]; rfl
    · rw [readAt_unfold P s o n _ hc h]
      simp only
      have hm : ∀ c ∈ (classify o n s.cache (rangeChunks P o n)).2, GridChunk P c := by
        intro c hcm
        exact (gridChunk_of_mem_rangeChunks P hc o n c ((classify_spec o n s.cache _).2.1 c hcm)).1
      obtain ⟨got, hg⟩ := fetchMissing_honest_ok P B hc hB _ hm single s
      rw [hg]
      simp

/-! ## cache loss, operations and histories -/

/-- Eviction / loss of one cache entry: `Cache.lose (.evict c)` of the shared-path model on a
state; the `drop` op of the driver does the same filter inline. -/
def dropEntry (s : St) (c : Chunk) : St :=
  { s with cache := s.cache.filter fun kv => kv.1 ≠ c }

/-- A cache that returns short data for one entry, cut to its first `keep` bytes:
`Cache.lose (.trunc c keep)` on a state; the `trunc` op of the driver does the same map inline. -/
def truncEntry (s : St) (c : Chunk) (keep : Nat) : St :=
  { s with cache := s.cache.map fun kv => if kv.1 = c then (kv.1, kv.2.take keep) else kv }

def TruncClosed (Q : Chunk → Bytes → Prop) : Prop := ∀ c d k, Q c d → Q c (d.take k)

theorem dropEntry_eq (s : St) (c : Chunk) :
    dropEntry s c = { s with cache := s.cache.lose (.evict c) } := rfl

theorem truncEntry_eq (s : St) (c : Chunk) (keep : Nat) :
    truncEntry s c keep = { s with cache := s.cache.lose (.trunc c keep) } := rfl

theorem Cache.get_lose (cache : Cache) (l : Loss) (c : Chunk) (d : Bytes)
    (h : (cache.lose l).get c = some d) :
    ∃ d', cache.get c = some d' ∧ (d = d' ∨ ∃ c0 k, l = .trunc c0 k ∧ d = d'.take k) := by
  unfold Cache.get at h ⊢
  cases l with
  | evict c0 =>
    rw [Cache.lose, find?_filter_key] at h
    split at h
    · cases h
    · exact ⟨d, h, Or.inl rfl⟩
  | trunc c0 k =>
    rw [Cache.lose, find?_map_key _ fun kv => by split <;> rfl] at h
    rcases find?_key cache c with ⟨b, _, hf⟩ | ⟨hf, _⟩
    · rw [hf] at h ⊢
      simp only [Option.map_some, Option.some.injEq] at h
      refine ⟨b, rfl, ?_⟩
      split at h <;> subst h
      · exact Or.inr ⟨c0, k, rfl, rfl⟩
      · exact Or.inl rfl
    · rw [hf] at h; cases h

theorem lose_specQ (P : Params) (Q : Chunk → Bytes → Prop) (s : St) (hs : InvQ P Q s) (l : Loss)
    (hT : (∀ c k, l ≠ .trunc c k) ∨ TruncClosed Q) :
    InvQ P Q { s with cache := s.cache.lose l } := by
  refine ⟨fun c d h => ?_, hs.wf, hs.inBlob⟩
  obtain ⟨d', hd', e | ⟨c0, k, el, e⟩⟩ := Cache.get_lose _ l c d h
  · exact e ▸ hs.cacheQ c d' hd'
  · exact e ▸ (hT.resolve_left fun h => h c0 k el) _ _ _ (hs.cacheQ c d' hd')

inductive Op
  | read (o n : Nat) (reply : Reply)
  | cache (o n : Nat) (reply : Reply)
  | drop (c : Chunk)
  | trunc (c : Chunk) (keep : Nat)

def Op.Honest (B : Bytes) : Op → Prop
  | .read _ _ r => HonestReply B r
  | .cache _ _ r => HonestReply B r
  | .drop _ => True
  | .trunc _ _ => True

instance (B : Bytes) : (op : Op) → Decidable (op.Honest B)
  | .read _ _ r => by unfold Op.Honest; infer_instance
  | .cache _ _ r => by unfold Op.Honest; infer_instance
  | .drop _ => by unfold Op.Honest; infer_instance
  | .trunc _ _ => by unfold Op.Honest; infer_instance

def Op.isTrunc : Op → Bool
  | .trunc _ _ => true
  | _ => false

def stepOp (P : Params) (s : St) : Op → St × Option (Nat × Nat × Option (Nat × Bytes))
  | .read o n r => ((readAt P s o n r).1, some (o, n, (readAt P s o n r).2))
  | .cache o n r => ((cacheAt P s o n r).1, none)
  | .drop c => (dropEntry s c, none)
  | .trunc c k => (truncEntry s c k, none)

def runOps (P : Params) (s : St) (ops : List Op) : St := ops.foldl (fun s op => (stepOp P s op).1) s

/-- The `(o, n, result)` of every `read`, in order. -/
def trace (P : Params) : St → List Op → List (Nat × Nat × Option (Nat × Bytes))
  | _, [] => []
  | s, op :: ops =>
    match (stepOp P s op).2 with
    | some r => r :: trace P (stepOp P s op).1 ops
    | none => trace P (stepOp P s op).1 ops

theorem stepOp_specQ (P : Params) (B : Bytes) (Q : Chunk → Bytes → Prop) (hQ : GoodQ P B Q)
    (hc : 0 < P.chunk) (hB : B.length = P.size)
    (s : St) (hs : InvQ P Q s) (op : Op) (ho : op.Honest B)
    (hT : op.isTrunc = false ∨ TruncClosed Q) :
    InvQ P Q (stepOp P s op).1 ∧ CovSub s (stepOp P s op).1 ∧
      ∀ o n r, (stepOp P s op).2 = some (o, n, r) → ReadExact P B o n r := by
  cases op with
  | read o n r =>
    obtain ⟨h1, h2, h3⟩ := readAt_specQ P B Q hQ hc hB s hs o n r ho
    exact ⟨h1, h2, fun _ _ _ h => by cases h; exact h3⟩
  | cache o n r =>
    obtain ⟨h1, h2⟩ := cacheAt_specQ P B Q hQ hc s hs o n r ho
    exact ⟨h1, h2, nofun⟩
  | drop c =>
    exact ⟨(dropEntry_eq s c ▸ lose_specQ P Q s hs _ (Or.inl nofun) : InvQ P Q (dropEntry s c)),
      CovSub.refl s, nofun⟩
  | trunc c k =>
    exact ⟨(truncEntry_eq s c k ▸ lose_specQ P Q s hs _ (hT.imp_left nofun) :
      InvQ P Q (truncEntry s c k)), CovSub.refl s, nofun⟩

theorem runOps_specQ (P : Params) (B : Bytes) (Q : Chunk → Bytes → Prop) (hQ : GoodQ P B Q)
    (hc : 0 < P.chunk) (hB : B.length = P.size) :
    ∀ (ops : List Op) (s : St), InvQ P Q s → (∀ op ∈ ops, op.Honest B) →
      ((∀ op ∈ ops, op.isTrunc = false) ∨ TruncClosed Q) →
      InvQ P Q (runOps P s ops) ∧ CovSub s (runOps P s ops) ∧
      ∀ t ∈ trace P s ops, ReadExact P B t.1 t.2.1 t.2.2 := by
  intro ops
  induction ops with
  | nil => intro s hs _ _; exact ⟨hs, CovSub.refl s, nofun⟩
  | cons op ops ih =>
    intro s hs hh hT
    obtain ⟨h1, h2, h3⟩ := stepOp_specQ P B Q hQ hc hB s hs op (hh op (List.mem_cons_self ..))
      (hT.imp_left fun h => h op (List.mem_cons_self ..))
    obtain ⟨k1, k2, k3⟩ := ih (stepOp P s op).1 h1
      (fun op' h' => hh op' (List.mem_cons_of_mem _ h'))
      (hT.imp_left fun h op' h' => h op' (List.mem_cons_of_mem _ h'))
    refine ⟨k1, CovSub.trans h2 k2, ?_⟩
    intro t ht
    unfold trace at ht
    cases hr : (stepOp P s op).2 with
    | none => rw [hr] at ht; exact k3 t ht
    | some r =>
      rw [hr] at ht
      rcases List.mem_cons.mp ht with rfl | ht
      · obtain ⟨o, n, r⟩ := t; exact h3 o n r hr
      · exact k3 t ht

theorem readAt_spec (P : Params) (B : Bytes) (hc : 0 < P.chunk) (hB : B.length = P.size)
    (s : St) (hs : Inv P B s) (o n : Nat) (reply : Reply) (hr : HonestReply B reply) :
    Inv P B (readAt P s o n reply).1 ∧ CovSub s (readAt P s o n reply).1 ∧
      ReadExact P B o n (readAt P s o n reply).2 := by
  obtain ⟨h1, h2, h3⟩ := readAt_specQ P B _ (goodQ_exact P B) hc hB s hs.invQ o n reply hr
  exact ⟨h1.inv, h2, h3⟩

theorem truncClosed_prefix (P : Params) (B : Bytes) : TruncClosed (QPrefix P B) := by
  intro c d k h
  refine ⟨?_, h.2⟩
  conv => lhs; rw [h.1]
  rw [take_slice, List.length_take]

theorem runOps_prefix (P : Params) (B : Bytes) (hc : 0 < P.chunk) (hB : B.length = P.size)
    (ops : List Op) (s : St) (hs : InvQ P (QPrefix P B) s) (hh : ∀ op ∈ ops, op.Honest B) :
    InvQ P (QPrefix P B) (runOps P s ops) ∧ CovSub s (runOps P s ops) ∧
      ∀ t ∈ trace P s ops, ReadExact P B t.1 t.2.1 t.2.2 :=
  runOps_specQ P B _ (goodQ_prefix P B) hc hB ops s hs hh (Or.inr (truncClosed_prefix P B))

theorem invQ_of_inv (P : Params) (B : Bytes) (s : St) (hs : Inv P B s) :
    InvQ P (QPrefix P B) s :=
  ⟨fun c d h => ⟨(goodQ_exact P B).pre c d (hs.cacheOK c d h), (hs.cacheOK c d h).2⟩,
    hs.wf, hs.inBlob⟩

theorem fetchedSize_of_inv (P : Params) (Q : Chunk → Bytes → Prop) (s s' : St)
    (hs : InvQ P Q s) (hs' : InvQ P Q s')
    (hsub : CovSub s s') :
    totalSize s.fetched ≤ totalSize s'.fetched ∧ totalSize s'.fetched ≤ P.size :=
  ⟨totalSize_mono P.size hs.wf hs.inBlob hs'.wf hs'.inBlob hsub, totalSize_le P.size hs'.wf hs'.inBlob⟩

/-! ## `bytesWriter` -/

namespace BW

/-- `Write` copies the part of `p` that falls into the window `[destOff, destOff + len)` of the
stream; the three branches of the Go code are one `writeAt` (with an empty segment when nothing
is copied). -/
theorem write_dest (w : BW) (p : Bytes) :
    (w.write p).dest = writeAt w.dest (w.current - w.destOff)
      (slice p (w.destOff - w.current) (w.dest.length - (w.current - w.destOff))) := by
  unfold BW.write
  simp only
  split
  · rename_i h
    rw [Nat.sub_eq_zero_of_le (Nat.le_of_lt h), slice_zero, writeAt_nil]
  · split
    · rename_i h
      rw [slice, List.drop_of_length_le h, List.take_nil, writeAt_nil]
    · simp only [slice]
      congr 1
      -- `pEnd0 - pBegin` is the room left in `dest`
      have hw : w.destOff + w.dest.length - w.current - (w.destOff - w.current)
          = w.dest.length - (w.current - w.destOff) := by omega
      rw [List.take_take]
      split
      · rw [← List.length_drop (i := w.destOff - w.current) (l := p), ← List.take_eq_take_min]
      · rw [hw, Nat.min_self]

theorem write_fields (w : BW) (p : Bytes) :
    (w.write p).destOff = w.destOff ∧ (w.write p).current = w.current + p.length ∧
      (w.write p).dest.length = w.dest.length := by
  refine ⟨?_, ?_, ?_⟩
  · unfold BW.write; simp only; split; rfl; split <;> rfl
  · unfold BW.write; simp only; split; rfl; split <;> rfl
  · rw [write_dest]
    by_cases hb : w.current - w.destOff ≤ w.dest.length
    · apply writeAt_length
      rw [slice_length]
      exact Nat.le_trans (Nat.add_le_add_left (Nat.min_le_left ..) _)
        (Nat.le_of_eq (Nat.add_sub_cancel' hb))
    · rw [Nat.sub_eq_zero_of_le (Nat.le_of_not_le hb), slice_zero, writeAt_nil]

theorem write_getElem? (w : BW) (p : Bytes) (j : Nat) :
    (w.write p).dest[j]? =
      if w.current ≤ w.destOff + j ∧ w.destOff + j < w.current + p.length ∧ j < w.dest.length
      then p[w.destOff + j - w.current]? else w.dest[j]? := by
  rw [write_dest]
  by_cases hb : w.current - w.destOff ≤ w.dest.length
  · rw [writeAt_getElem? _ _ _ hb, getElem?_slice, slice_length]
    by_cases h : w.current ≤ w.destOff + j ∧ w.destOff + j < w.current + p.length ∧ j < w.dest.length
    · rw [if_pos h, if_neg (Nat.not_lt.mpr (Nat.sub_le_iff_le_add'.mpr h.1)), if_pos (by omega),
        if_pos (by omega)]
      congr 1; omega
    · rw [if_neg h]
      split
      · rfl
      · split
        · omega
        · rfl
  · rw [Nat.sub_eq_zero_of_le (Nat.le_of_not_le hb), slice_zero, writeAt_nil,
      if_neg fun h => hb (Nat.le_trans (Nat.sub_le_iff_le_add'.mpr h.1) (Nat.le_of_lt h.2.2))]

theorem write_nil (w : BW) : w.write [] = w := by
  unfold BW.write
  simp

theorem eq_of_fields : ∀ {a b : BW},
    a.dest = b.dest → a.destOff = b.destOff → a.current = b.current → a = b
  | ⟨_, _, _⟩, ⟨_, _, _⟩, rfl, rfl, rfl => rfl

theorem write_write (w : BW) (p q : Bytes) : (w.write p).write q = w.write (p ++ q) := by
  obtain ⟨f1, f2, f3⟩ := write_fields w p
  obtain ⟨g1, g2, _⟩ := write_fields (w.write p) q
  obtain ⟨k1, k2, _⟩ := write_fields w (p ++ q)
  refine eq_of_fields (List.ext_getElem? fun j => ?_) (by rw [g1, f1, k1])
    (by rw [g2, f2, k2, List.length_append, Nat.add_assoc])
  rw [write_getElem?, write_getElem?, write_getElem?, f1, f2, f3, List.length_append,
    List.getElem?_append]
  -- position `destOff + j` of the stream lies in `p`, in `q`, or outside both
  by_cases hA : w.current ≤ w.destOff + j ∧ j < w.dest.length
  · by_cases hB : w.destOff + j < w.current + p.length
    · rw [if_neg (fun h => Nat.not_le_of_lt hB h.1), if_pos ⟨hA.1, hB, hA.2⟩,
        if_pos ⟨hA.1, Nat.lt_of_lt_of_le hB (Nat.add_le_add_left (Nat.le_add_right ..) _), hA.2⟩,
        if_pos (Nat.sub_lt_left_of_lt_add hA.1 hB)]
    · by_cases hD : w.destOff + j < w.current + p.length + q.length
      · rw [if_pos ⟨Nat.le_of_not_lt hB, hD, hA.2⟩, if_pos ⟨hA.1, Nat.add_assoc .. ▸ hD, hA.2⟩,
          if_neg (fun h => hB ((Nat.sub_lt_iff_lt_add' hA.1).mp h)), Nat.sub_add_eq]
      · rw [if_neg (fun h => hD h.2.1), if_neg (fun h => hB h.2.1),
          if_neg (fun h => hD (Nat.add_assoc .. ▸ h.2.1))]
  · rw [if_neg (fun h => hA ⟨Nat.le_trans (Nat.le_add_right ..) h.1, h.2.2⟩),
      if_neg (fun h => hA ⟨h.1, h.2.2⟩), if_neg (fun h => hA ⟨h.1, h.2.2⟩)]

theorem fold_eq_write (ps : List Bytes) : ∀ w : BW, ps.foldl BW.write w = w.write ps.flatten := by
  induction ps with
  | nil => intro w; exact (write_nil w).symm
  | cons p ps ih => intro w; rw [List.foldl_cons, ih, write_write, List.flatten_cons]

end BW

/-! ## retry state machine of `httpFetcher.fetch` -/

def Status.isOK : Status → Bool
  | .ok200 | .partial206 => true
  | _ => false

/-- The recursive call `fetch(ctx, rs, false)` after a 403 or 400: one more request, if the script
has a reply for it. -/
def fetchRetry (st : FSt) : List Status → FSt × FOut × Nat
  | [] => (st, .error, 1)
  | s :: _ => (st, if Status.isOK s then .body else .error, 2)

theorem Status.isOK_iff (s : Status) : Status.isOK s = true ↔ s = .ok200 ∨ s = .partial206 := by
  cases s <;> simp [Status.isOK]

theorem fetchRetry_fst (st : FSt) (rest : List Status) : (fetchRetry st rest).1 = st := by
  cases rest <;> rfl

theorem fetchRetry_count (st : FSt) (rest : List Status) :
    (fetchRetry st rest).2.2 ≤ 2 ∧ (fetchRetry st rest).2.2 ≤ rest.length + 1 := by
  cases rest
  · exact ⟨Nat.le_succ 1, Nat.le_refl _⟩
  · exact ⟨Nat.le_refl _, Nat.succ_le_succ (Nat.succ_le_succ (Nat.zero_le _))⟩

/-- `s0` is the 403 / 400 that caused the retry. -/
theorem fetchRetry_body (st : FSt) (s0 : Status) (rest : List Status) (h0 : Status.isOK s0 = false) :
    (fetchRetry st rest).2.1 = .body ↔
      ∃ s, ((s0 :: rest).take (fetchRetry st rest).2.2).getLast? = some s ∧ Status.isOK s = true := by
  rcases rest with _ | ⟨s2, rest⟩
  · simp [fetchRetry, h0]
  · cases h : Status.isOK s2 <;> simp [fetchRetry, h]

theorem fetchSM_403 (st : FSt) (rest : List Status) (r : Bool) :
    fetchSM st true (.forbidden403 :: rest) (some r) = fetchRetry { st with redirected := r } rest := by
  rcases rest with _ | ⟨s2, _⟩
  · rfl
  · cases s2 <;> rfl

theorem fetchSM_400 (rd : Bool) (rest : List Status) (refresh : Option Bool) :
    fetchSM ⟨false, rd⟩ true (.badReq400 :: rest) refresh = fetchRetry ⟨true, rd⟩ rest := by
  rcases rest with _ | ⟨s2, _⟩
  · rfl
  · cases s2 <;> rfl

inductive FetchCase (st : FSt) (retry : Bool) (s : Status) (rest : List Status)
    (refresh : Option Bool) : Prop
  | once (out : FOut) (eq : fetchSM st retry (s :: rest) refresh = (st, out, 1))
      (body : out = .body ↔ Status.isOK s = true)
  | refreshed (r : Bool) (is403 : s = .forbidden403) (again : retry = true) (url : refresh = some r)
      (eq : fetchSM st retry (s :: rest) refresh = fetchRetry { st with redirected := r } rest)
  | single (is400 : s = .badReq400) (again : retry = true) (multi : st.singleRange = false)
      (eq : fetchSM st retry (s :: rest) refresh = fetchRetry { st with singleRange := true } rest)

theorem fetchSM_cons (st : FSt) (retry : Bool) (s : Status) (rest : List Status)
    (refresh : Option Bool) : FetchCase st retry s rest refresh := by
  cases s
  case forbidden403 =>
    cases retry
    · exact .once _ rfl (by decide)
    · cases refresh with
      | none => exact .once _ rfl (by decide)
      | some r => exact .refreshed r rfl rfl rfl (fetchSM_403 st rest r)
  case badReq400 =>
    obtain ⟨sr, rd⟩ := st
    cases retry
    · exact .once _ rfl (by decide)
    · cases sr
      · exact .single rfl rfl rfl (fetchSM_400 rd rest refresh)
      · exact .once _ rfl (by decide)
  all_goals exact .once _ rfl (by decide)

/-! ## data for the non-vacuity examples -/

def exB : Bytes := [0, 1, 2, 3, 4, 5, 6, 7, 8, 9]
def exS : St := { cache := [(⟨4, 7⟩, [4, 5, 6, 7])], fetched := [⟨0, 7⟩] }

end SV.Blob
