/-
The directory-cache model (C11): every step preserves the invariant of `ChunkCacheInv.lean`.
`State.<op>_some` (what an enabled step does) → `Inv.<op>` (steps that touch no LRU, `Get`, a reader's `Close`, the
four steps of `Commit`; `done()` and `Add` on either LRU are shared: `Inv.memDone`, `Inv.fdDone`, and `Owns.add` of
`ChunkCacheInv.lean`) → `Inv.step?` → `Inv.visible_committed`, `Inv.buf_unreferenced`, `Inv.wip_unreachable`; along a
run `Inv.run_rec`, whose instances are `Inv.run` and `Inv.pubKept_run`.
Last, the `MemoryCache` model: `MInv`, its five steps unfolded in place.
-/
import SV.Lemmas.ChunkCacheInv

namespace SV.ChunkCache

section Tables

variable {rs : List Reader} {ws : List Writer} {bufs bufs' : List Buf} {inodes inodes' : List Inode}
  {rcs rcs' mrcs mrcs' frcs frcs' : List RC} {files files' : List FileObj} {cm cm' : Nat → List Bytes}
  {w r : Nat} {wr wr' : Writer} {rd rd' : Reader}

theorem memHolders_append_reader (rs : List Reader) (ws : List Writer) (rd : Reader) (i : Nat) :
    memHolders (rs ++ [rd]) ws i = memHolders rs ws i + (if rd.holdsMem i then 1 else 0) := by
  simp only [memHolders, List.countP_append, List.countP_singleton]; omega

theorem memHolders_append_writer (rs : List Reader) (ws : List Writer) (wr : Writer) (i : Nat) :
    memHolders rs (ws ++ [wr]) i = memHolders rs ws i + (if wr.holdsMem i then 1 else 0) := by
  simp only [memHolders, List.countP_append, List.countP_singleton]; omega

theorem memHolders_set_reader (ws : List Writer) (rd' : Reader) (i : Nat) (h : rs[r]? = some rd) :
    memHolders (rs.set r rd') ws i + (if rd.holdsMem i then 1 else 0) =
      memHolders rs ws i + (if rd'.holdsMem i then 1 else 0) := by
  have := countP_set_get (p := Reader.holdsMem i) (y := rd') h
  simp only [memHolders]; omega

theorem memHolders_set_writer (rs : List Reader) (wr' : Writer) (i : Nat) (h : ws[w]? = some wr) :
    memHolders rs (ws.set w wr') i + (if wr.holdsMem i then 1 else 0) =
      memHolders rs ws i + (if wr'.holdsMem i then 1 else 0) := by
  have := countP_set_get (p := Writer.holdsMem i) (y := wr') h
  simp only [memHolders]; omega

theorem fdHolders_append (rs : List Reader) (rd : Reader) (i : Nat) :
    fdHolders (rs ++ [rd]) i = fdHolders rs i + (if rd.holdsFd i then 1 else 0) := by
  simp only [fdHolders, List.countP_append, List.countP_singleton]

theorem fdHolders_set (rd' : Reader) (i : Nat) (h : rs[r]? = some rd) :
    fdHolders (rs.set r rd') i + (if rd.holdsFd i then 1 else 0) =
      fdHolders rs i + (if rd'.holdsFd i then 1 else 0) := by
  have := countP_set_get (p := Reader.holdsFd i) (y := rd') h
  simp only [fdHolders]; omega

theorem memHolders_set_writer_same (hw : ws[w]? = some wr) (h : ∀ i, wr'.holdsMem i = wr.holdsMem i) (i : Nat) :
    memHolders rs (ws.set w wr') i = memHolders rs ws i := by
  have := memHolders_set_writer rs wr' i hw
  rw [h i] at this
  omega

theorem memHolders_set_reader_same (hr : rs[r]? = some rd) (h : ∀ i, rd'.holdsMem i = rd.holdsMem i) (i : Nat) :
    memHolders (rs.set r rd') ws i = memHolders rs ws i := by
  have := memHolders_set_reader ws rd' i hr
  rw [h i] at this
  omega

theorem fdHolders_set_same (hr : rs[r]? = some rd) (h : ∀ i, rd'.holdsFd i = rd.holdsFd i) (i : Nat) :
    fdHolders (rs.set r rd') i = fdHolders rs i := by
  have := fdHolders_set rd' i hr
  rw [h i] at this
  omega

theorem CommInv.set (h : CommInv cm ws) (hw : ws[w]? = some wr)
    (hk : wr.phase ≠ .opened → wr.phase ≠ .aborted →
      wr'.key = wr.key ∧ wr'.written = wr.written ∧ wr'.phase ≠ .opened ∧ wr'.phase ≠ .aborted) :
    CommInv cm (ws.set w wr') := by
  refine h.frame (fun w0 wr0 hw0 h1 h2 => ?_)
  by_cases hc : w0 = w
  · subst hc
    rw [hw] at hw0; cases hw0
    exact ⟨wr', List.getElem?_set_self (lt_of_get_some hw), hk h1 h2⟩
  · exact ⟨wr0, by rw [set_get_ne hc]; exact hw0, rfl, rfl, h1, h2⟩

theorem WrInv.set (h : WrInv ws bufs inodes rcs cm) (hself : WrOk bufs' inodes' rcs' cm' w wr')
    (hb : ∀ w', w' ≠ w → Keeps bufs bufs' (fun bf => bf.owner = .writer w'))
    (hi : ∀ w', w' ≠ w → Keeps inodes inodes' (fun ino => ino.st = .wip w')) (hr : RcsLe rcs rcs')
    (hle : CmLe cm cm') : WrInv (ws.set w wr') bufs' inodes' rcs' cm' := by
  intro w0 wr0 hw0
  rw [set_some_iff] at hw0
  rcases hw0 with ⟨rfl, _, rfl⟩ | ⟨hne, hw0⟩
  · exact hself
  · exact (h w0 wr0 hw0).frame (hb w0 hne) (hi w0 hne) hr hle

theorem WrInv.frame (h : WrInv ws bufs inodes rcs cm)
    (hb : ∀ w', Keeps bufs bufs' (fun bf => bf.owner = .writer w'))
    (hi : ∀ w', Keeps inodes inodes' (fun ino => ino.st = .wip w')) (hr : RcsLe rcs rcs') (hle : CmLe cm cm') :
    WrInv ws bufs' inodes' rcs' cm' :=
  fun w0 wr0 hw0 => (h w0 wr0 hw0).frame (hb w0) (hi w0) hr hle

theorem RdInv.set (h : RdInv rs mrcs frcs files) (hself : RdOk mrcs' frcs' files' r rd')
    (hm : RcsLe mrcs mrcs') (hf : RcsLe frcs frcs')
    (hfo : ∀ r', r' ≠ r → Keeps files files' (fun fo => fo.owner = .reader r')) :
    RdInv (rs.set r rd') mrcs' frcs' files' := by
  intro r0 rd0 hr0
  rw [set_some_iff] at hr0
  rcases hr0 with ⟨rfl, _, rfl⟩ | ⟨hne, hr0⟩
  · exact hself
  · exact (h r0 rd0 hr0).frame hm hf (hfo r0 hne)

theorem RdInv.frame (h : RdInv rs mrcs frcs files) (hm : RcsLe mrcs mrcs') (hf : RcsLe frcs frcs')
    (hfo : ∀ r', Keeps files files' (fun fo => fo.owner = .reader r')) : RdInv rs mrcs' frcs' files' :=
  fun r0 rd0 hr0 => (h r0 rd0 hr0).frame hm hf (hfo r0)

end Tables

theorem RdInv.append {rs : List Reader} {mrcs mrcs' frcs frcs' : List RC} {files files' : List FileObj}
    {rd' : Reader}
    (h : RdInv rs mrcs frcs files)
    (hself : RdOk mrcs' frcs' files' rs.length rd')
    (hm : ∀ (i : Nat) (x : RC), mrcs[i]? = some x → ∃ x' : RC, mrcs'[i]? = some x' ∧ x'.key = x.key ∧ x'.val = x.val)
    (hf : ∀ (i : Nat) (x : RC), frcs[i]? = some x → ∃ x' : RC, frcs'[i]? = some x' ∧ x'.key = x.key ∧ x'.val = x.val)
    (hfo : ∀ r', r' ≠ rs.length → ∀ (f : Nat) (fo : FileObj), files[f]? = some fo → fo.owner = .reader r' →
      files'[f]? = some fo) : RdInv (rs ++ [rd']) mrcs' frcs' files' := by
  intro r0 rd0 hr0
  rw [append_some_iff] at hr0
  rcases hr0 with hr0 | ⟨rfl, rfl⟩
  · exact (h r0 rd0 hr0).frame hm hf (hfo r0 (by have := lt_of_get_some hr0; omega))
  · exact hself

/-! One equation per step: the guards that held and the state that results. -/

section Steps

variable {s s' : State}

theorem State.addOpen_some {k : Nat} {o : Opts} {reuse : Option Nat}
    (h : s.addOpen k o reuse = some s') :
    ∃ (wr : Writer) (bufs : List Buf),
      s' = { s with inodes := s.inodes ++ [{ data := [], st := .wip s.writers.length }], bufs := bufs,
                    writers := s.writers ++ [wr] } ∧
      wr.phase = .opened ∧ wr.wip = s.inodes.length ∧ wr.written = [] ∧
      ((wr.direct = true ∧ bufs = s.bufs) ∨
       (wr.direct = false ∧ wr.buf = s.bufs.length ∧
          bufs = s.bufs ++ [{ data := [], owner := .writer s.writers.length }]) ∨
       (wr.direct = false ∧ ∃ bf : Buf, s.bufs[wr.buf]? = some bf ∧ bf.owner = .pooled ∧
          bufs = s.bufs.set wr.buf { bf with owner := .writer s.writers.length })) := by
  unfold State.addOpen at h
  simp only at h
  split at h
  · cases h; exact ⟨_, _, rfl, rfl, rfl, rfl, Or.inl ⟨rfl, rfl⟩⟩
  · split at h
    · cases h; exact ⟨_, _, rfl, rfl, rfl, rfl, Or.inr (Or.inl ⟨rfl, rfl, rfl⟩)⟩
    · split at h
      · rename_i bf hb
        split at h
        · rename_i hown
          cases h; exact ⟨_, _, rfl, rfl, rfl, rfl, Or.inr (Or.inr ⟨rfl, bf, hb, hown, rfl⟩)⟩
        · cases h
      · cases h

theorem State.write_some {w : Nat} {p : Bytes} (h : s.write w p = some s') :
    ∃ wr : Writer, s.writers[w]? = some wr ∧ wr.phase = .opened ∧
      ((wr.direct = true ∧ ∃ ino : Inode, s.inodes[wr.wip]? = some ino ∧
          s' = { s with writers := s.writers.set w { wr with written := wr.written ++ p },
                        inodes := s.inodes.set wr.wip { ino with data := ino.data ++ p } }) ∨
       (wr.direct = false ∧ ∃ bf : Buf, s.bufs[wr.buf]? = some bf ∧
          s' = { s with writers := s.writers.set w { wr with written := wr.written ++ p },
                        bufs := s.bufs.set wr.buf { bf with data := bf.data ++ p } })) := by
  unfold State.write at h
  split at h
  · rename_i wr hw
    split at h
    · rename_i hph
      simp only at h
      split at h
      · rename_i hd
        split at h
        · rename_i ino hino
          cases h; exact ⟨wr, hw, hph.1, Or.inl ⟨hd, ino, hino, rfl⟩⟩
        · cases h
      · rename_i hd
        split at h
        · rename_i bf hbf
          cases h; exact ⟨wr, hw, hph.1, Or.inr ⟨by simpa using hd, bf, hbf, rfl⟩⟩
        · cases h
    · cases h
  · cases h

theorem State.commitMemPublish_some {w : Nat} (h : s.commitMemPublish w = some s') :
    ∃ (wr : Writer) (bf : Buf) (l' : LRU) (id : Nat) (added : Bool) (fired : Option Nat),
      s' = { s with mem := l',
                    bufs := if added then evictBuf (s.bufs.set wr.buf { bf with owner := .cached id }) fired
                      else s.bufs.set wr.buf { data := [], owner := .pooled },
                    writers := setWPhase s.writers w wr (.published id),
                    committed := addCommitted s.committed wr.key wr.written } ∧
      s.writers[w]? = some wr ∧ wr.phase = .opened ∧ wr.direct = false ∧ s.bufs[wr.buf]? = some bf ∧
      s.mem.add wr.key wr.buf = (l', id, added, fired) := by
  unfold State.commitMemPublish at h
  split at h
  · rename_i wr hw
    split at h
    · rename_i hph
      split at h
      · rename_i bf hbf
        cases h; exact ⟨wr, bf, _, _, _, _, rfl, hw, hph.1, hph.2, hbf, rfl⟩
      · cases h
    · cases h
  · cases h

theorem State.commitDiskWrite_some {w : Nat} {fail : Option Nat}
    (h : s.commitDiskWrite w fail = some s') :
    ∃ (wr : Writer) (rc : Nat) (r : RC) (bf : Buf) (ino : Inode) (d : Bytes) (p : WPhase),
      s' = { s with inodes := s.inodes.set wr.wip { ino with data := ino.data ++ d },
                    writers := setWPhase s.writers w wr p } ∧
      s.writers[w]? = some wr ∧ wr.phase = .published rc ∧ s.mem.rcs[rc]? = some r ∧
      s.bufs[r.val]? = some bf ∧ s.inodes[wr.wip]? = some ino ∧
      ((fail = none ∧ d = bf.data ∧ p = .written rc) ∨
       (∃ n, fail = some n ∧ d = bf.data.take n ∧ p = .finishing rc)) := by
  unfold State.commitDiskWrite at h
  split at h
  · rename_i wr hw
    split at h
    · rename_i rc hph
      split at h
      · rename_i r hr
        split at h
        · rename_i bf ino hbf hino
          split at h
          · cases h; exact ⟨wr, rc, r, bf, ino, _, _, rfl, hw, hph, hr, hbf, hino, Or.inl ⟨rfl, rfl, rfl⟩⟩
          · cases h; exact ⟨wr, rc, r, bf, ino, _, _, rfl, hw, hph, hr, hbf, hino, Or.inr ⟨_, rfl, rfl, rfl⟩⟩
        · cases h
      · cases h
    · cases h
  · cases h

theorem State.commitRename_some {w : Nat} (h : s.commitRename w = some s') :
    ∃ (wr : Writer) (ino : Inode) (p : WPhase) (cm : Nat → List Bytes),
      s' = { s with inodes := s.inodes.set wr.wip { ino with st := .pub wr.key },
                    disk := fun k => if k = wr.key then some wr.wip else s.disk k,
                    writers := setWPhase s.writers w wr p, committed := cm } ∧
      s.writers[w]? = some wr ∧ s.inodes[wr.wip]? = some ino ∧
      ((∃ rc, wr.phase = .written rc ∧ p = .finishing rc ∧ cm = s.committed) ∨
       (wr.phase = .opened ∧ wr.direct = true ∧ p = .committed ∧
          cm = addCommitted s.committed wr.key wr.written)) := by
  unfold State.commitRename at h
  split at h
  · rename_i wr hw
    split at h
    · rename_i ino hino
      simp only at h
      split at h
      · rename_i rc hph
        cases h; exact ⟨wr, ino, _, _, rfl, hw, hino, Or.inl ⟨rc, hph, rfl, rfl⟩⟩
      · rename_i hph
        split at h
        · rename_i hd
          cases h; exact ⟨wr, ino, _, _, rfl, hw, hino, Or.inr ⟨hph, hd, rfl, rfl⟩⟩
        · cases h
      · cases h
    · cases h
  · cases h

theorem State.commitDone_some {w : Nat} (h : s.commitDone w = some s') :
    ∃ (wr : Writer) (rc : Nat), s.writers[w]? = some wr ∧ wr.phase = .finishing rc ∧
      s' = { s with mem := (s.mem.dec rc).1, bufs := evictBuf s.bufs (s.mem.dec rc).2,
                    writers := setWPhase s.writers w wr .committed } := by
  unfold State.commitDone at h
  split at h
  · rename_i wr hw
    split at h
    · rename_i rc hph
      cases h; exact ⟨wr, rc, hw, hph, rfl⟩
    · cases h
  · cases h

theorem State.abort_some {w : Nat} (h : s.abort w = some s') :
    ∃ wr : Writer, s.writers[w]? = some wr ∧ wr.phase = .opened ∧
      ((wr.direct = true ∧ s' = { s with writers := setWPhase s.writers w wr .aborted }) ∨
       (wr.direct = false ∧
          s' = { s with bufs := s.bufs.set wr.buf { data := [], owner := .pooled },
                        writers := setWPhase s.writers w wr .aborted })) := by
  unfold State.abort at h
  split at h
  · rename_i wr hw
    split at h
    · rename_i hopen
      split at h
      · rename_i hd
        cases h; exact ⟨wr, hw, hopen, Or.inl ⟨hd, rfl⟩⟩
      · rename_i hd
        cases h; exact ⟨wr, hw, hopen, Or.inr ⟨by simpa using hd, rfl⟩⟩
    · cases h
  · cases h

theorem State.closeWriter_some {w : Nat} (h : s.closeWriter w = some s') :
    ∃ wr : Writer, s.writers[w]? = some wr ∧
      s' = { s with writers := s.writers.set w { wr with closed := true } } := by
  unfold State.closeWriter at h
  split at h
  · rename_i wr hw
    cases h; exact ⟨wr, hw, rfl⟩
  · cases h

theorem State.getMem_some {k : Nat} {o : Opts} (h : s.getMem k o = some s') :
    ∃ (m : LRU) (id : Nat) (r : RC), s.mem.get k = some (m, id) ∧ m.rcs[id]? = some r ∧
      s' = { s with mem := m, readers := s.readers ++ [{ key := k, src := .mem r.val id, phase := .opened }] } := by
  unfold State.getMem at h
  split at h
  · cases h
  · split at h
    · rename_i m id hg
      split at h
      · rename_i r hr
        cases h; exact ⟨m, id, r, hg, hr, rfl⟩
      · cases h
    · cases h

theorem State.getFd_some {k : Nat} {o : Opts} (h : s.getFd k o = some s') :
    ∃ (m : LRU) (id : Nat) (r : RC), s.fd.get k = some (m, id) ∧ m.rcs[id]? = some r ∧
      s' = { s with fd := m, readers := s.readers ++ [{ key := k, src := .fdc r.val id, phase := .opened }] } := by
  unfold State.getFd at h
  split at h
  · cases h
  · split at h
    · rename_i m id hg
      split at h
      · rename_i r hr
        cases h; exact ⟨m, id, r, hg, hr, rfl⟩
      · cases h
    · cases h

theorem State.getOpen_some {k : Nat} {o : Opts} (h : s.getOpen k o = some s') :
    ∃ i : Nat, s.disk k = some i ∧
      s' = { s with files := s.files ++ [{ key := k, inode := i, closed := false, owner := .reader s.readers.length }],
                    readers := s.readers ++ [{ key := k, src := .own s.files.length (s.cfg.direct || o.direct),
                                               phase := .opened }] } := by
  unfold State.getOpen at h
  split at h
  · rename_i i hd
    cases h; exact ⟨i, hd, rfl⟩
  · cases h

theorem State.read_some {r : Nat} (h : s.read r = some s') : s' = s := by
  unfold State.read at h
  split at h
  · split at h
    · cases h; rfl
    · cases h
  · cases h

theorem State.closeReader_some {r : Nat} (h : s.closeReader r = some s') :
    ∃ rd : Reader, s.readers[r]? = some rd ∧ rd.phase = .opened ∧
      ((∃ b rc, rd.src = .mem b rc ∧
          s' = { s with mem := (s.mem.dec rc).1, bufs := evictBuf s.bufs (s.mem.dec rc).2,
                        readers := setRPhase s.readers r rd .closed }) ∨
       (∃ f rc, rd.src = .fdc f rc ∧
          s' = { s with fd := (s.fd.dec rc).1, files := evictFile s.files (s.fd.dec rc).2,
                        readers := setRPhase s.readers r rd .closed }) ∨
       (∃ f, rd.src = .own f true ∧
          s' = { s with files := evictFile s.files (some f), readers := setRPhase s.readers r rd .closed }) ∨
       (∃ f fo l' id added fired,
          s' = { s with fd := l',
                        files := if added then evictFile (s.files.set f { fo with owner := .cached id }) fired
                          else s.files.set f { fo with closed := true },
                        readers := setRPhase s.readers r rd (.closing id) } ∧
          rd.src = .own f false ∧ s.files[f]? = some fo ∧ s.fd.add rd.key f = (l', id, added, fired))) := by
  unfold State.closeReader at h
  split at h
  · rename_i rd hrd
    split at h
    · rename_i hopen
      split at h
      · rename_i b rc hsrc
        cases h; exact ⟨rd, hrd, hopen, Or.inl ⟨b, rc, hsrc, rfl⟩⟩
      · rename_i f rc hsrc
        cases h; exact ⟨rd, hrd, hopen, Or.inr (Or.inl ⟨f, rc, hsrc, rfl⟩)⟩
      · rename_i f hsrc
        cases h; exact ⟨rd, hrd, hopen, Or.inr (Or.inr (Or.inl ⟨f, hsrc, rfl⟩))⟩
      · rename_i f hsrc
        split at h
        · rename_i fo hfo
          cases h; exact ⟨rd, hrd, hopen, Or.inr (Or.inr (Or.inr ⟨f, fo, _, _, _, _, rfl, hsrc, hfo, rfl⟩))⟩
        · cases h
    · cases h
  · cases h

theorem State.closeReaderDone_some {r : Nat} (h : s.closeReaderDone r = some s') :
    ∃ (rd : Reader) (rc : Nat), s.readers[r]? = some rd ∧ rd.phase = .closing rc ∧
      s' = { s with fd := (s.fd.dec rc).1, files := evictFile s.files (s.fd.dec rc).2,
                    readers := setRPhase s.readers r rd .closed } := by
  unfold State.closeReaderDone at h
  split at h
  · rename_i rd hrd
    split at h
    · rename_i rc hph
      cases h; exact ⟨rd, rc, hrd, hph, rfl⟩
    · cases h
  · cases h

end Steps

theorem Inv.reader_mem_alive {s : State} (hi : Inv s) {r : Nat} {rd : Reader} (hr : s.readers[r]? = some rd)
    (ho : rd.phase = .opened) {b rc : Nat} (hs : rd.src = .mem b rc) :
    ∃ x : RC, s.mem.rcs[rc]? = some x ∧ x.val = b ∧ x.key = rd.key ∧ x.alive := by
  have hok := hi.rd r rd hr
  simp only [RdOk, ho, hs] at hok
  obtain ⟨x, h1, h2, h3⟩ := hok
  have hold : Reader.holdsMem rc rd = true := by simp [Reader.holdsMem, ho, hs]
  have hheld : 1 ≤ memHolders s.readers s.writers rc := by
    have := countP_pos_of_get (p := Reader.holdsMem rc) hr hold
    simp only [memHolders]; omega
  exact ⟨x, h1, h2, h3, hi.mem.alive_of_held h1 hheld⟩

theorem Inv.reader_fd_alive {s : State} (hi : Inv s) {r : Nat} {rd : Reader} (hr : s.readers[r]? = some rd)
    (ho : rd.phase = .opened) {f rc : Nat} (hs : rd.src = .fdc f rc) :
    ∃ x : RC, s.fd.rcs[rc]? = some x ∧ x.val = f ∧ x.key = rd.key ∧ x.alive := by
  have hok := hi.rd r rd hr
  simp only [RdOk, ho, hs] at hok
  obtain ⟨x, h1, h2, h3⟩ := hok
  have hold : Reader.holdsFd rc rd = true := by simp [Reader.holdsFd, ho, hs]
  have hheld : 1 ≤ fdHolders s.readers rc := countP_pos_of_get (p := Reader.holdsFd rc) hr hold
  exact ⟨x, h1, h2, h3, hi.fd.alive_of_held h1 hheld⟩

theorem Inv.writer_mem_alive {s : State} (hi : Inv s) {w : Nat} {wr : Writer} (hw : s.writers[w]? = some wr)
    {rc : Nat} (hp : wr.phase = .published rc ∨ wr.phase = .written rc ∨ wr.phase = .finishing rc) :
    ∃ x : RC, s.mem.rcs[rc]? = some x ∧ x.alive := by
  have hold : Writer.holdsMem rc wr = true := by
    rcases hp with hp | hp | hp <;> simp [Writer.holdsMem, hp]
  have hheld : 1 ≤ memHolders s.readers s.writers rc := by
    have := countP_pos_of_get (p := Writer.holdsMem rc) hw hold
    simp only [memHolders]; omega
  exact hi.mem.get_of_held hheld

/-- Between `dc.cache.Add` and the write to the wip file: the writer's closure keeps `rc` alive, so the cached buffer
still holds a committed value of the key; the wip file is the writer's own and still empty. -/
theorem Inv.published_buf_committed {s : State} (hi : Inv s) {w rc : Nat} {wr : Writer}
    (hw : s.writers[w]? = some wr) (hph : wr.phase = .published rc) :
    ∃ (x : RC) (bf : Buf) (ino : Inode), s.mem.rcs[rc]? = some x ∧ x.key = wr.key ∧ s.bufs[x.val]? = some bf ∧
      bf.data ∈ s.committed wr.key ∧ s.inodes[wr.wip]? = some ino ∧ ino.st = .wip w ∧ ino.data = [] := by
  have hok := hi.wr w wr hw
  simp only [WrOk, hph] at hok
  obtain ⟨_, ⟨x, hx, hk⟩, ino, hino, hst, hdata⟩ := hok
  obtain ⟨x', hx', halive⟩ := hi.writer_mem_alive hw (Or.inl hph)
  rw [hx] at hx'; cases hx'
  obtain ⟨bf, hbf, _, hc⟩ := hi.buf rc x hx halive
  exact ⟨x, bf, ino, hx, hk, hbf, hk ▸ hc, hino, hst, hdata⟩

theorem Inv.addOpen {s s' : State} {k : Nat} {o : Opts} {reuse : Option Nat} (hi : Inv s)
    (h : s.addOpen k o reuse = some s') : Inv s' := by
  obtain ⟨wr, bufs, rfl, hph, hwip, hwritten, hcase⟩ := State.addOpen_some h
  have hpub := PubKept.append s.inodes { data := [], st := .wip s.writers.length }
  -- the new writer's buffer, if it has one, is fresh or comes out of the pool; no other buffer changes
  have hbufs : PoolInv bufs ∧ BufInv s.mem.rcs bufs s.committed ∧
      (∀ w, Keeps s.bufs bufs (fun bf => bf.owner = .writer w)) ∧
      (wr.direct = false →
        ∃ bf : Buf, bufs[wr.buf]? = some bf ∧ bf.owner = .writer s.writers.length ∧ bf.data = []) := by
    rcases hcase with ⟨hd, rfl⟩ | ⟨_, hb, rfl⟩ | ⟨_, bf, hb, hown, rfl⟩
    · exact ⟨hi.pool, hi.buf, fun _ => Keeps.refl, fun hc => by rw [hd] at hc; cases hc⟩
    · exact ⟨hi.pool.append (fun _ => rfl), hi.buf.append _, fun _ => Keeps.append,
        fun _ => ⟨_, by rw [hb]; exact List.getElem?_concat_length, rfl, rfl⟩⟩
    · exact ⟨hi.pool.set _ (fun hc => by cases hc),
        hi.buf.owns.set_unowned hb (fun _ hc => nomatch hown.symm.trans hc) _,
        fun w => Keeps.set_own _ hb hown nofun,
        fun _ => ⟨_, List.getElem?_set_self (lt_of_get_some hb), rfl, hi.pool _ bf hb hown⟩⟩
  obtain ⟨hpool, hbuf, hkeep, hown⟩ := hbufs
  refine { hi with
    pool := hpool, mem := ?_, buf := hbuf, fileIno := hi.fileIno.inodes hpub,
    inoComm := hi.inoComm.append_wip _ _, diskIno := hi.diskIno.of_pub hpub, wr := ?_, comm := ?_ }
  · refine hi.mem.congr (fun i => ?_)
    rw [memHolders_append_writer]; simp [Writer.holdsMem, hph]
  · intro w wr0 hw
    rw [append_some_iff] at hw
    rcases hw with hw | ⟨rfl, rfl⟩
    · exact (hi.wr w wr0 hw).frame (hkeep w) Keeps.append (RcsLe.refl _) (CmLe.refl _)
    · have hwipok : WipOk (s.inodes ++ [{ data := [], st := .wip s.writers.length }]) s.writers.length wr
          (· = []) := ⟨_, by rw [hwip]; exact List.getElem?_concat_length, rfl, rfl⟩
      simp only [WrOk, hph]
      split
      · exact hwipok.imp (fun _ hd => hd.trans hwritten.symm)
      · rename_i hd
        obtain ⟨bf, h1, h2, h3⟩ := hown (by simpa using hd)
        exact ⟨⟨bf, h1, h2, h3.trans hwritten.symm⟩, hwipok⟩
  · exact hi.comm.frame (fun w wr hw h1 h2 => ⟨wr, append_get_old hw, rfl, rfl, h1, h2⟩)

theorem Inv.write {s s' : State} {w : Nat} {p : Bytes} (hi : Inv s) (h : s.write w p = some s') : Inv s' := by
  obtain ⟨wr, hw, hopen, hcase⟩ := State.write_some h
  have hok := hi.wr w wr hw
  simp only [WrOk, hopen] at hok
  have hmem : s.mem.Inv (memHolders s.readers (s.writers.set w { wr with written := wr.written ++ p })) :=
    hi.mem.congr (memHolders_set_writer_same hw (fun _ => rfl))
  have hcomm : CommInv s.committed (s.writers.set w { wr with written := wr.written ++ p }) :=
    hi.comm.set hw (fun h1 _ => absurd hopen h1)
  rcases hcase with ⟨hd, ino, hino, rfl⟩ | ⟨hd, bf, hbf, rfl⟩
  · simp only [hd, if_true] at hok
    obtain ⟨ino0, hino0, hst0, hdata0⟩ := hok
    rw [hino] at hino0; cases hino0
    have hpub := PubKept.set_wip hino hst0 { ino with data := ino.data ++ p }
    refine { hi with
      mem := hmem, fileIno := hi.fileIno.inodes hpub,
      inoComm := hi.inoComm.set _ (fun k hk => nomatch hst0.symm.trans hk),
      diskIno := hi.diskIno.of_pub hpub,
      wr := ?_, comm := hcomm }
    refine hi.wr.set ?_ (fun _ _ => Keeps.refl)
      (fun w' hne => Keeps.set_own _ hino hst0 (fun h => hne (IState.wip.inj h)))
      (RcsLe.refl _) (CmLe.refl _)
    simp only [WrOk, hopen, hd, if_true]
    exact ⟨_, List.getElem?_set_self (lt_of_get_some hino), hst0, by simp [hdata0]⟩
  · simp only [hd] at hok
    obtain ⟨⟨bf0, hbf0, hown0, hdata0⟩, hwip0⟩ := hok
    rw [hbf] at hbf0; cases hbf0
    refine { hi with
      pool := hi.pool.set _ (fun hc => nomatch hown0.symm.trans hc), mem := hmem,
      buf := hi.buf.owns.set_unowned hbf (Buf.not_cached_of_writer hown0) _, wr := ?_, comm := hcomm }
    refine hi.wr.set ?_
      (fun w' hne => Keeps.set_own _ hbf hown0 (fun h => hne (Owner.writer.inj h)))
      (fun _ _ => Keeps.refl) (RcsLe.refl _) (CmLe.refl _)
    simp only [WrOk, hopen, hd]
    exact ⟨⟨_, List.getElem?_set_self (lt_of_get_some hbf), hown0, by simp [hdata0]⟩, hwip0⟩

theorem Inv.abort {s s' : State} {w : Nat} (hi : Inv s) (h : s.abort w = some s') : Inv s' := by
  obtain ⟨wr, hw, hopen, hcase⟩ := State.abort_some h
  have hok := hi.wr w wr hw
  simp only [WrOk, hopen] at hok
  have hmem : s.mem.Inv (memHolders s.readers (setWPhase s.writers w wr .aborted)) :=
    hi.mem.congr (memHolders_set_writer_same hw (fun i => by simp [Writer.holdsMem, hopen]))
  have hcomm : CommInv s.committed (setWPhase s.writers w wr .aborted) :=
    hi.comm.set hw (fun h1 _ => absurd hopen h1)
  rcases hcase with ⟨hd, rfl⟩ | ⟨hd, rfl⟩
  · simp only [hd, if_true] at hok
    refine { hi with mem := hmem, wr := ?_, comm := hcomm }
    refine hi.wr.set ?_ (fun _ _ => Keeps.refl) (fun _ _ => Keeps.refl) (RcsLe.refl _) (CmLe.refl _)
    simp only [WrOk]
    exact hok.imp (fun _ _ => trivial)
  · simp only [hd] at hok
    obtain ⟨⟨bf0, hbf0, hown0, _⟩, hwip0⟩ := hok
    refine { hi with
      pool := hi.pool.set _ (fun _ => rfl), mem := hmem,
      buf := hi.buf.owns.set_unowned hbf0 (Buf.not_cached_of_writer hown0) _, wr := ?_, comm := hcomm }
    refine hi.wr.set ?_
      (fun w' hne => Keeps.set_own _ hbf0 hown0 (fun h => hne (Owner.writer.inj h)))
      (fun _ _ => Keeps.refl) (RcsLe.refl _) (CmLe.refl _)
    simp only [WrOk]
    exact hwip0.imp (fun _ _ => trivial)

theorem WrOk.closed {bufs : List Buf} {inodes : List Inode} {rcs : List RC} {cm : Nat → List Bytes} {w : Nat}
    {wr : Writer} (h : WrOk bufs inodes rcs cm w wr) : WrOk bufs inodes rcs cm w { wr with closed := true } := h

theorem Inv.closeWriter {s s' : State} {w : Nat} (hi : Inv s) (h : s.closeWriter w = some s') : Inv s' := by
  obtain ⟨wr, hw, rfl⟩ := State.closeWriter_some h
  exact { hi with
    mem := hi.mem.congr (memHolders_set_writer_same hw (fun _ => rfl)),
    wr := hi.wr.set (hi.wr w wr hw).closed (fun _ _ => Keeps.refl) (fun _ _ => Keeps.refl) (RcsLe.refl _) (CmLe.refl _),
    comm := hi.comm.set hw (fun h1 h2 => ⟨rfl, rfl, h1, h2⟩) }

theorem Inv.read {s s' : State} {r : Nat} (hi : Inv s) (h : s.read r = some s') : Inv s' :=
  State.read_some h ▸ hi

theorem Inv.getOpen {s s' : State} {k : Nat} {o : Opts} (hi : Inv s) (h : s.getOpen k o = some s') : Inv s' := by
  obtain ⟨i, hd, rfl⟩ := State.getOpen_some h
  obtain ⟨ino, hino, hst⟩ := hi.diskIno k i hd
  refine { hi with mem := ?_, fd := ?_, file := hi.file.append _, fileIno := ?_, rd := ?_ }
  · refine hi.mem.congr (fun j => ?_)
    rw [memHolders_append_reader]; simp [Reader.holdsMem]
  · refine hi.fd.congr (fun j => ?_)
    rw [fdHolders_append]; simp [Reader.holdsFd]
  · refine hi.fileIno.of_same (fun f fo hf => ?_) (PubKept.refl _)
    rw [append_some_iff] at hf
    rcases hf with hf | ⟨_, rfl⟩
    · exact Or.inl ⟨fo, hf, rfl, rfl⟩
    · exact Or.inr ⟨ino, hino, hst⟩
  · refine hi.rd.append ?_ (RcsLe.refl _) (RcsLe.refl _) (fun _ _ => Keeps.append)
    simp only [RdOk]
    exact ⟨_, List.getElem?_concat_length, rfl, rfl, rfl⟩

theorem Inv.getMem {s s' : State} {k : Nat} {o : Opts} (hi : Inv s) (h : s.getMem k o = some s') : Inv s' := by
  obtain ⟨m, id, r, hg, hr, rfl⟩ := State.getMem_some h
  obtain ⟨h1, hspec⟩ :=
    LRU.get_spec (h' := memHolders (s.readers ++ [{ key := k, src := .mem r.val id, phase := .opened }]) s.writers)
      hi.mem hg (fun j => by rw [memHolders_append_reader]; simp [Reader.holdsMem]) 0
  obtain ⟨r', g2, gk⟩ := hspec.rc
  rw [hr] at g2; cases g2
  refine { hi with
    mem := h1, fd := ?_, buf := hi.buf.owns.eff hspec.eff Owner.cached_inj evictBuf_get_ne (no_new_of_len (hspec.existing rfl).2.1), wr := ?_, rd := ?_ }
  · refine hi.fd.congr (fun j => ?_)
    rw [fdHolders_append]; simp [Reader.holdsFd]
  · exact hi.wr.frame (fun _ => Keeps.refl) (fun _ => Keeps.refl) hspec.eff.rcsLe (CmLe.refl _)
  · refine hi.rd.append ?_ hspec.eff.rcsLe (RcsLe.refl _) (fun _ _ => Keeps.refl)
    simp only [RdOk]
    exact ⟨r, hr, rfl, gk⟩

theorem Inv.getFd {s s' : State} {k : Nat} {o : Opts} (hi : Inv s) (h : s.getFd k o = some s') : Inv s' := by
  obtain ⟨m, id, r, hg, hr, rfl⟩ := State.getFd_some h
  obtain ⟨h1, hspec⟩ :=
    LRU.get_spec (h' := fdHolders (s.readers ++ [{ key := k, src := .fdc r.val id, phase := .opened }]))
      hi.fd hg (fun j => by rw [fdHolders_append]; simp [Reader.holdsFd]) 0
  obtain ⟨r', g2, gk⟩ := hspec.rc
  rw [hr] at g2; cases g2
  refine { hi with
    mem := ?_, fd := h1, file := hi.file.owns.eff hspec.eff FOwner.cached_inj evictFile_get_ne (no_new_of_len (hspec.existing rfl).2.1), rd := ?_ }
  · refine hi.mem.congr (fun j => ?_)
    rw [memHolders_append_reader]; simp [Reader.holdsMem]
  · refine hi.rd.append ?_ (RcsLe.refl _) hspec.eff.rcsLe (fun _ _ => Keeps.refl)
    simp only [RdOk]
    exact ⟨r, hr, rfl, gk⟩

/-- `done()` on memory refCounter `rc` (by a reader's `Close` or at the end of a writer's `Commit`), as far as the
memory LRU and the buffers go: `h'` is the holder count once the caller has let go. -/
theorem Inv.memDone {s : State} (hi : Inv s) {rc : Nat} {h' : Nat → Nat}
    (hh : ∀ j, h' j + (if rc = j then 1 else 0) = memHolders s.readers s.writers j) :
    s.mem.DecSpec (s.mem.dec rc).1 h' (s.mem.dec rc).2 ∧
      BufInv (s.mem.dec rc).1.rcs (evictBuf s.bufs (s.mem.dec rc).2) s.committed ∧
      ∀ w, Keeps s.bufs (evictBuf s.bufs (s.mem.dec rc).2) (fun bf => bf.owner = .writer w) := by
  have hd := LRU.dec_spec hi.mem hh
  exact ⟨hd, hi.buf.owns.eff hd.eff Owner.cached_inj evictBuf_get_ne (no_new_of_len hd.len),
    fun _ => (hi.buf.owns.eff_keeps hd.eff evictBuf_get_ne).mono (fun _ ho _ _ hc => nomatch ho.symm.trans hc)⟩

/-- `done()` on descriptor refCounter `rc`: the `Close` of a descriptor-cache reader and the deferred call of an
`own` reader's `Close` are the same step. -/
theorem Inv.fdDone {s : State} (hi : Inv s) {r rc : Nat} {rd : Reader} (hrd : s.readers[r]? = some rd)
    (hfd : ∀ j, rd.holdsFd j = (rc == j)) (hmem : ∀ j, rd.holdsMem j = false) :
    Inv { s with fd := (s.fd.dec rc).1, files := evictFile s.files (s.fd.dec rc).2,
                 readers := setRPhase s.readers r rd .closed } := by
  have hd := LRU.dec_spec (h' := fdHolders (setRPhase s.readers r rd .closed)) hi.fd
    (fun j => by
      have := fdHolders_set { rd with phase := .closed } j hrd
      rw [hfd] at this
      simpa [setRPhase, Reader.holdsFd] using this)
  refine { hi with
    mem := ?_, fd := hd.inv,
    file := hi.file.owns.eff hd.eff FOwner.cached_inj evictFile_get_ne (no_new_of_len hd.len),
    fileIno := hi.fileIno.evict _, rd := ?_ }
  · exact hi.mem.congr (memHolders_set_reader_same hrd (fun j => (hmem j).symm))
  · exact hi.rd.set (by simp [RdOk]) (RcsLe.refl _) hd.eff.rcsLe
      (fun _ _ => (hi.file.owns.eff_keeps hd.eff evictFile_get_ne).mono (fun _ ho _ _ hc => nomatch ho.symm.trans hc))

theorem Inv.closeReader {s s' : State} {r : Nat} (hi : Inv s) (h : s.closeReader r = some s') : Inv s' := by
  obtain ⟨rd, hrd, hopen, hcase⟩ := State.closeReader_some h
  have hok := hi.rd r rd hrd
  simp only [RdOk, hopen] at hok
  rcases hcase with ⟨b, rc, hsrc, rfl⟩ | ⟨f, rc, hsrc, rfl⟩ | ⟨f, hsrc, rfl⟩ |
    ⟨f, fo, l', id, added, fired, rfl, hsrc, hfo, ha⟩
  · obtain ⟨hd, hbuf, hkeep⟩ :=
      hi.memDone (h' := memHolders (setRPhase s.readers r rd .closed) s.writers)
      (fun j => by
        have := memHolders_set_reader s.writers { rd with phase := .closed } j hrd
        simpa [setRPhase, Reader.holdsMem, hopen, hsrc] using this)
    refine { hi with pool := hi.pool.evict _, mem := hd.inv, fd := ?_, buf := hbuf, wr := ?_, rd := ?_ }
    · exact hi.fd.congr (fdHolders_set_same hrd (fun j => by simp [Reader.holdsFd, hopen, hsrc]))
    · exact hi.wr.frame hkeep (fun _ => Keeps.refl) hd.eff.rcsLe (CmLe.refl _)
    · exact hi.rd.set (by simp [RdOk]) hd.eff.rcsLe (RcsLe.refl _) (fun _ _ => Keeps.refl)
  · exact hi.fdDone hrd (fun j => by simp [Reader.holdsFd, hopen, hsrc])
      (fun j => by simp [Reader.holdsMem, hopen, hsrc])
  · simp only [hsrc] at hok
    obtain ⟨fo, hfo, hown, _, _⟩ := hok
    simp only [evictFile, hfo]
    refine { hi with
      mem := ?_, fd := ?_, file := hi.file.owns.set_unowned hfo (FileObj.not_cached_of_reader hown) _,
      fileIno := hi.fileIno.set_same hfo { fo with closed := true } rfl rfl, rd := ?_ }
    · exact hi.mem.congr (memHolders_set_reader_same hrd (fun j => by simp [Reader.holdsMem, hopen, hsrc]))
    · exact hi.fd.congr (fdHolders_set_same hrd (fun j => by simp [Reader.holdsFd, hopen, hsrc]))
    · exact hi.rd.set (by simp [RdOk]) (RcsLe.refl _) (RcsLe.refl _)
        (fun r' hne => Keeps.set_own _ hfo hown (fun h => hne (FOwner.reader.inj h)))
  · simp only [hsrc] at hok
    obtain ⟨fo', hfo', hown, hclosed, hkey⟩ := hok
    rw [hfo] at hfo'; cases hfo'
    obtain ⟨h1, hspec⟩ := LRU.add_spec (h' := fdHolders (setRPhase s.readers r rd (.closing id))) hi.fd ha
      (fun j => by
        have := fdHolders_set { rd with phase := .closing id } j hrd
        simpa [setRPhase, Reader.holdsFd, hopen, hsrc] using this)
    obtain ⟨hfile, hkeep⟩ := hi.file.owns.add hspec FOwner.cached_inj hfo
      (FileObj.not_cached_of_reader hown) (x1 := { fo with owner := .cached id }) rfl ⟨hclosed, hkey⟩
      { fo with closed := true } (ev := fun o => evictFile o fired) (fun _ b => evictFile_get_ne b)
    obtain ⟨x, hx, _⟩ := hspec.rc
    refine { hi with mem := ?_, fd := h1, file := hfile, fileIno := ?_, rd := ?_ }
    · exact hi.mem.congr (memHolders_set_reader_same hrd (fun j => by simp [Reader.holdsMem, hopen, hsrc]))
    · split
      · exact (hi.fileIno.set_same hfo { fo with owner := .cached id } rfl rfl).evict _
      · exact hi.fileIno.set_same hfo { fo with closed := true } rfl rfl
    · refine hi.rd.set ?_ (RcsLe.refl _) hspec.eff.rcsLe (fun r0 hne => hkeep _
        (fun hc => hne (FOwner.reader.inj (hc.symm.trans hown))) (fun _ => FileObj.not_cached_of_reader))
      simp only [RdOk]; exact ⟨x, hx⟩

theorem Inv.closeReaderDone {s s' : State} {r : Nat} (hi : Inv s) (h : s.closeReaderDone r = some s') :
    Inv s' := by
  obtain ⟨rd, rc, hrd, hph, rfl⟩ := State.closeReaderDone_some h
  exact hi.fdDone hrd (fun j => by simp [Reader.holdsFd, hph]) (fun j => by simp [Reader.holdsMem, hph])

theorem Inv.commitMemPublish {s s' : State} {w : Nat} (hi : Inv s) (h : s.commitMemPublish w = some s') :
    Inv s' := by
  obtain ⟨wr, bf0, l', id, added, fired, rfl, hw, hopen, hd, hbf0, ha⟩ := State.commitMemPublish_some h
  have hok := hi.wr w wr hw
  simp only [WrOk, hopen, hd] at hok
  obtain ⟨⟨bf1, hbf1, hown0, hdata0⟩, hwip0⟩ := hok
  rw [hbf0] at hbf1; cases hbf1
  obtain ⟨h1, hspec⟩ := LRU.add_spec (h' := memHolders s.readers (setWPhase s.writers w wr (.published id)))
    hi.mem ha
    (fun j => by
      have := memHolders_set_writer s.readers { wr with phase := .published id } j hw
      simpa [setWPhase, Writer.holdsMem, hopen] using this)
  have hle := CmLe.add s.committed wr.key wr.written
  obtain ⟨hbuf, hkeep⟩ := (hi.buf.mono hle).owns.add hspec Owner.cached_inj hbf0
    (Buf.not_cached_of_writer hown0) (x1 := { bf0 with owner := .cached id }) rfl
    (hdata0 ▸ mem_addCommitted _ _ _) { data := [], owner := .pooled } (ev := fun o => evictBuf o fired)
    (fun _ b => evictBuf_get_ne b)
  refine { hi with
    pool := ?_, mem := h1, buf := hbuf, inoComm := hi.inoComm.mono hle, wr := ?_,
    rd := hi.rd.frame hspec.eff.rcsLe (RcsLe.refl _) (fun _ => Keeps.refl), comm := ?_ }
  · split
    · exact (hi.pool.set _ (fun hc => by cases hc)).evict _
    · exact hi.pool.set _ (fun _ => rfl)
  · refine hi.wr.set ?_ (fun w' hne => hkeep _ (fun hc => hne (Owner.writer.inj (hc.symm.trans hown0)))
      (fun _ => Buf.not_cached_of_writer)) (fun _ _ => Keeps.refl) hspec.eff.rcsLe hle
    simp only [WrOk]
    exact ⟨hd, hspec.rc, hwip0⟩
  · exact (hi.comm.set hw (fun h1 _ => absurd hopen h1)).add (w := w) (wr := { wr with phase := .published id })
      (List.getElem?_set_self (lt_of_get_some hw)) (by simp) (by simp)

theorem Inv.commitDiskWrite {s s' : State} {w : Nat} {fail : Option Nat} (hi : Inv s)
    (h : s.commitDiskWrite w fail = some s') : Inv s' := by
  obtain ⟨wr, rc, r0, bfc, ino0, d, p, rfl, hw, hph, hr0, hbfc, hino0, hcase⟩ := State.commitDiskWrite_some h
  obtain ⟨x, bf1, ino1, hx, hk0, hbf1, hdatac, hino1, hst0, hdata0⟩ := hi.published_buf_committed hw hph
  rw [hr0] at hx; cases hx
  rw [hbfc] at hbf1; cases hbf1
  rw [hino0] at hino1; cases hino1
  have hpub := PubKept.set_wip hino0 hst0 { ino0 with data := ino0.data ++ d }
  have hp : p = .written rc ∨ p = .finishing rc := hcase.elim (fun h => Or.inl h.2.2) (fun ⟨_, h⟩ => Or.inr h.2.2)
  refine { hi with
    mem := ?_, fileIno := hi.fileIno.inodes hpub,
    inoComm := hi.inoComm.set _ (fun k hk => nomatch hst0.symm.trans hk), diskIno := hi.diskIno.of_pub hpub,
    wr := ?_, comm := ?_ }
  · refine hi.mem.congr (memHolders_set_writer_same hw (fun i => ?_))
    rcases hp with rfl | rfl <;> simp [Writer.holdsMem, hph]
  · refine hi.wr.set ?_ (fun _ _ => Keeps.refl)
      (fun w' hne => Keeps.set_own _ hino0 hst0 (fun h => hne (IState.wip.inj h)))
      (RcsLe.refl _) (CmLe.refl _)
    rcases hcase with ⟨_, rfl, rfl⟩ | ⟨_, _, _, rfl⟩
    · simp only [WrOk]
      refine ⟨⟨r0, hr0, hk0⟩, _, List.getElem?_set_self (lt_of_get_some hino0), hst0, ?_⟩
      simp only [hdata0, List.nil_append]; exact hdatac
    · simp only [WrOk]
      exact ⟨r0, hr0⟩
  · rcases hp with rfl | rfl <;> exact hi.comm.set hw (fun _ _ => ⟨rfl, rfl, by simp, by simp⟩)

theorem Inv.commitRename {s s' : State} {w : Nat} (hi : Inv s) (h : s.commitRename w = some s') : Inv s' := by
  obtain ⟨wr, ino, p, cm, rfl, hw, hino, hcase⟩ := State.commitRename_some h
  have hok := hi.wr w wr hw
  -- in both cases the wip file is the writer's own and holds a value that is committed by now
  have hfacts : ino.st = .wip w ∧ ino.data ∈ cm wr.key ∧ CmLe s.committed cm ∧
      CommInv cm (setWPhase s.writers w wr p) ∧ (∀ i, Writer.holdsMem i { wr with phase := p } = wr.holdsMem i) ∧
      ∀ (bufs : List Buf) (inodes : List Inode), WrOk bufs inodes s.mem.rcs cm w { wr with phase := p } := by
    rcases hcase with ⟨rc, hph, rfl, rfl⟩ | ⟨hph, hd, rfl, rfl⟩
    · simp only [WrOk, hph] at hok
      obtain ⟨⟨r0, hr0, _⟩, ino0, hino0, hst0, hdata0⟩ := hok
      rw [hino] at hino0; cases hino0
      exact ⟨hst0, hdata0, CmLe.refl _, hi.comm.set hw (fun _ _ => ⟨rfl, rfl, by simp, by simp⟩),
        fun i => by simp [Writer.holdsMem, hph], fun _ _ => by simp only [WrOk]; exact ⟨r0, hr0⟩⟩
    · simp only [WrOk, hph, hd, if_true] at hok
      obtain ⟨ino0, hino0, hst0, hdata0⟩ := hok
      rw [hino] at hino0; cases hino0
      refine ⟨hst0, by rw [hdata0]; exact mem_addCommitted _ _ _, CmLe.add _ _ _, ?_,
        fun i => by simp [Writer.holdsMem, hph], fun _ _ => by simp only [WrOk]⟩
      exact (hi.comm.set hw (fun h1 _ => absurd hph h1)).add (w := w) (wr := { wr with phase := .committed })
        (List.getElem?_set_self (lt_of_get_some hw)) (by simp) (by simp)
  obtain ⟨hst, hdata, hle, hcomm, hhold, hself⟩ := hfacts
  have hpub := PubKept.set_wip hino hst { ino with st := .pub wr.key }
  refine { hi with
    mem := hi.mem.congr (memHolders_set_writer_same hw hhold), buf := hi.buf.mono hle,
    fileIno := hi.fileIno.inodes hpub,
    inoComm := (hi.inoComm.mono hle).set _ (fun k hk => by cases hk; exact hdata), diskIno := ?_, wr := ?_,
    comm := hcomm }
  · intro k i hk
    simp only at hk
    split at hk
    · rename_i hkk
      cases hk; subst hkk
      exact ⟨_, List.getElem?_set_self (lt_of_get_some hino), rfl⟩
    · exact hi.diskIno.of_pub hpub k i hk
  · exact hi.wr.set (hself _ _) (fun _ _ => Keeps.refl)
      (fun w' hne => Keeps.set_own _ hino hst (fun h => hne (IState.wip.inj h)))
      (RcsLe.refl _) hle

theorem Inv.commitDone {s s' : State} {w : Nat} (hi : Inv s) (h : s.commitDone w = some s') : Inv s' := by
  obtain ⟨wr, rc, hw, hph, rfl⟩ := State.commitDone_some h
  obtain ⟨hd, hbuf, hkeep⟩ :=
    hi.memDone (h' := memHolders s.readers (setWPhase s.writers w wr .committed))
    (fun j => by
      have := memHolders_set_writer s.readers { wr with phase := .committed } j hw
      simpa [setWPhase, Writer.holdsMem, hph] using this)
  refine { hi with
    pool := hi.pool.evict _, mem := hd.inv, buf := hbuf, wr := ?_,
    rd := hi.rd.frame hd.eff.rcsLe (RcsLe.refl _) (fun _ => Keeps.refl),
    comm := hi.comm.set hw (fun _ _ => ⟨rfl, rfl, by simp, by simp⟩) }
  refine hi.wr.set ?_ (fun w' _ => hkeep w') (fun _ _ => Keeps.refl) hd.eff.rcsLe (CmLe.refl _)
  simp only [WrOk]

theorem Inv.step? {s s' : State} {a : Step} (hi : Inv s) (h : s.step? a = some s') : Inv s' := by
  cases a with
  | addOpen k o reuse => exact hi.addOpen h
  | write w p => exact hi.write h
  | commitMemPublish w => exact hi.commitMemPublish h
  | commitDiskWrite w f => exact hi.commitDiskWrite h
  | commitRename w => exact hi.commitRename h
  | commitDone w => exact hi.commitDone h
  | abort w => exact hi.abort h
  | closeWriter w => exact hi.closeWriter h
  | getMem k o => exact hi.getMem h
  | getFd k o => exact hi.getFd h
  | getOpen k o => exact hi.getOpen h
  | read r => exact hi.read h
  | closeReader r => exact hi.closeReader h
  | closeReaderDone r => exact hi.closeReaderDone h

theorem Inv.new (memCap fdCap : Nat) (cfg : Config) : Inv (State.new memCap fdCap cfg) := by
  have hnil : ∀ {α : Type} {i : Nat} {x : α} {P : Prop}, ([] : List α)[i]? = some x → P :=
    fun h => by simp at h
  have hlru : ∀ c, LRU.Inv { cap := c } (fun _ => 0) := fun _ =>
    ⟨fun _ _ h => hnil h, fun _ h => (List.not_mem_nil h).elim, List.nodup_nil, fun _ _ => rfl⟩
  exact {
    pool := fun _ _ h => hnil h, mem := hlru _, fd := hlru _, buf := fun _ _ h => hnil h,
    file := fun _ _ h => hnil h, fileIno := fun _ _ h => hnil h, inoComm := fun _ _ _ h => hnil h,
    diskIno := fun _ _ h => (nomatch h), wr := fun _ _ h => hnil h, rd := fun _ _ h => hnil h,
    comm := fun _ _ h => (List.not_mem_nil h).elim }

theorem Inv.buf_unreferenced {s : State} (hi : Inv s) {b : Nat} {bf : Buf} (hb : s.bufs[b]? = some bf)
    (hn : ∀ i, bf.owner ≠ .cached i) :
    (∀ (r : Nat) (rd : Reader) (rc : Nat), s.readers[r]? = some rd → rd.phase = .opened → rd.src ≠ .mem b rc) ∧
    (∀ e ∈ s.mem.order, ∀ x : RC, s.mem.rcs[e.2]? = some x → x.val ≠ b) ∧
    (∀ (w : Nat) (wr : Writer) (rc : Nat) (x : RC), s.writers[w]? = some wr →
      (wr.phase = .published rc ∨ wr.phase = .written rc ∨ wr.phase = .finishing rc) →
      s.mem.rcs[rc]? = some x → x.val ≠ b) := by
  have hlive : ∀ (i : Nat) (x : RC), s.mem.rcs[i]? = some x → x.alive → x.val ≠ b := by
    intro i x hx ha hc
    obtain ⟨bf', h1, h2, _⟩ := hi.buf i x hx ha
    rw [hc, hb] at h1; cases h1
    exact hn i h2
  refine ⟨?_, ?_, ?_⟩
  · intro r rd rc hr ho hs
    obtain ⟨x, h1, h2, _, h4⟩ := hi.reader_mem_alive hr ho hs
    exact hlive rc x h1 h4 h2
  · intro e he x hx
    obtain ⟨x', h1, h2, _⟩ := hi.mem.ord e he
    rw [hx] at h1; cases h1
    exact hlive e.2 x hx (hi.mem.alive_of_not_fin hx h2)
  · intro w wr rc x hw hph hx
    obtain ⟨x', h1, h2⟩ := hi.writer_mem_alive hw hph
    rw [hx] at h1; cases h1
    exact hlive rc x hx h2

theorem Inv.wip_unreachable {s : State} (hi : Inv s) {w : Nat} {wr : Writer} (hw : s.writers[w]? = some wr)
    (hc : wr.phase ≠ .committed) (hf : ∀ rc, wr.phase ≠ .finishing rc) :
    (∀ k, s.disk k ≠ some wr.wip) ∧ (∀ (f : Nat) (fo : FileObj), s.files[f]? = some fo → fo.inode ≠ wr.wip) := by
  obtain ⟨ino, h1, h2, _⟩ := (hi.wr w wr hw).wip hc hf
  constructor
  · intro k hk
    obtain ⟨ino', g1, g2⟩ := hi.diskIno k _ hk
    rw [h1] at g1; cases g1
    exact nomatch h2.symm.trans g2
  · intro f fo hf hc
    obtain ⟨ino', g1, g2⟩ := hi.fileIno f fo hf
    rw [hc, h1] at g1; cases g1
    exact nomatch h2.symm.trans g2

theorem Inv.writer_buf {s : State} (hi : Inv s) {w : Nat} {wr : Writer} (hw : s.writers[w]? = some wr)
    (hph : wr.phase = .opened) (hd : wr.direct = false) :
    ∃ bf : Buf, s.bufs[wr.buf]? = some bf ∧ bf.owner = .writer w ∧ bf.data = wr.written := by
  have hok := hi.wr w wr hw
  simp only [WrOk, hph, hd] at hok
  exact hok.1

theorem Inv.file_committed {s : State} (hi : Inv s) {f : Nat} {fo : FileObj} (hf : s.files[f]? = some fo) :
    ∃ ino : Inode, s.inodes[fo.inode]? = some ino ∧ ino.st = .pub fo.key ∧ ino.data ∈ s.committed fo.key := by
  obtain ⟨ino, h1, h2⟩ := hi.fileIno f fo hf
  exact ⟨ino, h1, h2, hi.inoComm _ ino _ h1 h2⟩

theorem State.visible_file {s : State} {rd : Reader} {f : Nat} {fo : FileObj}
    (hs : (∃ rc, rd.src = .fdc f rc) ∨ (∃ d, rd.src = .own f d)) (hf : s.files[f]? = some fo) :
    s.visible rd = if fo.closed then none else s.inodes[fo.inode]?.map (·.data) := by
  rcases hs with ⟨_, hs⟩ | ⟨_, hs⟩ <;> simp only [State.visible, hs, hf]

theorem Inv.visible_committed {s : State} (hi : Inv s) {r : Nat} {rd : Reader} (hr : s.readers[r]? = some rd)
    (ho : rd.phase = .opened) : ∃ v : Bytes, s.visible rd = some v ∧ v ∈ s.committed rd.key := by
  cases hs : rd.src with
  | mem b rc =>
    obtain ⟨x, h1, h2, h3, h4⟩ := hi.reader_mem_alive hr ho hs
    obtain ⟨bf, g1, _, g3⟩ := hi.buf rc x h1 h4
    refine ⟨bf.data, ?_, by rw [← h3]; exact g3⟩
    simp only [State.visible, hs]; rw [← h2, g1]; rfl
  | fdc f rc =>
    obtain ⟨x, h1, h2, h3, h4⟩ := hi.reader_fd_alive hr ho hs
    obtain ⟨fo, g1, _, g3, g4⟩ := hi.file rc x h1 h4
    obtain ⟨ino, k1, _, k3⟩ := hi.file_committed g1
    exact ⟨ino.data, by simp [State.visible_file (.inl ⟨rc, hs⟩) (h2 ▸ g1), g3, k1], by rw [← h3, ← g4]; exact k3⟩
  | own f d =>
    have hok := hi.rd r rd hr
    simp only [RdOk, ho, hs] at hok
    obtain ⟨fo, g1, _, g3, g4⟩ := hok
    obtain ⟨ino, k1, _, k3⟩ := hi.file_committed g1
    exact ⟨ino.data, by simp [State.visible_file (.inr ⟨d, hs⟩) g1, g3, k1], by rw [← g4]; exact k3⟩

theorem State.step?_inodes {s s' : State} {a : Step} (h : s.step? a = some s') :
    s'.inodes = s.inodes ∨ (∃ x, s'.inodes = s.inodes ++ [x]) ∨
      ∃ (w : Nat) (wr : Writer) (x : Inode), s.writers[w]? = some wr ∧ wr.phase ≠ .committed ∧
        (∀ rc, wr.phase ≠ .finishing rc) ∧ s'.inodes = s.inodes.set wr.wip x := by
  cases a with
  | addOpen k o reuse =>
    obtain ⟨_, _, rfl, _⟩ := State.addOpen_some h
    exact .inr (.inl ⟨_, rfl⟩)
  | write w p =>
    obtain ⟨wr, hw, hopen, ⟨_, _, _, rfl⟩ | ⟨_, _, _, rfl⟩⟩ := State.write_some h
    · exact .inr (.inr ⟨w, wr, _, hw, by simp [hopen], by simp [hopen], rfl⟩)
    · exact .inl rfl
  | commitMemPublish w =>
    obtain ⟨_, _, _, _, _, _, rfl, _⟩ := State.commitMemPublish_some h
    exact .inl rfl
  | commitDiskWrite w f =>
    obtain ⟨wr, rc, _, _, _, _, _, rfl, hw, hph, _⟩ := State.commitDiskWrite_some h
    exact .inr (.inr ⟨w, wr, _, hw, by simp [hph], by simp [hph], rfl⟩)
  | commitRename w =>
    obtain ⟨wr, _, _, _, rfl, hw, _, hcase⟩ := State.commitRename_some h
    rcases hcase with ⟨rc, hph, _⟩ | ⟨hph, _⟩ <;>
      exact .inr (.inr ⟨w, wr, _, hw, by simp [hph], by simp [hph], rfl⟩)
  | commitDone w =>
    obtain ⟨_, _, _, _, rfl⟩ := State.commitDone_some h
    exact .inl rfl
  | abort w =>
    obtain ⟨_, _, _, ⟨_, rfl⟩ | ⟨_, rfl⟩⟩ := State.abort_some h <;> exact .inl rfl
  | closeWriter w =>
    obtain ⟨_, _, rfl⟩ := State.closeWriter_some h
    exact .inl rfl
  | getMem k o =>
    obtain ⟨_, _, _, _, _, rfl⟩ := State.getMem_some h
    exact .inl rfl
  | getFd k o =>
    obtain ⟨_, _, _, _, _, rfl⟩ := State.getFd_some h
    exact .inl rfl
  | getOpen k o =>
    obtain ⟨_, _, rfl⟩ := State.getOpen_some h
    exact .inl rfl
  | read r => exact .inl (State.read_some h ▸ rfl)
  | closeReader r =>
    obtain ⟨_, _, _, ⟨_, _, _, rfl⟩ | ⟨_, _, _, rfl⟩ | ⟨_, _, rfl⟩ | ⟨_, _, _, _, _, _, rfl, _⟩⟩ :=
      State.closeReader_some h <;> exact .inl rfl
  | closeReaderDone r =>
    obtain ⟨_, _, _, _, rfl⟩ := State.closeReaderDone_some h
    exact .inl rfl

theorem Inv.pubKept_step? {s s' : State} {a : Step} (hi : Inv s) (h : s.step? a = some s') :
    PubKept s.inodes s'.inodes := by
  rcases State.step?_inodes h with e | ⟨x, e⟩ | ⟨w, wr, x, hw, h1, h2, e⟩ <;> rw [e]
  · exact PubKept.refl _
  · exact PubKept.append _ _
  · obtain ⟨ino, g1, g2, _⟩ := (hi.wr w wr hw).wip h1 h2
    exact PubKept.set_wip g1 g2 x

/-- Rule for any `P` along a run: a step that is not enabled changes nothing; an enabled one is handed `Inv` of the
state it starts from and `a ∈ steps`. -/
theorem Inv.run_rec {P : State → Prop} {s : State} (steps : List Step) (hi : Inv s) (h0 : P s)
    (hstep : ∀ t t' a, a ∈ steps → Inv t → t.step? a = some t' → P t → P t') : Inv (s.run steps) ∧ P (s.run steps) := by
  refine List.foldlRecOn (motive := fun t => Inv t ∧ P t) steps _ ⟨hi, h0⟩ (fun t ih a ha => ?_)
  unfold State.step
  cases h : t.step? a with
  | none => exact ih
  | some t' => exact ⟨ih.1.step? h, hstep t t' a ha ih.1 h ih.2⟩

theorem Inv.run {s : State} (steps : List Step) (hi : Inv s) : Inv (s.run steps) :=
  (hi.run_rec steps trivial (fun _ _ _ _ _ _ _ => trivial)).1

theorem Inv.pubKept_run {s : State} (steps : List Step) (hi : Inv s) : PubKept s.inodes (s.run steps).inodes :=
  (hi.run_rec (P := fun t => PubKept s.inodes t.inodes) steps (PubKept.refl _)
    (fun _ _ _ _ ht h ih => ih.trans (ht.pubKept_step? h))).2

/-! ## `MemoryCache` -/

namespace MemCache

def Pub (bufs : List MBuf) (cm : Nat → List Bytes) (b k : Nat) : Prop :=
  ∃ d : MBuf, bufs[b]? = some d ∧ d.owner = none ∧ d.data ∈ cm k

theorem Pub.frame {bufs bufs' : List MBuf} {cm cm' : Nat → List Bytes} {b k : Nat} (h : Pub bufs cm b k)
    (hb : Keeps bufs bufs' (fun d => d.owner = none)) (hle : CmLe cm cm') : Pub bufs' cm' b k := by
  obtain ⟨d, h1, h2, h3⟩ := h
  exact ⟨d, hb b d h1 h2, h2, hle _ _ h3⟩

structure MInv (s : MState) : Prop where
  wr : ∀ (w : Nat) (wr : MWriter), s.writers[w]? = some wr → wr.opened = true →
    ∃ d : MBuf, s.bufs[wr.buf]? = some d ∧ d.owner = some w ∧ d.data = wr.written
  map : ∀ (k b : Nat), s.membuf k = some b → Pub s.bufs s.committed b k
  rd : ∀ (r : Nat) (rd : MReader), s.readers[r]? = some rd → Pub s.bufs s.committed rd.buf rd.key
  comm : ∀ (k : Nat) (v : Bytes), v ∈ s.committed k →
    ∃ (w : Nat) (wr : MWriter), s.writers[w]? = some wr ∧ wr.key = k ∧ wr.written = v ∧ wr.opened = false

theorem MInv.init : MInv {} :=
  ⟨fun _ _ h => by simp at h, fun _ _ h => (nomatch h), fun _ _ h => by simp at h,
    fun _ _ h => (List.not_mem_nil h).elim⟩

section MSteps

variable {s s' : MState} {w : Nat} {wr : MWriter}

/-! Open writer `w` changes its own record and its own buffer.  That leaves alone the buffers of the other open
writers (`wr_others`), the published buffers (`Pub.others`) and the records of the writers that have committed
(`comm_set`). -/

theorem MInv.wr_others (hi : MInv s) {bufs' : List MBuf} (hk : Keeps s.bufs bufs' (fun d => d.owner ≠ some w))
    {w' : Nat} {wr0 : MWriter} (hne : w' ≠ w) (hw0 : s.writers[w']? = some wr0) (ho : wr0.opened = true) :
    ∃ d : MBuf, bufs'[wr0.buf]? = some d ∧ d.owner = some w' ∧ d.data = wr0.written := by
  obtain ⟨d, h1, h2, h3⟩ := hi.wr w' wr0 hw0 ho
  exact ⟨d, hk _ d h1 (fun hc => hne (Option.some.inj (h2.symm.trans hc))), h2, h3⟩

theorem Pub.others {bufs bufs' : List MBuf} {cm cm' : Nat → List Bytes} {b k : Nat} (h : Pub bufs cm b k)
    (hk : Keeps bufs bufs' (fun d => d.owner ≠ some w)) (hle : CmLe cm cm') : Pub bufs' cm' b k :=
  h.frame (hk.mono (fun _ hd hc => nomatch hd.symm.trans hc)) hle

theorem MInv.comm_set (hi : MInv s) (wr' : MWriter) (hw : s.writers[w]? = some wr) (hopen : wr.opened = true)
    {k : Nat} {v : Bytes} (hv : v ∈ s.committed k) : ∃ (w0 : Nat) (wr0 : MWriter),
      (s.writers.set w wr')[w0]? = some wr0 ∧ wr0.key = k ∧ wr0.written = v ∧ wr0.opened = false := by
  obtain ⟨w0, wr0, h1, h2, h3, h4⟩ := hi.comm k v hv
  exact ⟨w0, wr0, Keeps.set wr' hw (Q := fun x => x.opened = false) (by simp [hopen]) w0 wr0 h1 h4, h2, h3, h4⟩

theorem MInv.add (hi : MInv s) (k : Nat) (h : s.add k = some s') : MInv s' := by
  obtain rfl : _ = s' := Option.some.inj h
  refine ⟨?_, fun k b hb => (hi.map k b hb).frame Keeps.append (CmLe.refl _),
    fun r rd hr => (hi.rd r rd hr).frame Keeps.append (CmLe.refl _), ?_⟩
  · intro w wr hw ho
    rw [append_some_iff] at hw
    rcases hw with hw | ⟨rfl, rfl⟩
    · obtain ⟨d, h1, h2⟩ := hi.wr w wr hw ho
      exact ⟨d, append_get_old h1, h2⟩
    · exact ⟨_, List.getElem?_concat_length, rfl, rfl⟩
  · intro k0 v hv
    obtain ⟨w, wr, h1, h2⟩ := hi.comm k0 v hv
    exact ⟨w, wr, append_get_old h1, h2⟩

theorem MInv.write (hi : MInv s) {p : Bytes} (h : s.write w p = some s') : MInv s' := by
  unfold MState.write at h
  split at h
  · rename_i wr hw
    split at h
    · rename_i hopen
      obtain ⟨d0, hd0, hown0, hdata0⟩ := hi.wr w wr hw hopen
      simp only [hd0, Option.some.injEq] at h; subst h
      have hk := Keeps.set { d0 with data := d0.data ++ p } hd0 (Q := fun d => d.owner ≠ some w)
        (fun hc => hc hown0)
      refine ⟨?_, fun k b hb => (hi.map k b hb).others hk (CmLe.refl _),
        fun r rd hr => (hi.rd r rd hr).others hk (CmLe.refl _), fun _ _ => hi.comm_set _ hw hopen⟩
      intro w' wr' hw' ho'
      rw [set_some_iff] at hw'
      rcases hw' with ⟨rfl, _, rfl⟩ | ⟨hne, hw'⟩
      · exact ⟨_, List.getElem?_set_self (lt_of_get_some hd0), hown0, by simp [hdata0]⟩
      · exact hi.wr_others hk hne hw' ho'
    · cases h
  · cases h

theorem MInv.commit (hi : MInv s) (h : s.commit w = some s') : MInv s' := by
  unfold MState.commit at h
  split at h
  · rename_i wr hw
    split at h
    · rename_i hopen
      obtain ⟨d0, hd0, hown0, hdata0⟩ := hi.wr w wr hw hopen
      simp only [hd0, Option.some.injEq] at h; subst h
      have hle := CmLe.add s.committed wr.key wr.written
      have hk := Keeps.set { d0 with owner := none } hd0 (Q := fun d => d.owner ≠ some w)
        (fun hc => hc hown0)
      refine ⟨?_, ?_, fun r rd hr => (hi.rd r rd hr).others hk hle, ?_⟩
      · intro w' wr' hw' ho'
        rw [set_some_iff] at hw'
        rcases hw' with ⟨rfl, _, rfl⟩ | ⟨hne, hw'⟩
        · cases ho'
        · exact hi.wr_others hk hne hw' ho'
      · intro k0 b hb
        simp only at hb
        split at hb
        · rename_i hkk
          cases hb; subst hkk
          exact ⟨_, List.getElem?_set_self (lt_of_get_some hd0), rfl, by simp only; rw [hdata0]; exact mem_addCommitted _ _ _⟩
        · exact (hi.map k0 b hb).others hk hle
      · intro k0 v hv
        simp only [addCommitted] at hv
        split at hv
        · rename_i hkk
          rcases List.mem_append.mp hv with hv | hv
          · exact hi.comm_set _ hw hopen hv
          · cases List.mem_singleton.mp hv
            exact ⟨w, _, List.getElem?_set_self (lt_of_get_some hw), hkk.symm, rfl, rfl⟩
        · exact hi.comm_set _ hw hopen hv
    · cases h
  · cases h

theorem MInv.abort (hi : MInv s) (h : s.abort w = some s') : MInv s' := by
  unfold MState.abort at h
  split at h
  · rename_i wr hw
    split at h
    · rename_i hopen
      simp only [Option.some.injEq] at h; subst h
      refine ⟨?_, hi.map, hi.rd, fun _ _ => hi.comm_set _ hw hopen⟩
      intro w' wr' hw' ho'
      rw [set_some_iff] at hw'
      rcases hw' with ⟨rfl, _, rfl⟩ | ⟨_, hw'⟩
      · cases ho'
      · exact hi.wr w' wr' hw' ho'
    · cases h
  · cases h

theorem MInv.get (hi : MInv s) {k : Nat} (h : s.get k = some s') : MInv s' := by
  unfold MState.get at h
  split at h
  · rename_i b hb
    simp only [Option.some.injEq] at h; subst h
    refine ⟨hi.wr, hi.map, ?_, hi.comm⟩
    intro r rd hr
    rw [append_some_iff] at hr
    rcases hr with hr | ⟨_, rfl⟩
    · exact hi.rd r rd hr
    · exact hi.map k b hb
  · cases h

theorem MInv.step? {a : MStep} (hi : MInv s) (h : s.step? a = some s') : MInv s' := by
  cases a with
  | add k => exact hi.add k h
  | write w p => exact hi.write h
  | commit w => exact hi.commit h
  | abort w => exact hi.abort h
  | get k => exact hi.get h

end MSteps

theorem MInv.run {s : MState} (steps : List MStep) (hi : MInv s) : MInv (s.run steps) := by
  refine List.foldlRecOn (motive := MInv) steps _ hi (fun t ih a _ => ?_)
  unfold MState.step
  cases h : t.step? a with
  | none => exact ih
  | some t' => exact ih.step? h

end MemCache

end SV.ChunkCache
