/-
The notions of the simulation of the two TOC interpreters, as functions of the TOC alone: `firstIdx`/`lastIdx`,
`TreeOK`, `resolveKey` (what the memory store's `getSource` loop computes, `mGetSource_ok`), `look`/`Created`
(where a name leads and which nodes exist after `i` entries), the renaming `canon`/`lastOf`, the replay
`cStep`/`cRun` of the db store's chunk bookkeeping.
-/
import SV.Lemmas.TocCommon

namespace SV.Toc.R

/-- rename the key of a child (`Inv.kids`, `NodeAgree.kids`) -/
def mapKV (g : Key → Key) (kv : String × Key) : String × Key := (kv.1, g kv.2)

/-! ## First and last entry of a name; hardlink resolution -/

def NonChunkAt (ms : List MEnt) (j : Nat) (p : Path) : Prop :=
  ∃ m, ms[j]? = some m ∧ m.e.type ≠ "chunk" ∧ m.path = p

theorem lastIdx_max {ms : List MEnt} {p : Path} {L j : Nat} (h : lastIdx ms p = some L)
    (hj : NonChunkAt ms j p) : j ≤ L := by
  obtain ⟨j', hj', hle⟩ := lastIdxFrom_ge ms p 0 j hj
  unfold lastIdx at h; rw [h] at hj'; cases hj'; omega

/-- index of the FIRST non-chunk entry with a name: the entry the db store creates the node for -/
def firstIdxFrom (ms : List MEnt) (p : Path) (i : Nat) : Option Nat :=
  match ms with
  | [] => none
  | m :: rest => if m.e.type ≠ "chunk" ∧ m.path = p then some i else firstIdxFrom rest p (i + 1)

def firstIdx (ms : List MEnt) (p : Path) : Option Nat := firstIdxFrom ms p 0

theorem firstIdxFrom_some (ms : List MEnt) (p : Path) : ∀ (k f : Nat), firstIdxFrom ms p k = some f →
    k ≤ f ∧ NonChunkAt ms (f - k) p ∧ ∀ t, t < f - k → ¬ NonChunkAt ms t p := by
  induction ms with
  | nil => intro k f h; simp [firstIdxFrom] at h
  | cons m rest ih =>
    intro k f h
    unfold firstIdxFrom at h
    split at h
    · rename_i hm
      simp only [Option.some.injEq] at h; subst h
      refine ⟨Nat.le_refl _, ⟨m, by simp, hm.1, hm.2⟩, fun t ht => by omega⟩
    · rename_i hm
      obtain ⟨h1, ⟨m', h2, h3, h4⟩, h5⟩ := ih (k + 1) f h
      have hfk : f - k = (f - (k + 1)) + 1 := by omega
      refine ⟨by omega, ⟨m', by rw [hfk]; simpa using h2, h3, h4⟩, ?_⟩
      intro t ht ⟨mt, hmt, hct, hpt⟩
      cases t with
      | zero =>
        simp only [List.getElem?_cons_zero, Option.some.injEq] at hmt; subst hmt
        exact hm ⟨hct, hpt⟩
      | succ t => exact h5 t (by omega) ⟨mt, by simpa using hmt, hct, hpt⟩

theorem firstIdxFrom_none (ms : List MEnt) (p : Path) : ∀ (k : Nat), firstIdxFrom ms p k = none →
    ∀ t, ¬ NonChunkAt ms t p := by
  induction ms with
  | nil => intro k _ t ⟨m, h, _⟩; simp at h
  | cons m rest ih =>
    intro k h t ⟨mt, hmt, hct, hpt⟩
    unfold firstIdxFrom at h
    split at h
    · cases h
    · rename_i hm
      cases t with
      | zero =>
        simp only [List.getElem?_cons_zero, Option.some.injEq] at hmt; subst hmt
        exact hm ⟨hct, hpt⟩
      | succ t => exact ih (k + 1) h t ⟨mt, by simpa using hmt, hct, hpt⟩

theorem firstIdx_nonChunk {ms : List MEnt} {p : Path} {f : Nat} (h : firstIdx ms p = some f) :
    NonChunkAt ms f p := by
  have := (firstIdxFrom_some ms p 0 f h).2.1; simpa using this

theorem firstIdx_min {ms : List MEnt} {p : Path} {f j : Nat} (h : firstIdx ms p = some f)
    (hj : NonChunkAt ms j p) : f ≤ j := by
  have := (firstIdxFrom_some ms p 0 f h).2.2 j
  simp only [Nat.sub_zero] at this
  rcases Nat.lt_or_ge j f with hlt | hge
  · exact absurd hj (this hlt)
  · exact hge

theorem firstIdx_le {ms : List MEnt} {p : Path} {j : Nat} (h : NonChunkAt ms j p) :
    ∃ f, firstIdx ms p = some f ∧ f ≤ j := by
  cases hf : firstIdx ms p with
  | none => exact absurd h (firstIdxFrom_none ms p 0 hf j)
  | some f => exact ⟨f, rfl, firstIdx_min hf h⟩

theorem firstIdx_eq_none_iff (ms : List MEnt) (p : Path) :
    firstIdx ms p = none ↔ lastIdx ms p = none := by
  rw [lastIdx_eq_none_iff]
  constructor
  · intro h; exact firstIdxFrom_none ms p 0 h
  · intro h
    cases hf : firstIdx ms p with
    | none => rfl
    | some f => exact absurd (firstIdx_nonChunk hf) (h f)

def SameDir (a b : MEnt) : Prop :=
  a.e.type = "dir" ∧ b.e.type = "dir" ∧ attrOfEntry a.e 0 = attrOfEntry b.e 0

/-- what the simulation needs of the TOC, on optional indexing (`spec_treeOK`) -/
structure TreeOK (ms : List MEnt) : Prop where
  names : ∀ (i j : Nat) (mi mj : MEnt), ms[i]? = some mi → ms[j]? = some mj → mi.e.type ≠ "chunk" →
    mj.e.type ≠ "chunk" → mi.path = mj.path → i = j ∨ SameDir mi mj
  noRoot : ∀ j, ¬ NonChunkAt ms j []
  /-- whatever lies above an entry is a directory (or implicit), first announced before the entry -/
  parents : ∀ i p, NonChunkAt ms i p → ∀ n, 0 < n → n < p.length →
    (∀ (j : Nat) (m : MEnt), ms[j]? = some m → m.e.type ≠ "chunk" → m.path = p.take n → m.e.type = "dir") ∧
    (∀ f, firstIdx ms (p.take n) = some f → f < i)
  hardlinks : ∀ (i : Nat) (m : MEnt), ms[i]? = some m → m.e.type = "hardlink" →
    ∃ j, j < i ∧ ∃ mj : MEnt, ms[j]? = some mj ∧ mj.e.type ≠ "chunk" ∧ mj.path = cleanName m.e.linkName
      ∧ mj.e.type ≠ "dir"

theorem nondir_unique {ms : List MEnt} (ok : TreeOK ms) {i j : Nat} {mi mj : MEnt}
    (hi : ms[i]? = some mi) (hj : ms[j]? = some mj) (hci : mi.e.type ≠ "chunk") (hcj : mj.e.type ≠ "chunk")
    (hp : mi.path = mj.path) (hd : mi.e.type ≠ "dir" ∨ mj.e.type ≠ "dir") : i = j := by
  rcases ok.names i j mi mj hi hj hci hcj hp with h | ⟨h1, h2, _⟩
  · exact h
  · rcases hd with h | h
    · exact absurd h1 h
    · exact absurd h2 h

theorem nondir_first_last {ms : List MEnt} (ok : TreeOK ms) {i : Nat} {m : MEnt}
    (hm : ms[i]? = some m) (hc : m.e.type ≠ "chunk") (hd : m.e.type ≠ "dir") :
    firstIdx ms m.path = some i ∧ lastIdx ms m.path = some i := by
  have hnc : NonChunkAt ms i m.path := ⟨m, hm, hc, rfl⟩
  obtain ⟨f, hf, _⟩ := firstIdx_le hnc
  obtain ⟨L, hL, _⟩ := lastIdx_ge hnc
  obtain ⟨mf, hmf, hcf, hpf⟩ := firstIdx_nonChunk hf
  obtain ⟨mL, hmL, hcL, hpL⟩ := lastIdx_nonChunk hL
  have e1 := nondir_unique ok hm hmf hc hcf hpf.symm (Or.inl hd)
  have e2 := nondir_unique ok hm hmL hc hcL hpL.symm (Or.inl hd)
  subst e1; subst e2
  exact ⟨hf, hL⟩

/-- follow hardlinks from entry `j`, at most `f` hops; a hop goes to an earlier entry (`hardlink_target`): `j` suffice -/
def resolveF (ms : List MEnt) : Nat → Nat → Key
  | 0, j => .ent j
  | f + 1, j =>
    match ms[j]? with
    | some m =>
      if m.e.type = "hardlink" then
        match lastIdx ms (cleanName m.e.linkName) with
        | some t => resolveF ms f t
        | none => .ent j
      else .ent j
    | none => .ent j

def resolveKey (ms : List MEnt) (j : Nat) : Key := resolveF ms j j

theorem hardlink_target {ms : List MEnt} (ok : TreeOK ms) {i : Nat} {m : MEnt}
    (hm : ms[i]? = some m) (hh : m.e.type = "hardlink") :
    ∃ t, t < i ∧ lastIdx ms (cleanName m.e.linkName) = some t ∧
      ∃ mt, ms[t]? = some mt ∧ mt.e.type ≠ "chunk" ∧ mt.e.type ≠ "dir" := by
  obtain ⟨j, hj, mj, h1, h2, h3, h4⟩ := ok.hardlinks i m hm hh
  have := (nondir_first_last ok h1 h2 h4).2
  rw [h3] at this
  exact ⟨j, hj, this, mj, h1, h2, h4⟩

theorem resolveF_stable {ms : List MEnt} (ok : TreeOK ms) :
    ∀ (t f : Nat), t ≤ f → resolveF ms f t = resolveF ms t t := by
  intro t
  induction t using Nat.strongRecOn with
  | _ t ih =>
    intro f hf
    cases hm : ms[t]? with
    | none =>
      cases f <;> cases t <;> simp [resolveF, hm]
    | some m =>
      by_cases hh : m.e.type = "hardlink"
      · obtain ⟨t', ht', hl, _⟩ := hardlink_target ok hm hh
        cases t with
        | zero => omega
        | succ t0 =>
          cases f with
          | zero => omega
          | succ f0 =>
            simp only [resolveF, hm, hh, ↓reduceIte, hl]
            rw [ih t' ht' f0 (by omega), ih t' ht' t0 (by omega)]
      · cases f <;> cases t <;> simp [resolveF, hm, hh]

theorem resolveKey_unfold {ms : List MEnt} (ok : TreeOK ms) {j : Nat} {m : MEnt}
    (hm : ms[j]? = some m) :
    resolveKey ms j = if m.e.type = "hardlink" then
        (match lastIdx ms (cleanName m.e.linkName) with
         | some t => resolveKey ms t
         | none => .ent j)
      else .ent j := by
  unfold resolveKey
  by_cases hh : m.e.type = "hardlink"
  · obtain ⟨t, ht, hl, _⟩ := hardlink_target ok hm hh
    cases j with
    | zero => omega
    | succ j0 =>
      simp only [resolveF, hm, hh, ↓reduceIte, hl]
      exact resolveF_stable ok t j0 (by omega)
  · cases j <;> simp [resolveF, hm, hh]

structure Resolved (ms : List MEnt) (j : Nat) (m : MEnt) (r : Nat) (mr : MEnt) : Prop where
  le : r ≤ j
  key : resolveKey ms j = .ent r
  get : ms[r]? = some mr
  nonchunk : mr.e.type ≠ "chunk"
  nonhardlink : mr.e.type ≠ "hardlink"
  nondir : m.e.type = "hardlink" → mr.e.type ≠ "dir"
  self : m.e.type ≠ "hardlink" → r = j

theorem resolveKey_spec {ms : List MEnt} (ok : TreeOK ms) :
    ∀ (j : Nat) (m : MEnt), ms[j]? = some m → m.e.type ≠ "chunk" → ∃ r mr, Resolved ms j m r mr := by
  intro j
  induction j using Nat.strongRecOn with
  | _ j ih =>
    intro m hm hc
    by_cases hh : m.e.type = "hardlink"
    · obtain ⟨t, ht, hl, mt, hmt, hct, hdt⟩ := hardlink_target ok hm hh
      obtain ⟨r, mr, h⟩ := ih t ht mt hmt hct
      refine ⟨r, mr, { h with le := Nat.le_trans h.le (Nat.le_of_lt ht), key := ?_, nondir := fun _ => ?_,
                              self := fun h' => absurd hh h' }⟩
      · rw [resolveKey_unfold ok hm, if_pos hh]; simp only [hl]; exact h.key
      · by_cases hht : mt.e.type = "hardlink"
        · exact h.nondir hht
        · have := h.self hht; subst this; have := h.get; rw [hmt] at this; cases this; exact hdt
    · refine ⟨j, m, Nat.le_refl _, ?_, hm, hc, hh, fun h => absurd h hh, fun _ => rfl⟩
      rw [resolveKey_unfold ok hm, if_neg hh]

/-! ## The memory store's `getSource` loop -/

def isHl (m : MEnt) : Bool := m.e.type = "hardlink"

theorem mem_namesOf {ms : List MEnt} {j : Nat} {p : Path} (h : NonChunkAt ms j p) : p ∈ namesOf ms := by
  obtain ⟨m, hm, hc, hp⟩ := h
  unfold namesOf
  rw [List.mem_map]
  exact ⟨m, List.mem_filter.mpr ⟨List.mem_of_getElem? hm, by simp [ncB, hc]⟩, hp⟩

def countHl (ms : List MEnt) (j : Nat) : Nat := ((ms.take (j + 1)).filter isHl).length

theorem countHl_le_total (ms : List MEnt) (j : Nat) : countHl ms j ≤ (ms.filter isHl).length := by
  unfold countHl
  exact ((List.take_sublist _ _).filter _).length_le

theorem countHl_lt {ms : List MEnt} {t j : Nat} {m : MEnt} (htj : t < j) (hm : ms[j]? = some m)
    (hh : m.e.type = "hardlink") : countHl ms t + 1 ≤ countHl ms j := by
  unfold countHl
  have h1 : ms.take (j + 1) = ms.take j ++ [m] := by
    rw [List.take_add_one, hm]; rfl
  rw [h1, List.filter_append, List.length_append]
  have hx : isHl m = true := by simp [isHl, hh]
  simp only [List.filter, hx, List.length_cons, List.length_nil]
  have : ms.take (t + 1) = (ms.take j).take (t + 1) := by
    rw [List.take_take]; congr 1; omega
  rw [this]
  have := ((List.take_sublist (t + 1) (ms.take j)).filter isHl).length_le
  omega

theorem countHl_pos {ms : List MEnt} {j : Nat} {m : MEnt} (hm : ms[j]? = some m)
    (hh : m.e.type = "hardlink") : 1 ≤ countHl ms j := by
  by_cases hj0 : j = 0
  · subst hj0
    unfold countHl
    have : ms.take 1 = [m] := by
      cases ms with
      | nil => simp at hm
      | cons x xs => simp at hm; subst hm; rfl
    rw [this]
    have hx : isHl m = true := by simp [isHl, hh]
    simp [List.filter, hx]
  · have := countHl_lt (ms := ms) (t := 0) (j := j) (by omega) hm hh
    omega

theorem hl_le_distinct {ms : List MEnt} (ok : TreeOK ms) : (ms.filter isHl).length ≤ distinctNames ms := by
  have hnd : ((ms.filter isHl).map (·.path)).Nodup := by
    rw [List.Nodup, List.pairwise_map, List.pairwise_filter, List.pairwise_iff_getElem]
    intro i j hi hj hij pi pj hp
    have hi' : ms[i].e.type = "hardlink" := by simpa [isHl] using pi
    have hj' : ms[j].e.type = "hardlink" := by simpa [isHl] using pj
    have := nondir_unique ok (List.getElem?_eq_getElem hi) (List.getElem?_eq_getElem hj) (by rw [hi']; decide)
      (by rw [hj']; decide) hp (Or.inl (by rw [hi']; decide))
    omega
  have hsub : ∀ x, x ∈ (ms.filter isHl).map (·.path) → x ∈ namesOf ms := by
    intro x hx
    rw [List.mem_map] at hx
    obtain ⟨y, hy, hyp⟩ := hx
    obtain ⟨hym, hyh⟩ := List.mem_filter.mp hy
    unfold namesOf
    rw [List.mem_map]
    have : y.e.type = "hardlink" := by simpa [isHl] using hyh
    exact ⟨y, List.mem_filter.mpr ⟨hym, by simp [ncB, this]⟩, hyp⟩
  have := length_le_eraseDups _ (namesOf ms) _ rfl hnd hsub
  simp only [List.length_map] at this
  unfold distinctNames
  exact this

/-- `getSource` reaches the resolved entry before the loop bound trips: every hop lands on an earlier
entry, so the hardlinks up to `j` (`countHl`) bound the hops still to come -/
theorem mGetSource_ok {ms : List MEnt} (ok : TreeOK ms) (s : MState) (bound : Nat) :
    ∀ (j : Nat) (m : MEnt), ms[j]? = some m → m.e.type ≠ "chunk" →
      ∀ n, (m.e.type = "hardlink" → n + countHl ms j ≤ bound + 1) →
        mGetSource ms s bound n (.ent j) = some (resolveKey ms j) := by
  intro j
  induction j using Nat.strongRecOn with
  | _ j ih =>
    intro m hm hc n hn
    rw [resolveKey_unfold ok hm]
    unfold mGetSource
    rw [keyType_ent hm]
    by_cases hh : m.e.type = "hardlink"
    · obtain ⟨t, ht, hl, mt, hmt, hct, _⟩ := hardlink_target ok hm hh
      have hcj := countHl_pos hm hh
      have hn' := hn hh
      have hnb : ¬ n > bound := by omega
      simp only [hh, ne_eq, not_true_eq_false, ↓reduceIte, hnb, hm]
      have hml : mLookup ms s (cleanName m.e.linkName) = some (.ent t) := by
        unfold mLookup; rw [hl]
      rw [hml]
      have hle : n ≤ bound := by omega
      simp only [hle, ↓reduceDIte, hl]
      exact ih t ht mt hmt hct (n + 1) (fun hht => by have := countHl_lt ht hm hh; omega)
    · simp [hh]

/-! ## `look` and `Created` -/

/-- the db key a cleaned name leads to after the entries `< i`, with the implicit directories `imps` created -/
def look (ms : List MEnt) (i : Nat) (imps : List Path) (p : Path) : Option Key :=
  if p = [] then some .root
  else match firstIdx ms p with
    | some j => if j < i then some (resolveKey ms j) else none
    | none => if p ∈ imps then some (.imp p) else none

/-- db keys of the nodes that exist after the entries `< i` -/
def Created (ms : List MEnt) (i : Nat) (imps : List Path) : Key → Prop
  | .root => True
  | .imp p => p ∈ imps ∧ p ≠ []
  | .ent j => j < i ∧ ∃ m, ms[j]? = some m ∧ m.e.type ≠ "chunk" ∧ m.e.type ≠ "hardlink" ∧
      firstIdx ms m.path = some j

theorem resolveF_is_ent (ms : List MEnt) : ∀ f t, ∃ r, resolveF ms f t = .ent r := by
  intro f
  induction f with
  | zero => intro t; exact ⟨t, rfl⟩
  | succ f ih =>
    intro t
    simp only [resolveF]
    split
    · split
      · split
        · exact ih _
        · exact ⟨t, rfl⟩
      · exact ⟨t, rfl⟩
    · exact ⟨t, rfl⟩

theorem look_nil (ms : List MEnt) (i : Nat) (imps : List Path) : look ms i imps [] = some .root := rfl

theorem look_of_first {ms : List MEnt} {i : Nat} {imps : List Path} {p : Path} {j : Nat} (hp : p ≠ [])
    (h : firstIdx ms p = some j) : look ms i imps p = if j < i then some (resolveKey ms j) else none := by
  unfold look; rw [if_neg hp, h]

theorem look_of_noEntry {ms : List MEnt} {i : Nat} {imps : List Path} {p : Path} (hp : p ≠ [])
    (h : lastIdx ms p = none) : look ms i imps p = if p ∈ imps then some (.imp p) else none := by
  unfold look; rw [if_neg hp, (firstIdx_eq_none_iff ms p).mpr h]

theorem resolveKey_is_ent (ms : List MEnt) (j : Nat) : ∃ r, resolveKey ms j = .ent r := resolveF_is_ent ms j j

theorem look_cases {ms : List MEnt} {i : Nat} {imps : List Path} {p : Path} {k : Key}
    (h : look ms i imps p = some k) :
    (p = [] ∧ k = .root) ∨ (p ≠ [] ∧ ∃ j, firstIdx ms p = some j ∧ j < i ∧ k = resolveKey ms j) ∨
      (p ≠ [] ∧ p ∈ imps ∧ k = .imp p) := by
  unfold look at h
  split at h
  · cases h; exact Or.inl ⟨‹_›, rfl⟩
  · rename_i hp
    split at h
    · rename_i j hl
      split at h
      · cases h; exact Or.inr (Or.inl ⟨hp, j, hl, ‹_›, rfl⟩)
      · cases h
    · split at h
      · cases h; exact Or.inr (Or.inr ⟨hp, ‹_›, rfl⟩)
      · cases h

theorem look_cons_ne {ms : List MEnt} {i : Nat} {imps : List Path} {d p : Path} (h : p ≠ d) :
    look ms i (d :: imps) p = look ms i imps p := by
  unfold look
  have : (p ∈ d :: imps) ↔ p ∈ imps := by simp [h]
  simp only [this]

theorem look_succ_at {ms : List MEnt} (ok : TreeOK ms) (i : Nat) (imps : List Path) (p : Path)
    (h : firstIdx ms p = some i) : look ms (i + 1) imps p = some (resolveKey ms i) := by
  have hp : p ≠ [] := fun e => ok.noRoot i (e ▸ firstIdx_nonChunk h)
  rw [look_of_first hp h, if_pos (Nat.lt_succ_self i)]

theorem look_succ_ne {ms : List MEnt} (i : Nat) (imps : List Path) (p : Path)
    (h : firstIdx ms p ≠ some i) : look ms (i + 1) imps p = look ms i imps p := by
  unfold look
  by_cases hp : p = []
  · simp [hp]
  · simp only [hp, ↓reduceIte]
    cases hl : firstIdx ms p with
    | none => rfl
    | some j =>
      simp only
      have hji : j ≠ i := by
        intro e; subst e; exact h hl
      by_cases hlt : j < i
      · simp [hlt, Nat.lt_succ_of_lt hlt]
      · have : ¬ j < i + 1 := by omega
        simp [hlt, this]

theorem look_created {ms : List MEnt} (ok : TreeOK ms) {i : Nat} {imps : List Path} {p : Path} {k : Key}
    (h : look ms i imps p = some k) : Created ms i imps k := by
  rcases look_cases h with ⟨_, rfl⟩ | ⟨_, j, hl, hj, rfl⟩ | ⟨hp, hmem, rfl⟩
  · trivial
  · obtain ⟨m, hm, hc, hpm⟩ := firstIdx_nonChunk hl
    obtain ⟨r, mr, h⟩ := resolveKey_spec ok j m hm hc
    rw [h.key]
    refine ⟨Nat.lt_of_le_of_lt h.le hj, mr, h.get, h.nonchunk, h.nonhardlink, ?_⟩
    by_cases hh : m.e.type = "hardlink"
    · exact (nondir_first_last ok h.get h.nonchunk (h.nondir hh)).1
    · have := h.self hh; subst this
      have := h.get; rw [hm] at this; cases this
      rw [hpm]; exact hl
  · exact ⟨hmem, hp⟩

theorem look_dir_unique {ms : List MEnt} (ok : TreeOK ms) {i : Nat} {imps : List Path} {p q : Path} {k : Key}
    (hp : look ms i imps p = some k) (hq : look ms i imps q = some k) (hd : IsDirKey ms k) : p = q := by
  -- a name that leads to a directory is that directory's own name
  have key : ∀ (p : Path), look ms i imps p = some k → p = keyPath ms k := by
    intro p h
    rcases look_cases h with ⟨e, rfl⟩ | ⟨_, j, hl, _, rfl⟩ | ⟨_, _, rfl⟩
    · exact e
    · obtain ⟨m, hm, hc, hpath⟩ := firstIdx_nonChunk hl
      obtain ⟨r, mr, h⟩ := resolveKey_spec ok j m hm hc
      rw [h.key] at hd ⊢
      obtain ⟨md, hmd, hdir⟩ := hd
      rw [h.get] at hmd; cases hmd
      have := h.self (fun e => h.nondir e hdir); subst this
      simp only [keyPath, hm, Option.map_some, Option.getD_some, hpath]
    · rfl
  rw [key p hp, key q hq]

/-! ## Directories announced more than once -/

/-- the memory store keeps the LAST of several entries of a name as the node (`r.m[name]`), the db store the node
the FIRST one created: `canon` maps a memory key to the db key of the same node, `lastOf` goes back -/
def canon (ms : List MEnt) : Key → Key
  | .ent j =>
    match ms[j]? with
    | some m =>
      if m.e.type = "dir" then
        match firstIdx ms m.path with
        | some f => .ent f
        | none => .ent j
      else .ent j
    | none => .ent j
  | k => k

def lastOf (ms : List MEnt) : Key → Key
  | .ent j =>
    match ms[j]? with
    | some m =>
      if m.e.type = "dir" then
        match lastIdx ms m.path with
        | some L => .ent L
        | none => .ent j
      else .ent j
    | none => .ent j
  | k => k

/-- memory keys that can have children: the root, implicit directories, and the LAST entry of a
directory name -/
def MLiveDir (ms : List MEnt) : Key → Prop
  | .root => True
  | .imp _ => True
  | .ent L => ∃ m, ms[L]? = some m ∧ m.e.type = "dir" ∧ lastIdx ms m.path = some L

/-- 1 while the memory store has not yet counted the node's own name (it does so when it
processes the last entry of the name) -/
def pendOwn (ms : List MEnt) (i : Nat) : Key → Int
  | .ent f =>
    match lastOf ms (.ent f) with
    | .ent L => if i ≤ L then 1 else 0
    | _ => 0
  | _ => 0

theorem dir_nonchunk {m : MEnt} (h : m.e.type = "dir") : m.e.type ≠ "chunk" := by rw [h]; decide

theorem dir_nonhardlink {m : MEnt} (h : m.e.type = "dir") : m.e.type ≠ "hardlink" := by rw [h]; decide

theorem canon_of_dir {ms : List MEnt} {j f : Nat} {m : MEnt} (hm : ms[j]? = some m)
    (hd : m.e.type = "dir") (hf : firstIdx ms m.path = some f) : canon ms (.ent j) = .ent f := by
  simp [canon, hm, hd, hf]

theorem canon_of_nondir {ms : List MEnt} {j : Nat} {m : MEnt} (hm : ms[j]? = some m)
    (hd : m.e.type ≠ "dir") : canon ms (.ent j) = .ent j := by
  simp [canon, hm, hd]

theorem canon_first {ms : List MEnt} {i : Nat} {m : MEnt} (hm : ms[i]? = some m)
    (hfirst : firstIdx ms m.path = some i) : canon ms (.ent i) = .ent i := by
  by_cases hd : m.e.type = "dir"
  · exact canon_of_dir hm hd hfirst
  · exact canon_of_nondir hm hd

theorem lastOf_of_dir {ms : List MEnt} {j L : Nat} {m : MEnt} (hm : ms[j]? = some m)
    (hd : m.e.type = "dir") (hL : lastIdx ms m.path = some L) : lastOf ms (.ent j) = .ent L := by
  simp [lastOf, hm, hd, hL]

theorem lastOf_of_nondir {ms : List MEnt} {j : Nat} {m : MEnt} (hm : ms[j]? = some m)
    (hd : m.e.type ≠ "dir") : lastOf ms (.ent j) = .ent j := by
  simp [lastOf, hm, hd]

theorem lastOf_ne_imp (ms : List MEnt) (k : Key) (d : Path) (h : k ≠ .imp d) : lastOf ms k ≠ .imp d := by
  cases k with
  | root => simp [lastOf]
  | imp p => simpa [lastOf] using h
  | ent j =>
    simp only [lastOf]
    split
    · split
      · split <;> simp
      · simp
    · simp

theorem lastOf_eq_root (ms : List MEnt) (k : Key) : lastOf ms k = .root ↔ k = .root := by
  cases k with
  | root => simp [lastOf]
  | imp p => simp [lastOf]
  | ent j =>
    simp only [lastOf]
    split
    · split
      · split <;> simp
      · simp
    · simp

theorem dir_first {ms : List MEnt} {j : Nat} {m : MEnt} (hm : ms[j]? = some m) (hd : m.e.type = "dir") :
    ∃ f, firstIdx ms m.path = some f ∧ f ≤ j :=
  firstIdx_le ⟨m, hm, dir_nonchunk hd, rfl⟩

theorem dir_last {ms : List MEnt} {j : Nat} {m : MEnt} (hm : ms[j]? = some m) (hd : m.e.type = "dir") :
    ∃ L, lastIdx ms m.path = some L ∧ j ≤ L :=
  lastIdx_ge ⟨m, hm, dir_nonchunk hd, rfl⟩

theorem same_name_dir {ms : List MEnt} (ok : TreeOK ms) {i j : Nat} {mi mj : MEnt}
    (hi : ms[i]? = some mi) (hj : ms[j]? = some mj) (hci : mi.e.type ≠ "chunk") (hcj : mj.e.type ≠ "chunk")
    (hp : mi.path = mj.path) (hd : mi.e.type = "dir") : mj.e.type = "dir" ∧ attrOfEntry mi.e 0 = attrOfEntry mj.e 0 := by
  rcases ok.names i j mi mj hi hj hci hcj hp with h | ⟨_, h2, h3⟩
  · subst h; rw [hi] at hj; cases hj; exact ⟨hd, rfl⟩
  · exact ⟨h2, h3⟩

/-- entry `L`, the last of the name, stands in the memory store for the node the db store made for entry `f` -/
structure MemEntry (ms : List MEnt) (f : Nat) (mf : MEnt) (L : Nat) (mL : MEnt) : Prop where
  get : ms[L]? = some mL
  key : lastOf ms (.ent f) = .ent L
  last : lastIdx ms mL.path = some L
  type : mL.e.type = mf.e.type
  attr : attrOfEntry mL.e 0 = attrOfEntry mf.e 0
  self : mf.e.type ≠ "dir" → L = f
  le : f ≤ L
  path : mL.path = mf.path

theorem mem_entry {ms : List MEnt} (ok : TreeOK ms) {f : Nat} {mf : MEnt}
    (hmf : ms[f]? = some mf) (hcf : mf.e.type ≠ "chunk") : ∃ L mL, MemEntry ms f mf L mL := by
  by_cases hd : mf.e.type = "dir"
  · obtain ⟨L, hL, hfL⟩ := dir_last hmf hd
    obtain ⟨mL, hmL, hcL, hpL⟩ := lastIdx_nonChunk hL
    obtain ⟨h1, h2⟩ := same_name_dir ok hmf hmL hcf hcL hpL.symm hd
    exact ⟨L, mL, hmL, lastOf_of_dir hmf hd hL, by rw [hpL]; exact hL, by rw [h1, hd], h2.symm,
      fun h => absurd hd h, hfL, hpL⟩
  · exact ⟨f, mf, hmf, lastOf_of_nondir hmf hd, (nondir_first_last ok hmf hcf hd).2, rfl, rfl, fun _ => rfl,
      Nat.le_refl _, rfl⟩

/-! ### `canon` and `lastOf` are inverse to each other -/

theorem lastOf_canon {ms : List MEnt} (ok : TreeOK ms) {km : Key} (h : MLiveDir ms km) :
    lastOf ms (canon ms km) = km := by
  cases km with
  | root => rfl
  | imp p => rfl
  | ent L =>
    obtain ⟨m, hm, hd, hL⟩ := h
    obtain ⟨f, hf, _⟩ := dir_first hm hd
    rw [canon_of_dir hm hd hf]
    obtain ⟨mf, hmf, hcf, hpf⟩ := firstIdx_nonChunk hf
    have hdf := (same_name_dir ok hm hmf (dir_nonchunk hd) hcf hpf.symm hd).1
    rw [lastOf_of_dir hmf hdf (by rw [hpf]; exact hL)]

theorem canon_inj {ms : List MEnt} (ok : TreeOK ms) {k k' : Key} (hk : MLiveDir ms k) (hk' : MLiveDir ms k')
    (h : canon ms k = canon ms k') : k = k' := by
  rw [← lastOf_canon ok hk, h, lastOf_canon ok hk']

theorem canon_lastOf {ms : List MEnt} (ok : TreeOK ms) {i : Nat} {imps : List Path} {kd : Key}
    (h : Created ms i imps kd) : canon ms (lastOf ms kd) = kd ∧
      (MLiveDir ms (lastOf ms kd) ↔ IsDirKey ms kd) := by
  cases kd with
  | root => exact ⟨rfl, Iff.rfl⟩
  | imp p => exact ⟨rfl, Iff.rfl⟩
  | ent f =>
    obtain ⟨_, m, hm, hc, _, hf⟩ := h
    by_cases hd : m.e.type = "dir"
    · obtain ⟨L, hL, _⟩ := dir_last hm hd
      rw [lastOf_of_dir hm hd hL]
      obtain ⟨mL, hmL, hcL, hpL⟩ := lastIdx_nonChunk hL
      have hdL := (same_name_dir ok hm hmL hc hcL hpL.symm hd).1
      exact ⟨canon_of_dir hmL hdL (by rw [hpL]; exact hf),
        fun _ => ⟨m, hm, hd⟩, fun _ => ⟨mL, hmL, hdL, by rw [hpL]; exact hL⟩⟩
    · rw [lastOf_of_nondir hm hd]
      have hno : ∀ m', ms[f]? = some m' → m'.e.type ≠ "dir" := by
        intro m' hm'; rw [hm] at hm'; cases hm'; exact hd
      exact ⟨canon_of_nondir hm hd, fun ⟨m', hm', hd', _⟩ => absurd hd' (hno m' hm'),
        fun ⟨m', hm', hd'⟩ => absurd hd' (hno m' hm')⟩

theorem eq_canon_of_lastOf {ms : List MEnt} (ok : TreeOK ms) {i : Nat} {imps : List Path} {k x : Key}
    (hk : Created ms i imps k) (e : lastOf ms k = x) : k = canon ms x := by
  rw [← e]; exact (canon_lastOf ok hk).1.symm

theorem lastOf_eq_iff {ms : List MEnt} (ok : TreeOK ms) {i : Nat} {imps : List Path} {k km : Key}
    (hk : Created ms i imps k) (hlive : MLiveDir ms km) : lastOf ms k = km ↔ k = canon ms km :=
  ⟨eq_canon_of_lastOf ok hk, fun e => by rw [e]; exact lastOf_canon ok hlive⟩

/-- memory-side keys of the nodes that exist -/
def MemKey (ms : List MEnt) (n : Nat) (imps : List Path) (km : Key) : Prop :=
  ∃ kd, Created ms n imps kd ∧ km = lastOf ms kd

/-! ## The fragment `SpecConformingR` on optional indexing -/

theorem spec_treeOK {es : List Entry} (sc : SpecConformingR es) : TreeOK (pass1 es) := by
  refine ⟨?_, ?_, ?_, ?_⟩
  · intro i j mi mj hi hj hci hcj hp
    obtain ⟨hi', e⟩ := List.getElem?_eq_some_iff.mp hi
    obtain ⟨hj', e'⟩ := List.getElem?_eq_some_iff.mp hj
    subst e e'
    exact sc.names i hi' j hj' hci hcj hp
  · rintro j ⟨m, hm, hc, hp⟩
    obtain ⟨hj, e⟩ := List.getElem?_eq_some_iff.mp hm
    subst e
    exact sc.noRoot j hj hc hp
  · rintro i p ⟨m, hm, hc, hp⟩ n h0 hn
    obtain ⟨hi, e⟩ := List.getElem?_eq_some_iff.mp hm
    subst e
    rw [← hp] at hn
    have hanc := sc.parents i hi hc n hn h0
    rw [hp] at hanc
    constructor
    · intro j mj hmj hcj hpj
      obtain ⟨hj, e'⟩ := List.getElem?_eq_some_iff.mp hmj
      subst e'
      exact (hanc j hj hcj hpj).1
    · intro f hf
      obtain ⟨mf, hmf, hcf, hpf⟩ := firstIdx_nonChunk hf
      obtain ⟨hf', e'⟩ := List.getElem?_eq_some_iff.mp hmf
      subst e'
      obtain ⟨_, g, hg, hgi, hcg, hpg⟩ := hanc f hf' hcf hpf
      have := firstIdx_min hf ⟨_, List.getElem?_eq_getElem hg, hcg, hpg⟩
      omega
  · intro i m hm hh
    obtain ⟨hi, e⟩ := List.getElem?_eq_some_iff.mp hm
    subst e
    obtain ⟨j, hj, h1, h2, h3, h4⟩ := sc.hardlinks i hi hh
    exact ⟨j, h1, _, List.getElem?_eq_getElem hj, h2, h3, h4⟩

theorem chunk_owner {es : List Entry} (sc : SpecConformingR es) :
    ∀ (u : Nat) (m : MEnt), (pass1 es)[u]? = some m → m.e.type = "chunk" →
      ∃ r mr, r < u ∧ (pass1 es)[r]? = some mr ∧ mr.e.type = "reg" ∧ mr.path = m.path ∧
        lrFrom none es u = some mr.e.size := by
  intro u
  induction u using Nat.strongRecOn with
  | _ u ih =>
    intro m hm hc
    obtain ⟨hu, heu⟩ := pass1_entry hm
    obtain ⟨h0, hprev⟩ := sc.chunkAfterData u hu (by rw [heu]; exact hc)
    have hpl : u - 1 < (pass1 es).length := by rw [pass1_length]; omega
    have hmp : (pass1 es)[u - 1]? = some (pass1 es)[u - 1] := List.getElem?_eq_getElem hpl
    obtain ⟨hup, hep⟩ := pass1_entry hmp
    have hu1 : u = (u - 1) + 1 := by omega
    have hpath : m.path = ((pass1 es)[u - 1]).path := by
      rw [hu1] at hm
      exact pass1_chunk_path hm hmp hc
    have hlr : lrFrom none es u =
        if es[u - 1].type = "reg" then some es[u - 1].size else lrFrom none es (u - 1) := by
      conv => lhs; rw [hu1]
      exact lrFrom_succ es none (u - 1) _ (List.getElem?_eq_getElem hup)
    rcases hprev with hr | hch
    · refine ⟨u - 1, _, by omega, hmp, by rw [← hep]; exact hr, hpath.symm, ?_⟩
      rw [hlr, if_pos hr, hep]
    · obtain ⟨r, mr, h1, h2, h3, h4, h5⟩ := ih (u - 1) (by omega) _ hmp (by rw [← hep]; exact hch)
      refine ⟨r, mr, by omega, h2, h3, by rw [h4, hpath], ?_⟩
      have : es[u - 1].type ≠ "reg" := by rw [hch]; decide
      rw [hlr, if_neg this, h5]

/-- an entry of its own stands before `i` (so that the db loop's `lastEnt` is set) -/
def HasEntry (ms : List MEnt) (i : Nat) : Prop := ∃ j mj, j < i ∧ ms[j]? = some mj ∧ mj.e.type ≠ "chunk"

theorem chunk_after_nonchunk {es : List Entry} (sc : SpecConformingR es) (i : Nat) (m : MEnt)
    (hm : (pass1 es)[i]? = some m) (hc : m.e.type = "chunk") : HasEntry (pass1 es) i := by
  obtain ⟨r, mr, h1, h2, h3, _⟩ := chunk_owner sc i m hm hc
  exact ⟨r, mr, h1, h2, by rw [h3]; decide⟩

/-! ## The db store's chunk bookkeeping, replayed from the TOC alone -/

structure CState where
  lastEnt : Option Key := none
  lastEntSize : Int := 0
  chunks : Key → List Chunk := fun _ => []

def cproj (sd : DState) : CState := ⟨sd.lastEnt, sd.lastEntSize, sd.chunks⟩

def dbChunkSize (lastEntSize : Int) (e : Entry) : Int :=
  let cs := if e.type = "chunk" ∧ e.chunkSize = 0 then lastEntSize - e.chunkOffset else e.chunkSize
  if cs = 0 ∧ e.size ≠ 0 then e.size else cs

def dbRow (lastEntSize : Int) (e : Entry) : Chunk :=
  { chunkOffset := e.chunkOffset, chunkSize := dbChunkSize lastEntSize e, digest := e.chunkDigest,
    offset := e.offset }

def cAppend (c : CState) (k : Key) (row : Chunk) : CState :=
  { c with chunks := fun k' => if k' = k then c.chunks k ++ [row] else c.chunks k' }

/-- the db node an entry of its own is filed under, from the TOC alone -/
def idOf (ms : List MEnt) (t : Nat) (mt : MEnt) : Key :=
  if mt.e.type = "hardlink" then resolveKey ms t else canon ms (.ent t)

theorem idOf_reg {ms : List MEnt} {t : Nat} {mt : MEnt} (hm : ms[t]? = some mt) (hr : mt.e.type = "reg") :
    idOf ms t mt = .ent t := by
  have h1 : mt.e.type ≠ "hardlink" := by rw [hr]; decide
  have h2 : mt.e.type ≠ "dir" := by rw [hr]; decide
  simp [idOf, h1, canon_of_nondir hm h2]

/-- what one entry does to the chunk bookkeeping of `initNodes` -/
def cStep (ms : List MEnt) (c : CState) (i : Nat) (e : Entry) : CState :=
  if e.type = "chunk" then
    if dbChunkSize c.lastEntSize e > 0 then
      match c.lastEnt with
      | some k => cAppend c k (dbRow c.lastEntSize e)
      | none => c
    else c
  else
    let id := if e.type = "hardlink" then resolveKey ms i else canon ms (.ent i)
    let c' : CState := { c with lastEnt := some id, lastEntSize := e.size }
    if e.type = "reg" ∧ e.size > 0 then cAppend c' id (dbRow c.lastEntSize e) else c'

theorem cStep_entry (ms : List MEnt) (c : CState) (i : Nat) {m : MEnt} (hc : m.e.type ≠ "chunk") :
    cStep ms c i m.e =
      if m.e.type = "reg" ∧ m.e.size > 0 then
        cAppend { c with lastEnt := some (idOf ms i m), lastEntSize := m.e.size } (idOf ms i m) (dbRow c.lastEntSize m.e)
      else { c with lastEnt := some (idOf ms i m), lastEntSize := m.e.size } := by
  unfold cStep idOf
  simp only [hc, ↓reduceIte]

def cRunFrom (ms : List MEnt) (c : CState) (k : Nat) : List Entry → CState
  | [] => c
  | e :: rest => cRunFrom ms (cStep ms c k e) (k + 1) rest

def cRun (ms : List MEnt) (es : List Entry) (i : Nat) : CState := cRunFrom ms {} 0 (es.take i)

theorem cRunFrom_append (ms : List MEnt) (c : CState) (k : Nat) (l1 l2 : List Entry) :
    cRunFrom ms c k (l1 ++ l2) = cRunFrom ms (cRunFrom ms c k l1) (k + l1.length) l2 := by
  induction l1 generalizing c k with
  | nil => simp [cRunFrom]
  | cons e rest ih =>
    simp only [List.cons_append, cRunFrom, List.length_cons]
    rw [ih]; congr 1; omega

theorem cRun_succ (ms : List MEnt) (es : List Entry) (i : Nat) (h : i < es.length) :
    cRun ms es (i + 1) = cStep ms (cRun ms es i) i es[i] := by
  unfold cRun
  rw [List.take_add_one, List.getElem?_eq_getElem h]
  simp only [Option.toList_some]
  rw [cRunFrom_append]
  simp [cRunFrom, List.length_take, Nat.min_eq_left (Nat.le_of_lt h)]

theorem cStep_lastEnt (ms : List MEnt) (c : CState) (i : Nat) (e : Entry) :
    (c.lastEnt.isSome ∨ e.type ≠ "chunk") → (cStep ms c i e).lastEnt.isSome := by
  intro h
  unfold cStep
  by_cases hc : e.type = "chunk"
  · have hs : c.lastEnt.isSome := by rcases h with h | h; exact h; exact absurd hc h
    obtain ⟨k, hk⟩ := Option.isSome_iff_exists.mp hs
    simp only [hc, ↓reduceIte, hk]
    split <;> simp [cAppend, hk]
  · simp only [hc, ↓reduceIte]
    split <;> simp [cAppend]

end SV.Toc.R
