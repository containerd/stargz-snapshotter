/-
`SpecConforming` (no name used twice) lies inside `SpecConformingR` (`R.spec_of_nodup`); there the first and the
last entry of a name coincide and the renaming `R.canon` is the identity (`canon_id`, `look_of_nodup`).  A proof
about such TOCs takes the `R` result and rewrites with `canon_id`, as `MetaTar.both_trees_match` does.
Nothing outside this file refers to the second half, the single-key notions `TreeOK` … `TreesAgree`; their fields are
results that stand in their own right, and each is tied to its `R` counterpart at `canon = id`
(`treeOK_iff`, `resolveKey_eq`, `cinv_iff`, `nodeAgree_iff`, `treesAgree_iff`).
-/
import SV.Lemmas.TocSim
import SV.Lemmas.TocFragments

namespace SV.Toc

def NamesNodup (ms : List MEnt) : Prop :=
  ∀ i j p, NonChunkAt ms i p → NonChunkAt ms j p → i = j

theorem namesNodup_of_list {ms : List MEnt} (h : (namesOf ms).Nodup) : NamesNodup ms := by
  rintro i j p ⟨mi, hmi, hci, hpi⟩ ⟨mj, hmj, hcj, hpj⟩
  obtain ⟨hi, ei⟩ := List.getElem?_eq_some_iff.mp hmi
  obtain ⟨hj, ej⟩ := List.getElem?_eq_some_iff.mp hmj
  refine idx_of_nodup (fun m : MEnt => m.path) ncB ms h i j hi hj ?_ ?_ ?_
  · rw [ei]; simpa [ncB] using hci
  · rw [ej]; simpa [ncB] using hcj
  · show ms[i].path = ms[j].path
    rw [ei, ej, hpi, hpj]

theorem lastIdx_eq_some_iff (ms : List MEnt) (hnd : NamesNodup ms) (p : Path) (j : Nat) :
    lastIdx ms p = some j ↔ NonChunkAt ms j p := by
  constructor
  · exact lastIdx_nonChunk
  · intro h
    obtain ⟨L, hL, _⟩ := lastIdx_ge h
    rw [hnd _ _ _ h (lastIdx_nonChunk hL)]
    exact hL

theorem firstIdx_eq_lastIdx {ms : List MEnt} (hnd : NamesNodup ms) (p : Path) :
    R.firstIdx ms p = lastIdx ms p := by
  cases hL : lastIdx ms p with
  | none => exact (R.firstIdx_eq_none_iff ms p).mpr hL
  | some L =>
    obtain ⟨f, hf, _⟩ := R.firstIdx_le (lastIdx_nonChunk hL)
    rw [hf, hnd _ _ _ (R.firstIdx_nonChunk hf) (lastIdx_nonChunk hL)]

theorem canon_id {ms : List MEnt} (hnd : NamesNodup ms) : R.canon ms = id := by
  funext k
  cases k with
  | root => rfl
  | imp p => rfl
  | ent j =>
    cases hm : ms[j]? with
    | none => simp [R.canon, hm]
    | some m =>
      by_cases hd : m.e.type = "dir"
      · refine R.canon_of_dir hm hd ?_
        rw [firstIdx_eq_lastIdx hnd]
        exact (lastIdx_eq_some_iff ms hnd _ j).mpr ⟨m, hm, R.dir_nonchunk hd, rfl⟩
      · exact R.canon_of_nondir hm hd

theorem look_of_nodup {ms : List MEnt} (hnd : NamesNodup ms) (i : Nat) (imps : List Path) (p : Path) :
    R.look ms i imps p =
      if p = [] then some .root
      else match lastIdx ms p with
        | some j => if j < i then some (R.resolveKey ms j) else none
        | none => if p ∈ imps then some (.imp p) else none := by
  unfold R.look
  rw [firstIdx_eq_lastIdx hnd]
  rfl

/-- `R.TreeOK` with `nodup` for `names` (no exception for directories) and, in `parents`, every entry of the name
before `i` where `R` asks it of the first one -/
structure TreeOK (ms : List MEnt) : Prop where
  nodup : NamesNodup ms
  noRoot : ∀ j, ¬ NonChunkAt ms j []
  parents : ∀ i p, NonChunkAt ms i p → ∀ n, 0 < n → n < p.length →
    ∀ (j : Nat) (m : MEnt), ms[j]? = some m → m.e.type ≠ "chunk" → m.path = p.take n → m.e.type = "dir" ∧ j < i
  hardlinks : ∀ (i : Nat) (m : MEnt), ms[i]? = some m → m.e.type = "hardlink" →
    ∃ j, j < i ∧ ∃ mj : MEnt, ms[j]? = some mj ∧ mj.e.type ≠ "chunk" ∧ mj.path = cleanName m.e.linkName
      ∧ mj.e.type ≠ "dir"

theorem treeOK_iff {ms : List MEnt} : TreeOK ms ↔ NamesNodup ms ∧ R.TreeOK ms := by
  constructor
  · intro ok
    refine ⟨ok.nodup, ?_, ok.noRoot, ?_, ok.hardlinks⟩
    · intro i j mi mj hi hj hci hcj hp
      exact Or.inl (ok.nodup i j mi.path ⟨mi, hi, hci, rfl⟩ ⟨mj, hj, hcj, hp.symm⟩)
    · intro i p h n h0 hn
      refine ⟨fun j m hm hc hp => (ok.parents i p h n h0 hn j m hm hc hp).1, fun f hf => ?_⟩
      obtain ⟨m, hm, hc, hp⟩ := R.firstIdx_nonChunk hf
      exact (ok.parents i p h n h0 hn f m hm hc hp).2
  · rintro ⟨hnd, ok⟩
    refine ⟨hnd, ok.noRoot, fun i p h n h0 hn j m hm hc hp => ?_, ok.hardlinks⟩
    -- the only entry of the name is the first one
    refine ⟨(ok.parents i p h n h0 hn).1 j m hm hc hp, (ok.parents i p h n h0 hn).2 j ?_⟩
    rw [firstIdx_eq_lastIdx hnd]
    exact (lastIdx_eq_some_iff ms hnd _ j).mpr ⟨m, hm, hc, hp⟩

theorem spec_treeOK {es : List Entry} (sc : SpecConforming es) : TreeOK (pass1 es) :=
  treeOK_iff.mpr ⟨namesNodup_of_list sc.names, R.spec_treeOK (R.spec_of_nodup sc)⟩

/-- no key is renamed in it: it is `R.resolveF` (`resolveF_eq`) -/
def resolveF (ms : List MEnt) : Nat → Nat → Key
  | 0, j => .ent j
  | f + 1, j =>
    match ms[j]? with
    | some m =>
      if m.e.type = "hardlink" then
        match lastIdx ms (cleanName m.e.linkName) with
        | some t => resolveF ms f t
        | none => .ent j
      else .ent j
    | none => .ent j

def resolveKey (ms : List MEnt) (j : Nat) : Key := resolveF ms j j

theorem resolveF_eq (ms : List MEnt) : ∀ f j, R.resolveF ms f j = resolveF ms f j := by
  intro f
  induction f with
  | zero => intro j; rfl
  | succ f ih => intro j; simp only [R.resolveF, resolveF, ih]; rfl

theorem resolveKey_eq (ms : List MEnt) : R.resolveKey ms = resolveKey ms :=
  funext fun j => resolveF_eq ms j j

structure CState where
  lastEnt : Option Key := none
  lastEntSize : Int := 0
  chunks : Key → List Chunk := fun _ => []

def CState.ofR (c : R.CState) : CState := ⟨c.lastEnt, c.lastEntSize, c.chunks⟩

def dbChunkSize (lastEntSize : Int) (e : Entry) : Int :=
  let cs := if e.type = "chunk" ∧ e.chunkSize = 0 then lastEntSize - e.chunkOffset else e.chunkSize
  if cs = 0 ∧ e.size ≠ 0 then e.size else cs

def dbRow (lastEntSize : Int) (e : Entry) : Chunk :=
  { chunkOffset := e.chunkOffset, chunkSize := dbChunkSize lastEntSize e, digest := e.chunkDigest,
    offset := e.offset }

def PpD (p : Path) (sz : Int) (m : MEnt) : Bool :=
  m.e.type = "chunk" ∧ m.path = p ∧ dbChunkSize sz m.e > 0

def dRowsSpec (ms : List MEnt) (i r : Nat) (mr : MEnt) : List Chunk :=
  (if r < i ∧ mr.e.size > 0 then [dbRow 0 mr.e] else []) ++
    ((ms.take i).filter (PpD mr.path mr.e.size)).map fun m => dbRow mr.e.size m.e

/-- `R.idOf` with `.ent t` for `canon ms (.ent t)` -/
def idOf (ms : List MEnt) (t : Nat) (mt : MEnt) : Key :=
  if mt.e.type = "hardlink" then resolveKey ms t else .ent t

/-- `R.CInv`; only `last` differs, through `idOf` -/
structure CInv (ms : List MEnt) (i : Nat) (c : CState) : Prop where
  regs : ∀ r mr, ms[r]? = some mr → mr.e.type = "reg" → c.chunks (.ent r) = dRowsSpec ms i r mr
  others : ∀ k, (∀ r mr, ms[r]? = some mr → mr.e.type = "reg" → k ≠ .ent r) → c.chunks k = []
  last : ∀ m, 0 < i → ms[i - 1]? = some m → ∃ t mt, t < i ∧ ms[t]? = some mt ∧ mt.e.type ≠ "chunk" ∧
    mt.path = m.path ∧ c.lastEnt = some (idOf ms t mt) ∧ c.lastEntSize = mt.e.size

theorem dbChunkSize_eq : @R.dbChunkSize = @dbChunkSize := rfl

theorem dbRow_eq : @R.dbRow = @dbRow := rfl

theorem PpD_eq : @R.PpD = @PpD := rfl

theorem dRowsSpec_eq : @R.dRowsSpec = @dRowsSpec := rfl

theorem idOf_eq {ms : List MEnt} (hnd : NamesNodup ms) : R.idOf ms = idOf ms := by
  funext t mt
  simp only [R.idOf, idOf, canon_id hnd, resolveKey_eq, id]

theorem cinv_iff {ms : List MEnt} (hnd : NamesNodup ms) (i : Nat) (c : R.CState) :
    CInv ms i (CState.ofR c) ↔ R.CInv ms i c := by
  -- `regs` and `others` are the same statements on both sides (`dRowsSpec_eq`)
  constructor
  · intro h
    refine ⟨h.regs, h.others, ?_⟩
    rw [idOf_eq hnd]; exact h.last
  · intro h
    refine ⟨h.regs, h.others, ?_⟩
    have := h.last
    rw [idOf_eq hnd] at this; exact this

/-- `R.NodeAgree id`, with `kids` an equality of the lists themselves -/
structure NodeAgree (n1 n2 : Node) : Prop where
  ok1 : n1.ok = true
  ok2 : n2.ok = true
  err1 : n1.kidsErr = false
  err2 : n2.kidsErr = false
  kids : n1.kids = n2.kids
  attr : normalise n1.attr = normalise n2.attr
  mode : n1.attr.mode = n2.attr.mode
  size : n1.attr.size = n2.attr.size
  offset : n1.offset = n2.offset
  openOk : n1.openOk = n2.openOk
  lookup : ∀ x, 0 ≤ x → n1.chunks.lookup x = n2.chunks.lookup x

/-- `R.TreesAgree id`, where injectivity of the renaming says nothing and is left out -/
structure TreesAgree (t1 t2 : Tree) (C : Key → Prop) : Prop where
  root : t1.root = t2.root
  rootC : C t1.root
  node : ∀ k, C k → NodeAgree (t1.node k) (t2.node k)
  closed : ∀ k, C k → ∀ kv, kv ∈ (t1.node k).kids → C kv.2

theorem nodeAgree_iff (n1 n2 : Node) : NodeAgree n1 n2 ↔ R.NodeAgree id n1 n2 := by
  have hid : ∀ l : Kids, l.map (R.mapKV id) = l := fun l => (List.map_congr_left fun _ _ => rfl).trans (List.map_id l)
  constructor
  · intro h
    exact ⟨h.ok1, h.ok2, h.err1, h.err2, by rw [hid, h.kids], h.attr, h.mode, h.size, h.offset, h.openOk, h.lookup⟩
  · intro h
    exact ⟨h.ok1, h.ok2, h.err1, h.err2, (h.kids.trans (hid _)).symm, h.attr, h.mode, h.size, h.offset, h.openOk,
      h.lookup⟩

theorem treesAgree_iff (t1 t2 : Tree) (C : Key → Prop) : TreesAgree t1 t2 C ↔ R.TreesAgree id t1 t2 C :=
  ⟨fun h => ⟨h.root, h.rootC, fun k hk => (nodeAgree_iff _ _).mp (h.node k hk), h.closed, fun _ _ _ _ e => e⟩,
   fun h => ⟨h.root, h.rootC, fun k hk => (nodeAgree_iff _ _).mpr (h.node k hk), h.closed⟩⟩

theorem views_agree {es : List Entry} (sc : SpecConforming es) :
    ∃ tm td, memTree es = .accept tm ∧ dbTree es = .accept td ∧ view tm = view td :=
  R.views_agree (R.spec_of_nodup sc)

end SV.Toc
