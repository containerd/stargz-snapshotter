import SV.Model.FsMount
import SV.Lemmas.LayerLife
/-
Lemmas for C12b (holder side of C12, `fs/fs.go` Mount / Check / Unmount).  `mount` is the code since
fix 62b0917; the pre-fix `mountOld` only appears in counterexamples of SV/Props/C12b.lean.
The invariant `MInv` relates `fs.layer` to the closures of the layer cache; the kernel mount table is not in it.
`mount_spec` and `unmount_spec` say what the two calls do; `step_inv` keeps `MInv` and gives the accounting
step `Acct`.
-/
namespace SV.FsMount
open SV.LayerLife SV.Refcount

/-! ## counting un-called closures -/

theorem liveToks_append (A B : List Tok) : liveToks (A ++ B) = liveToks A + liveToks B :=
  List.countP_append

theorem liveToks_eq_zero {D : List Tok} (h : ∀ t ∈ D, t.once = true) : liveToks D = 0 :=
  List.countP_eq_zero.2 (fun t ht => by simp [h t ht])

theorem isLive_some {A : List Tok} {j : Nat} (h : isLive A j = true) :
    ∃ t, A[j]? = some t ∧ t.once = false := by
  unfold isLive at h
  cases hj : A[j]? with
  | none => rw [hj] at h; cases h
  | some t => rw [hj] at h; exact ⟨t, rfl, by simpa using h⟩

theorem isLive_lt {A : List Tok} {j : Nat} (h : isLive A j = true) : j < A.length := by
  obtain ⟨_, ht, _⟩ := isLive_some h
  exact (List.getElem_of_getElem? ht).1

theorem isLive_append_lt (A B : List Tok) {j : Nat} (h : j < A.length) :
    isLive (A ++ B) j = isLive A j := by
  simp [isLive, List.getElem?_append_left h]

theorem isLive_of_dead (D : List Tok) (h : liveToks D = 0) (j : Nat) : isLive D j = false := by
  cases hl : isLive D j with
  | false => rfl
  | true =>
    obtain ⟨t, ht, ho⟩ := isLive_some hl
    have := List.countP_eq_zero.1 h t (List.mem_of_getElem? ht)
    simp [ho] at this

theorem isLive_append_dead (A D : List Tok) (h : liveToks D = 0) (j : Nat) :
    isLive (A ++ D) j = isLive A j := by
  by_cases hj : j < A.length
  · exact isLive_append_lt A D hj
  · have hj' : A.length ≤ j := Nat.le_of_not_lt hj
    have h1 : isLive A j = false := by simp [isLive, List.getElem?_eq_none hj']
    rw [h1, isLive, List.getElem?_append_right hj']
    exact isLive_of_dead D h _

theorem isLive_set_dead (A : List Tok) (j : Nat) (t : Tok) (k : Nat) :
    isLive (A.set j { t with once := true }) k = if k = j then false else isLive A k := by
  unfold isLive
  rw [List.getElem?_set]
  by_cases h : j = k
  · subst h
    by_cases hl : j < A.length <;> simp [hl]
  · have h' : ¬ k = j := fun e => h e.symm
    simp [h, h']

theorem liveToks_set_dead {A : List Tok} {j : Nat} {t : Tok} (h : A[j]? = some t) :
    liveToks (A.set j { t with once := true }) + (if isLive A j then 1 else 0) = liveToks A := by
  obtain ⟨hlt, hget⟩ := List.getElem_of_getElem? h
  have e : isLive A j = !t.once := by rw [isLive, h]
  rw [e, liveToks, liveToks, List.countP_set hlt, hget]
  cases ho : t.once
  · have : 0 < A.countP (fun t => !t.once) :=
      List.countP_pos_iff.mpr ⟨t, List.mem_of_getElem? h, by rw [ho]; rfl⟩
    exact Nat.sub_add_cancel this
  · rfl

/-- Distinct un-called closures are among those `liveToks` counts: call them one by one. -/
theorem length_le_liveToks : ∀ (l : List Nat) {T : List Tok}, l.Nodup → (∀ j ∈ l, isLive T j = true) →
    l.length ≤ liveToks T := by
  intro l
  induction l with
  | nil => exact fun _ _ => Nat.zero_le _
  | cons j l ih =>
    intro T hn hl
    obtain ⟨hj, hn⟩ := List.nodup_cons.1 hn
    obtain ⟨t, ht, _⟩ := isLive_some (hl j List.mem_cons_self)
    have := ih (T := T.set j { t with once := true }) hn fun i hi => by
      rw [isLive_set_dead, if_neg (fun e : i = j => hj (e ▸ hi))]; exact hl i (List.mem_cons_of_mem _ hi)
    have h1 := liveToks_set_dead ht
    rw [hl j List.mem_cons_self, if_pos rfl] at h1
    rw [List.length_cons]; omega

/-! ## association lists -/

theorem lookup_eq_none {α : Type} {k : Nat} {m : List (Nat × α)} : lookup k m = none ↔ ∀ p ∈ m, p.1 ≠ k := by
  induction m with
  | nil => exact ⟨fun _ _ h => (nomatch h), fun _ => rfl⟩
  | cons p m ih =>
    rw [lookup, List.forall_mem_cons]
    split
    · rename_i h
      exact ⟨nofun, fun h' => absurd h h'.1⟩
    · rename_i h
      exact ih.trans ⟨fun h' => ⟨h, h'⟩, fun h' => h'.2⟩

theorem lookup_mem {α : Type} {k : Nat} {v : α} : ∀ {m : List (Nat × α)}, lookup k m = some v → (k, v) ∈ m := by
  intro m
  induction m with
  | nil => intro h; cases h
  | cons p m ih =>
    obtain ⟨k', v'⟩ := p
    intro h
    by_cases h2 : k' = k
    · simp [lookup, h2] at h; subst h2; subst h; exact List.mem_cons_self ..
    · simp only [lookup, h2, if_false] at h
      exact List.mem_cons_of_mem _ (ih h)

theorem mem_erase {α : Type} {k : Nat} {m : List (Nat × α)} {p : Nat × α} :
    p ∈ erase k m ↔ p ∈ m ∧ p.1 ≠ k := by
  simp [erase]

theorem erase_sublist {α : Type} (k : Nat) (m : List (Nat × α)) : (erase k m).Sublist m :=
  List.filter_sublist

theorem lookup_erase_self {α : Type} (k : Nat) (m : List (Nat × α)) : lookup k (erase k m) = none :=
  lookup_eq_none.2 (fun _ hp => (mem_erase.1 hp).2)

theorem erase_of_lookup_none {α : Type} {k : Nat} {m : List (Nat × α)} (h : lookup k m = none) : erase k m = m :=
  List.filter_eq_self.2 (fun p hp => by simpa using lookup_eq_none.1 h p hp)

theorem lookup_erase_ne {α : Type} {k k' : Nat} (h : k' ≠ k) (m : List (Nat × α)) :
    lookup k' (erase k m) = lookup k' m := by
  induction m with
  | nil => rfl
  | cons p m ih =>
    obtain ⟨k2, v⟩ := p
    by_cases h2 : k2 = k
    · subst h2
      have h3 : ¬ k2 = k' := fun e => h e.symm
      simp [erase, lookup, h3] at ih ⊢; exact ih
    · simp [erase, h2, lookup] at ih ⊢
      rw [ih]

theorem lookup_insert_self {α : Type} (k : Nat) (v : α) (m : List (Nat × α)) :
    lookup k (insert k v m) = some v := by
  simp [insert, lookup]

theorem lookup_insert_ne {α : Type} {k k' : Nat} (h : k' ≠ k) (v : α) (m : List (Nat × α)) :
    lookup k' (insert k v m) = lookup k' m := by
  have h' : ¬ k = k' := fun e => h e.symm
  simp [insert, lookup, h', lookup_erase_ne h]

theorem erase_insert {α : Type} (k : Nat) (v : α) (m : List (Nat × α)) :
    erase k (insert k v m) = erase k m := by
  simp [erase, insert, List.filter_filter]

theorem length_erase_lookup {α : Type} {k : Nat} {v : α} : ∀ {l : List (Nat × α)}, (l.map (·.1)).Nodup →
    lookup k l = some v → (erase k l).length + 1 = l.length := by
  intro l
  induction l with
  | nil => intro _ h; cases h
  | cons p m ih =>
    obtain ⟨k', v'⟩ := p
    intro hn h
    rw [List.map_cons, List.nodup_cons] at hn
    by_cases h2 : k' = k
    · have hnone : lookup k m = none :=
        lookup_eq_none.2 (fun p hp e => hn.1 (List.mem_map.2 ⟨p, hp, e.trans h2.symm⟩))
      have he : erase k ((k', v') :: m) = erase k m := by simp [erase, h2]
      rw [he, erase_of_lookup_none hnone]; rfl
    · have h' : lookup k m = some v := by simpa [lookup, h2] using h
      have he : erase k ((k', v') :: m) = (k', v') :: erase k m := by simp [erase, h2]
      rw [he, List.length_cons, ih hn.2 h']; rfl

theorem eq_of_nodup_snd : ∀ {l : List (Nat × Nat)}, (l.map (·.2)).Nodup →
    ∀ {p q : Nat × Nat}, p ∈ l → q ∈ l → p.2 = q.2 → p = q := by
  intro l
  induction l with
  | nil => intro _ p q hp; cases hp
  | cons a m ih =>
    intro hn p q hp hq e
    rw [List.map_cons, List.nodup_cons] at hn
    rcases List.mem_cons.1 hp with hpa | hp'
    · rcases List.mem_cons.1 hq with hqa | hq'
      · rw [hpa, hqa]
      · exact absurd (List.mem_map.2 ⟨q, hq', by rw [← e, hpa]⟩) hn.1
    · rcases List.mem_cons.1 hq with hqa | hq'
      · exact absurd (List.mem_map.2 ⟨p, hp', by rw [e, hqa]⟩) hn.1
      · exact ih hn.2 hp' hq' e

/-! ## the resolver's steps and the closure list -/

/-- Not `LayerLife.Reach`: `b` is reached from `a` by steps of the resolver model. -/
def Reaches (a b : LayerLife.State) : Prop := ∃ lops : List LayerLife.Op, b = LayerLife.runFrom a lops

theorem Reaches.refl (a : LayerLife.State) : Reaches a a := ⟨[], rfl⟩

theorem Reaches.trans {a b c : LayerLife.State} (h1 : Reaches a b) (h2 : Reaches b c) : Reaches a c := by
  obtain ⟨l1, e1⟩ := h1
  obtain ⟨l2, e2⟩ := h2
  exact ⟨l1 ++ l2, by rw [e2, e1]; simp [LayerLife.runFrom, List.foldl_append]⟩

theorem Reaches.step (a : LayerLife.State) (op : LayerLife.Op) : Reaches a (LayerLife.step a op).1 :=
  ⟨[op], rfl⟩

theorem Reaches.inv {a b : LayerLife.State} (h : Reaches a b) (inv : Inv a none) : Inv b none := by
  obtain ⟨l, e⟩ := h
  rw [e]; exact Inv.runFrom l inv

theorem holderOf_eq (o : Out) : holderOf o = o.layer? := by cases o <;> rfl

theorem resolve_toks {s : LayerLife.State} (inv : Inv s none) (name : Nat) (o : Oracle) :
    ∃ D, liveToks D = 0 ∧
      ((holderOf (resolve s name o).2 = none ∧ (resolve s name o).1.lc.core.toks = s.lc.core.toks ++ D) ∨
       (∃ lid, holderOf (resolve s name o).2 = some (lid, (s.lc.core.toks ++ D).length) ∧
          (resolve s name o).1.lc.core.toks = s.lc.core.toks ++ D ++ [{ rc := lid }])) := by
  have sp := resolve_spec inv name o
  rcases sp.total with he | ⟨lid, tok, hl⟩
  · obtain ⟨D, f⟩ := sp.err he
    exact ⟨D, liveToks_eq_zero f.called, Or.inl ⟨(holderOf_eq _).trans f.noLayer, f.toks⟩⟩
  · obtain ⟨D, g⟩ := sp.ok hl
    exact ⟨D, liveToks_eq_zero g.called, Or.inr ⟨lid, g.tok ▸ (holderOf_eq _).trans hl, g.toks⟩⟩

/-- `T'` is `T` after closure `tok` was called (if there is such a closure). -/
structure Called (T T' : List Tok) (tok : Nat) : Prop where
  self : isLive T' tok = false
  ne : ∀ t, t ≠ tok → isLive T' t = isLive T t
  liveToks : liveToks T' + (if isLive T tok then 1 else 0) = liveToks T

theorem done_toks_spec (s : LayerLife.State) (tok : Nat) (e : Bool) :
    Called s.lc.core.toks (LayerLife.step s (.done tok e)).1.lc.core.toks tok := by
  rw [step_done_fst]
  cases ht : s.lc.core.toks[tok]? with
  | none =>
    have hs : lcDone s tok e = s := by simp only [lcDone, ht]
    have : isLive s.lc.core.toks tok = false := by simp [isLive, ht]
    rw [hs]
    exact ⟨this, fun _ _ => rfl, by simp [this]⟩
  | some t =>
    rw [lcDone_toks e ht]
    exact ⟨by rw [isLive_set_dead, if_pos rfl], fun t' h => by rw [isLive_set_dead, if_neg h], liveToks_set_dead ht⟩

theorem getElem?_mid {α} (A X : List α) (t : α) : (A ++ [t] ++ X)[A.length]? = some t := by
  simp

theorem step_done_mid {s : LayerLife.State} {A X : List Tok} {lid : Nat}
    (h : s.lc.core.toks = A ++ [{ rc := lid }] ++ X) (e : Bool) :
    (LayerLife.step s (.done A.length e)).1.lc.core.toks = A ++ [{ rc := lid, once := true }] ++ X := by
  rw [step_done_fst, lcDone_toks e (t := { rc := lid }) (by rw [h]; exact getElem?_mid ..), h]
  simp

theorem preResolve_spec : ∀ (ns : List (Nat × Oracle)) (s : LayerLife.State), Inv s none →
    ∃ D, liveToks D = 0 ∧ (preResolve s ns).lc.core.toks = s.lc.core.toks ++ D ∧
      Reaches s (preResolve s ns) := by
  intro ns
  induction ns with
  | nil => intro s _; exact ⟨[], rfl, (List.append_nil _).symm, Reaches.refl s⟩
  | cons p rest ih =>
    obtain ⟨n, o⟩ := p
    intro s inv
    have hr : Reaches s (resolve s n o).1 := Reaches.step s (.resolve n o)
    have inv1 := inv.resolve n o
    obtain ⟨D, hD, h⟩ := resolve_toks inv n o
    rw [preResolve]
    simp only [show LayerLife.step s (.resolve n o) = resolve s n o from rfl]
    rcases h with ⟨h1, h2⟩ | ⟨lid, h1, h2⟩
    · obtain ⟨D2, hD2, h3, h4⟩ := ih _ inv1
      simp only [h1]
      exact ⟨D ++ D2, by rw [liveToks_append, hD, hD2], by rw [h3, h2, List.append_assoc], hr.trans h4⟩
    · simp only [h1]
      have h3 := step_done_mid (X := []) (by rw [h2, List.append_nil]) false
      obtain ⟨D2, hD2, h4, h5⟩ := ih _ (inv1.step (.done (s.lc.core.toks ++ D).length false))
      refine ⟨D ++ [{ rc := lid, once := true }] ++ D2, ?_, ?_, (hr.trans (Reaches.step _ _)).trans h5⟩
      · rw [liveToks_append, liveToks_append, hD, hD2]; rfl
      · rw [h4, h3]; simp [List.append_assoc]

/-! ## the verification step -/

theorem setV_frame (s : State) (lid : Nat) (v : VState) (hv : v ≠ .unset) :
    (setV s lid v).ll = s.ll ∧ (setV s lid v).layer = s.layer ∧
    (setV s lid v).kmounts = s.kmounts ∧ vstOf (setV s lid v) lid ≠ .unset :=
  ⟨rfl, rfl, rfl, by simpa [vstOf, setV, lookup_insert_self] using hv⟩

theorem skipVerify_frame (s : State) (lid : Nat) :
    (skipVerify s lid).ll = s.ll ∧ (skipVerify s lid).layer = s.layer ∧
    (skipVerify s lid).kmounts = s.kmounts ∧ vstOf (skipVerify s lid) lid ≠ .unset := by
  unfold skipVerify
  cases h : vstOf s lid with
  | unset => exact setV_frame s lid _ nofun
  | verified => exact ⟨rfl, rfl, rfl, by rw [h]; exact nofun⟩
  | skipped => exact ⟨rfl, rfl, rfl, by rw [h]; exact nofun⟩

theorem verify_some {s s2 : State} {lid : Nat} {d : Bool} (h : verify s lid d = some s2) :
    s2 = setV s lid .verified := by
  unfold verify at h
  split at h
  · cases h
  · split at h
    · cases h
    · split at h
      · exact (Option.some.inj h).symm
      · cases h

theorem verifyStep_some {s s2 : State} {lid : Nat} {i : MountIn} (h : verifyStep s lid i = some s2) :
    s2.ll = s.ll ∧ s2.layer = s.layer ∧ s2.kmounts = s.kmounts ∧ vstOf s2 lid ≠ .unset := by
  unfold verifyStep at h
  split at h
  · rw [← Option.some.inj h]; exact skipVerify_frame s lid
  · split at h
    · cases h
    · rw [verify_some h]; exact setV_frame s lid _ nofun
    · rw [verify_some h]; exact setV_frame s lid _ nofun
    · split at h
      · rw [← Option.some.inj h]; exact skipVerify_frame s lid
      · cases h

/-! ## the invariant; what Mount and Unmount do -/

/-- Invariant of the reachable holder-side states: the resolver part satisfies C12's invariant, `fs.layer`
has one entry per mountpoint and one holder per entry, and (since fix 62b0917) every entry holds an
un-called closure. -/
structure MInv (s : State) : Prop where
  ll : Inv s.ll none
  keys : (s.layer.map (·.1)).Nodup
  toks : (s.layer.map (·.2)).Nodup
  live : ∀ p ∈ s.layer, isLive s.ll.lc.core.toks p.2 = true

theorem MInv.init : MInv {} :=
  ⟨Inv.init, List.nodup_nil, List.nodup_nil, nofun⟩

theorem MInv.lt {s : State} (h : MInv s) {p : Nat × Nat} (hp : p ∈ s.layer) : p.2 < s.ll.lc.core.toks.length :=
  isLive_lt (h.live p hp)

theorem MInv.gap {s : State} (h : MInv s) : s.layer.length ≤ liveToks s.ll.lc.core.toks := by
  rw [← List.length_map (f := (·.2))]
  exact length_le_liveToks _ h.toks fun j hj => by
    obtain ⟨p, hp, rfl⟩ := List.mem_map.1 hj; exact h.live p hp

theorem failMount_other {s : State} {mp tok : Nat} (r : Res) (h : lookup mp s.layer ≠ some tok) :
    failMount s mp tok r = ({ s with ll := (LayerLife.step s.ll (.done tok false)).1 }, r) := by
  simp only [failMount, if_neg h]

theorem failMount_own {s : State} {mp tok : Nat} (r : Res) (h : lookup mp s.layer = some tok) :
    failMount s mp tok r =
      ({ s with layer := erase mp s.layer, ll := (LayerLife.step s.ll (.done tok false)).1 }, r) := by
  simp only [failMount, if_pos h]

theorem mount_none {s : State} {mp : Nat} {i : MountIn} {r : LayerLife.State × Out} {P : LayerLife.State}
    (hr : resolve s.ll i.name i.o = r) (hP : preResolve r.1 (neighbours i) = P)
    (h1 : holderOf r.2 = none) : mount s mp i = ({ s with ll := P }, .errResolve) := by
  simp only [mount, mountWith, show LayerLife.step s.ll (.resolve i.name i.o) = resolve s.ll i.name i.o from rfl]
  rw [hr, h1, hP]

/-- `P`: the resolver after the pre-resolution.  `RootNode` does not fail: the layer is open and the
verification step that succeeded installed a reader. -/
theorem mount_some {s : State} {mp lid tok : Nat} {i : MountIn} {r : LayerLife.State × Out}
    {P : LayerLife.State} (hr : resolve s.ll i.name i.o = r) (hP : preResolve r.1 (neighbours i) = P)
    (h1 : holderOf r.2 = some (lid, tok)) (hopen : layerClosed P lid = false)
    (hfresh : lookup mp s.layer ≠ some tok) :
    ((mount s mp i).2 = .ok ∧ (mount s mp i).1.ll = P ∧
      (mount s mp i).1.layer = insert mp tok s.layer ∧ (mount s mp i).1.kmounts = mp :: s.kmounts) ∨
    ((mount s mp i).2 = .errFuse ∧ (mount s mp i).1.ll = (LayerLife.step P (.done tok false)).1 ∧
      (mount s mp i).1.layer = erase mp s.layer ∧ (mount s mp i).1.kmounts = s.kmounts) ∨
    ((mount s mp i).2 = .errVerify ∧ (mount s mp i).1.ll = (LayerLife.step P (.done tok false)).1 ∧
      (mount s mp i).1.layer = s.layer ∧ (mount s mp i).1.kmounts = s.kmounts) := by
  simp only [mount, mountWith, show LayerLife.step s.ll (.resolve i.name i.o) = resolve s.ll i.name i.o from rfl]
  rw [hr, h1, hP]
  dsimp only
  cases hv : verifyStep { s with ll := P } lid i with
  | none =>
    dsimp only
    rw [failMount_other _ (by exact hfresh)]  -- `by exact`: as in `Inv.lcFire`
    exact Or.inr (Or.inr ⟨rfl, rfl, rfl, rfl⟩)
  | some s2 =>
    obtain ⟨e1, e2, e3, e4⟩ := verifyStep_some hv
    have hroot : rootNodeFails s2 lid = false := by
      rw [rootNodeFails, e1]
      cases hv2 : vstOf s2 lid with
      | unset => exact absurd hv2 e4
      | verified => simp [hopen]
      | skipped => simp [hopen]
    dsimp only
    rw [hroot, if_neg Bool.false_ne_true]
    cases i.fuse with
    | true =>
      rw [if_pos rfl]
      exact Or.inl ⟨rfl, e1, by rw [e2], by rw [e3]⟩
    | false =>
      rw [if_neg Bool.false_ne_true, failMount_own _ (lookup_insert_self _ _ _)]
      exact Or.inr (Or.inl ⟨rfl, by rw [e1], by show erase mp (insert mp _ s2.layer) = _; rw [erase_insert, e2], e3⟩)

/-- `Y`: the closures the call appended to those of the layer cache.  A failing FUSE step deletes the entry of
`mp`: its own, which overwrote any earlier one. -/
inductive MountOutcome (s : State) (mp : Nat) (m : State × Res) (Y : List Tok) : Prop
  | ok (res : m.2 = .ok) (live : liveToks Y = 1) (tok : Nat) (new : s.ll.lc.core.toks.length ≤ tok)
      (held : isLive m.1.ll.lc.core.toks tok = true) (layer : m.1.layer = insert mp tok s.layer)
      (kmounts : m.1.kmounts = mp :: s.kmounts)
  | errFuse (res : m.2 = .errFuse) (dead : liveToks Y = 0) (layer : m.1.layer = erase mp s.layer)
      (kmounts : m.1.kmounts = s.kmounts)
  | errOther (res : m.2 = .errResolve ∨ m.2 = .errVerify) (dead : liveToks Y = 0) (layer : m.1.layer = s.layer)
      (kmounts : m.1.kmounts = s.kmounts)

theorem MountOutcome.failed {s : State} {mp : Nat} {m : State × Res} {Y : List Tok} (h : MountOutcome s mp m Y)
    (hf : m.2 ≠ .ok) : liveToks Y = 0 ∧ m.1.kmounts = s.kmounts ∧
      m.1.layer = if m.2 = .errFuse then erase mp s.layer else s.layer := by
  cases h with
  | ok res => exact absurd res hf
  | errFuse res dead layer kmounts => exact ⟨dead, kmounts, by rw [if_pos res]; exact layer⟩
  | errOther res dead layer kmounts =>
    have hne : m.2 ≠ .errFuse := by rcases res with h | h <;> (rw [h]; nofun)
    exact ⟨dead, kmounts, by rw [if_neg hne]; exact layer⟩

theorem mount_spec (s : State) (mp : Nat) (i : MountIn) (hM : MInv s) :
    ∃ Y, (mount s mp i).1.ll.lc.core.toks = s.ll.lc.core.toks ++ Y ∧ Reaches s.ll (mount s mp i).1.ll ∧
      MountOutcome s mp (mount s mp i) Y := by
  have inv1 := hM.ll.resolve i.name i.o
  obtain ⟨D, hD, h⟩ := resolve_toks hM.ll i.name i.o
  obtain ⟨X, hX, hP, hrP⟩ := preResolve_spec (neighbours i) _ inv1
  have invP := hrP.inv inv1
  have hrP := (Reaches.step s.ll (.resolve i.name i.o)).trans hrP
  generalize hr : resolve s.ll i.name i.o = r at *
  generalize hPe : preResolve r.1 (neighbours i) = P at *
  rcases h with ⟨h1, h2⟩ | ⟨lid, h1, h2⟩
  · rw [mount_none hr hPe h1]
    exact ⟨D ++ X, by rw [hP, h2, List.append_assoc], hrP,
      .errOther (Or.inl rfl) (by rw [liveToks_append, hD, hX]) rfl rfl⟩
  · -- the target's closure sits at index `(s.ll.lc.core.toks ++ D).length`; it is brand-new, so no entry holds it,
    -- and un-called, so its layer is open
    have hPt : P.lc.core.toks = (s.ll.lc.core.toks ++ D) ++ [{ rc := lid }] ++ X := by rw [hP, h2]
    have hget : P.lc.core.toks[(s.ll.lc.core.toks ++ D).length]? = some { rc := lid } := by
      rw [hPt]; exact getElem?_mid ..
    have hge : s.ll.lc.core.toks.length ≤ (s.ll.lc.core.toks ++ D).length := by
      rw [List.length_append]; exact Nat.le_add_right _ _
    have hfresh : lookup mp s.layer ≠ some (s.ll.lc.core.toks ++ D).length :=
      fun hh => Nat.not_lt.mpr hge (hM.lt (lookup_mem hh))
    obtain ⟨l, _, c⟩ := held_open invP.l.reach invP.l.link hget rfl
    have hopen : layerClosed P lid = false := by
      simp [layerClosed, c.obj, c.isOpen]
    rcases mount_some hr hPe h1 hopen hfresh with ⟨hres, hll, hL, hK⟩ | hfail
    · refine ⟨D ++ [({ rc := lid } : Tok)] ++ X, by rw [hll, hPt]; simp only [List.append_assoc],
        by rw [hll]; exact hrP,
        .ok hres ?_ _ hge (by rw [hll, isLive, hget]; rfl) hL hK⟩
      rw [liveToks_append, liveToks_append, hD, hX]; rfl
    · -- the deferred `Done()`
      have hdone : (LayerLife.step P (.done (s.ll.lc.core.toks ++ D).length false)).1.lc.core.toks =
          s.ll.lc.core.toks ++ (D ++ [({ rc := lid, once := true } : Tok)] ++ X) := by
        rw [step_done_mid hPt]; simp only [List.append_assoc]
      have hrD := hrP.trans (Reaches.step P (.done (s.ll.lc.core.toks ++ D).length false))
      have hdead : liveToks (D ++ [({ rc := lid, once := true } : Tok)] ++ X) = 0 := by
        rw [liveToks_append, liveToks_append, hD, hX]; rfl
      rcases hfail with ⟨hres, hll, hL, hK⟩ | ⟨hres, hll, hL, hK⟩
      · exact ⟨_, by rw [hll]; exact hdone, by rw [hll]; exact hrD, .errFuse hres hdead hL hK⟩
      · exact ⟨_, by rw [hll]; exact hdone, by rw [hll]; exact hrD, .errOther (Or.inr hres) hdead hL hK⟩

theorem unmount_spec (s : State) (mp tok : Nat) (hm : lookup mp s.layer = some tok) :
    (unmount s mp).1.layer = erase mp s.layer ∧
    (unmount s mp).1.ll = (LayerLife.step s.ll (.done tok true)).1 ∧
    (unmount s mp).2 = (if s.kmounts.contains mp then .ok else .errUmount) ∧
    (unmount s mp).1.kmounts = (if s.kmounts.contains mp then s.kmounts.erase mp else s.kmounts) := by
  simp only [unmount, hm]
  split <;> exact ⟨rfl, rfl, rfl, rfl⟩

theorem unmount_none (s : State) (mp : Nat) (hm : lookup mp s.layer = none) :
    unmount s mp = (s, .errNotMounted) := by
  simp only [unmount, hm]

/-! ## steps and accounting -/

theorem MInv.sub {s s' : State} (h : MInv s) (hinv : Inv s'.ll none) (hL : s'.layer.Sublist s.layer)
    (hT : ∀ p ∈ s'.layer, isLive s'.ll.lc.core.toks p.2 = isLive s.ll.lc.core.toks p.2) : MInv s' :=
  ⟨hinv, (hL.map _).nodup h.keys, (hL.map _).nodup h.toks, fun p hp => (hT p hp).trans (h.live p (hL.subset hp))⟩

/-- From `s` to `s'` the un-called closures and the entries of `fs.layer` grew by the same number. -/
def Acct (s s' : State) : Prop :=
  liveToks s.ll.lc.core.toks + s'.layer.length = liveToks s'.ll.lc.core.toks + s.layer.length

theorem Acct.trans {a b c : State} (h1 : Acct a b) (h2 : Acct b c) : Acct a c := by
  unfold Acct at *; omega

theorem mount_step {s : State} (h : MInv s) (mp : Nat) (i : MountIn) :
    MInv (mount s mp i).1 ∧ (lookup mp s.layer = none → Acct s (mount s mp i).1) := by
  obtain ⟨Y, hT, hR, hc⟩ := mount_spec s mp i h
  have hinv' := hR.inv h.ll
  generalize mount s mp i = m at *
  have hsub := erase_sublist mp s.layer
  have hold : ∀ p ∈ s.layer, isLive m.1.ll.lc.core.toks p.2 = isLive s.ll.lc.core.toks p.2 :=
    fun p hp => by rw [hT]; exact isLive_append_lt _ _ (h.lt hp)
  rw [Acct, hT, liveToks_append]
  cases hc with
  | ok _ live tok new held hL _ =>
    rw [live, hL]
    have hnew : ∀ p ∈ erase mp s.layer, p.2 ≠ tok :=
      fun p hp e => Nat.not_lt.mpr new (e ▸ h.lt (mem_erase.1 hp).1)
    refine ⟨⟨hinv', ?_, ?_, ?_⟩, ?_⟩
    · rw [hL, insert, List.map_cons, List.nodup_cons]
      exact ⟨fun hmem => by obtain ⟨p, hp, e⟩ := List.mem_map.1 hmem; exact (mem_erase.1 hp).2 e,
        (hsub.map _).nodup h.keys⟩
    · rw [hL, insert, List.map_cons, List.nodup_cons]
      exact ⟨fun hmem => by obtain ⟨p, hp, e⟩ := List.mem_map.1 hmem; exact hnew p hp e,
        (hsub.map _).nodup h.toks⟩
    · intro p hp
      rw [hL] at hp
      rcases List.mem_cons.1 hp with hpa | hp'
      · rw [hpa]; exact held
      · rw [hold p (mem_erase.1 hp').1]; exact h.live p (mem_erase.1 hp').1
    · intro hnone
      rw [insert, List.length_cons, erase_of_lookup_none hnone]; omega
  | errFuse _ dead hL _ =>
    rw [dead, hL]
    exact ⟨h.sub hinv' (hL ▸ hsub) (fun p hp => hold p ((hL ▸ hsub).subset hp)),
      fun hnone => by rw [erase_of_lookup_none hnone]; rfl⟩
  | errOther _ dead hL _ =>
    rw [dead, hL]
    exact ⟨h.sub hinv' (hL ▸ List.Sublist.refl _) (fun p hp => hold p (hL ▸ hp)), fun _ => rfl⟩

theorem unmount_step {s : State} (h : MInv s) (mp : Nat) : MInv (unmount s mp).1 ∧ Acct s (unmount s mp).1 := by
  cases hm : lookup mp s.layer with
  | none => rw [unmount_none s mp hm]; exact ⟨h, rfl⟩
  | some tok =>
    obtain ⟨hL, hll, -, -⟩ := unmount_spec s mp tok hm
    have d := done_toks_spec s.ll tok true
    rw [← hll] at d
    have hinv' : Inv (unmount s mp).1.ll none := by rw [hll]; exact h.ll.step _
    generalize unmount s mp = u at *
    have hmem := lookup_mem hm
    have hne : ∀ p ∈ erase mp s.layer, p.2 ≠ tok := fun p hp e =>
      (mem_erase.1 hp).2 (by rw [eq_of_nodup_snd h.toks (mem_erase.1 hp).1 hmem e])
    refine ⟨h.sub hinv' (hL ▸ erase_sublist mp s.layer) (fun p hp => d.ne p.2 (hne p (hL ▸ hp))), ?_⟩
    have := length_erase_lookup h.keys hm
    have d4 := d.liveToks
    rw [h.live _ hmem, if_pos rfl] at d4
    rw [Acct, hL]; omega

theorem noRemount_cons (s : State) (op : Op) (rest : List Op) :
    noRemount s (op :: rest) = (noRemount s [op] && noRemount (step s op).1 rest) := by
  simp [noRemount]

theorem step_inv {s : State} (h : MInv s) (op : Op) :
    MInv (step s op).1 ∧ (noRemount s [op] = true → Acct s (step s op).1) := by
  have same : ∀ s' : State, Inv s'.ll none → s'.layer = s.layer → s'.ll.lc.core.toks = s.ll.lc.core.toks →
      MInv s' ∧ (noRemount s [op] = true → Acct s s') :=
    fun s' hinv hL hT =>
      ⟨h.sub hinv (hL ▸ List.Sublist.refl _) (fun _ _ => by rw [hT]), fun _ => by rw [Acct, hL, hT]⟩
  cases op with
  | mount mp i =>
    obtain ⟨a, c⟩ := mount_step h mp i
    exact ⟨a, fun hnr => c (by simpa [noRemount] using hnr)⟩
  | mountNoSrc mp => exact same s h.ll rfl rfl
  | check mp p r => exact same s h.ll rfl rfl
  | unmount mp =>
    obtain ⟨a, b⟩ := unmount_step h mp
    exact ⟨a, fun _ => b⟩
  | unmountEmpty => exact same s h.ll rfl rfl
  | expireL n =>
    exact same (step s (.expireL n)).1 (h.ll.step (.expireL n)) rfl
      (by show (lcEvict s.ll n).lc.core.toks = _; rw [lcEvict_lc, TTL.evictLocked_toks])
  | expireB n =>
    exact same (step s (.expireB n)).1 (h.ll.step (.expireB n)) rfl
      (by show (bcEvict s.ll n).lc.core.toks = _; rw [(bcEvict_side s.ll n).lc])

theorem step_reaches (s : State) (op : Op) (h : MInv s) : Reaches s.ll (step s op).1.ll := by
  cases op with
  | mount mp i => obtain ⟨_, _, hR, _⟩ := mount_spec s mp i h; exact hR
  | mountNoSrc mp => exact Reaches.refl _
  | check mp p r => exact Reaches.refl _
  | unmount mp =>
    show Reaches s.ll (unmount s mp).1.ll
    cases hm : lookup mp s.layer with
    | none => rw [unmount_none s mp hm]; exact Reaches.refl _
    | some tok => rw [(unmount_spec s mp tok hm).2.1]; exact Reaches.step _ _
  | unmountEmpty => exact Reaches.refl _
  | expireL n => exact Reaches.step s.ll (.expireL n)
  | expireB n => exact Reaches.step s.ll (.expireB n)

theorem MInv.runFrom (ops : List Op) {s : State} (h : MInv s) : MInv (runFrom s ops) :=
  List.foldlRecOn ops _ h fun _ h o _ => (step_inv h o).1

theorem MInv.run (ops : List Op) : MInv (run ops) := MInv.runFrom ops MInv.init

theorem reaches_runFrom (ops : List Op) {s : State} (h : MInv s) : Reaches s.ll (runFrom s ops).ll :=
  (List.foldlRecOn (motive := fun s' => MInv s' ∧ Reaches s.ll s'.ll) ops _ ⟨h, Reaches.refl _⟩
    fun s' hs o _ => ⟨(step_inv hs.1 o).1, hs.2.trans (step_reaches s' o hs.1)⟩).2

theorem acct_runFrom : ∀ (ops : List Op) {s : State}, MInv s → noRemount s ops = true → Acct s (runFrom s ops)
  | [], _, _, _ => rfl
  | o :: ops, s, h, hnr => by
    rw [noRemount_cons, Bool.and_eq_true] at hnr
    exact ((step_inv h o).2 hnr.1).trans (acct_runFrom ops (step_inv h o).1 hnr.2)

end SV.FsMount
