/-
The simulation of `SV.Toc.memTree` and `SV.Toc.dbTree` on `SpecConformingR` (namespace `SV.Toc.R`).  A directory
may be announced more than once: the memory store keeps the LAST entry of a name as the node, the db store the
node it made for the FIRST, so the trees agree up to a renaming of keys (`canon`); the view contains no keys.
Three inductions over the TOC meet here: `run_sim` (`Inv`) and `kidsLast_run` in `final_states`, `cinv` (through
`file_agree`) in `node_agree`; then `trees_agree` and `views_agree`.
-/
import SV.Lemmas.TocView
import SV.Lemmas.TocRun
import SV.Lemmas.TocKidsLast
import SV.Lemmas.TocChunks

namespace SV.Toc.R

theorem getKid_nil (b : String) : getKid b [] = none := rfl

structure FinalStates (es : List Entry) (smF : MState) (sdF : DState) : Prop
    extends Ran es 0 { nl := initNl (pass1 es) } dInit smF sdF where
  root : [] ∈ smF.imps
  kidsLast : KidsLast (pass1 es) es.length smF

theorem final_states {es : List Entry} (sc : SpecConformingR es) : ∃ smF sdF, FinalStates es smF sdF := by
  have ok := spec_treeOK sc
  obtain ⟨smF, sdF, r⟩ := run_sim sc es.length 0 { nl := initNl (pass1 es) } dInit (Nat.zero_add _)
    ⟨init_inv _, rfl, fun ⟨j, _, hj, _⟩ => by omega, fun _ h => by cases h⟩
  have hmk : KidsLast (pass1 es) es.length smF := by
    have := kidsLast_run ok (pass1 es).length 0 _ smF (Nat.zero_add _) (kidsLast_init _) r.mem
    rw [pass1_length] at this; exact this
  have inv := r.inv
  refine ⟨smF, sdF, { r with root := ?_, kidsLast := hmk }⟩
  -- some entry has been linked below the root, so the root directory exists
  obtain ⟨i, hi, hci⟩ := sc.nonEmpty
  have hil : i < (pass1 es).length := by rw [pass1_length]; exact hi
  have hm : (pass1 es)[i]? = some (pass1 es)[i] := List.getElem?_eq_getElem hil
  obtain ⟨_, hee⟩ := pass1_entry hm
  have hc : ((pass1 es)[i]).e.type ≠ "chunk" := by rw [← hee]; exact hci
  have hnc : NonChunkAt (pass1 es) i ((pass1 es)[i]).path := ⟨_, hm, hc, rfl⟩
  have hne : ((pass1 es)[i]).path ≠ [] := fun e => ok.noRoot i (e ▸ hnc)
  obtain ⟨f, hf, hfi⟩ := firstIdx_le hnc
  have hw := inv.walk_nil ((pass1 es)[i]).path
  have hlook : look (pass1 es) es.length smF.imps ((pass1 es)[i]).path = some (resolveKey (pass1 es) f) := by
    rw [look_of_first hne hf, if_pos (by omega)]
  rw [hlook] at hw
  apply inv.rootImp
  intro hnil
  have hk := inv.kids .root trivial
  rw [hnil] at hk
  have hk' : sdF.kids .root = [] := hk
  cases hp : ((pass1 es)[i]).path with
  | nil => exact hne hp
  | cons b rest =>
    rw [hp] at hw
    simp only [walkKids, hk', getKid_nil] at hw
    cases hw

theorem mLookupResolved_ent {ms : List MEnt} (s : MState) {j : Nat} {m : MEnt}
    (hm : ms[j]? = some m) (hl : lastIdx ms m.path = some j) (hh : m.e.type ≠ "hardlink") :
    mLookupResolved ms s m.path = some (.ent j) := by
  unfold mLookupResolved mLookup
  rw [hl]
  exact mGetSource_nonhardlink ms s _ 0 _ (by rw [keyType_ent hm]; exact hh)

theorem pendOwn_end {ms : List MEnt} {n : Nat} (hn : ms.length ≤ n) (k : Key)
    (hk : ∀ f, k = .ent f → f < n) : pendOwn ms n k = 0 := by
  cases k with
  | root => rfl
  | imp p => rfl
  | ent f =>
    have hf := hk f rfl
    have hL : ∀ L, lastOf ms (.ent f) = .ent L → ¬ n ≤ L := by
      intro L hL
      cases hm : ms[f]? with
      | none => simp only [lastOf, hm, Key.ent.injEq] at hL; omega
      | some m =>
        by_cases hd : m.e.type = "dir"
        · obtain ⟨L', hL', _⟩ := dir_last hm hd
          rw [lastOf_of_dir hm hd hL'] at hL; cases hL
          obtain ⟨mL, hmL, _⟩ := lastIdx_nonChunk hL'
          have := (List.getElem?_eq_some_iff.mp hmL).1
          omega
        · rw [lastOf_of_nondir hm hd] at hL; cases hL; omega
    simp only [pendOwn]
    split
    · rename_i L h; rw [if_neg (hL L h)]
    · rfl

theorem node_agree {es : List Entry} (sc : SpecConformingR es) {smF : MState} {sdF : DState}
    (inv : Inv (pass1 es) es.length smF sdF [] (fun _ => 0))
    (hcp : cproj sdF = cRun (pass1 es) es es.length) (hroot : [] ∈ smF.imps)
    (k : Key) (hk : Created (pass1 es) es.length smF.imps k) :
    NodeAgree (canon (pass1 es)) (memNode (pass1 es) smF (lastOf (pass1 es) k)) (dbNode sdF k) := by
  have ok := spec_treeOK sc
  obtain ⟨b, hb, hbe, hbn⟩ := inv.node k hk
  have hnl : readNumLink b = smF.nl (lastOf (pass1 es) k) := by
    rw [hbn, pendOwn_end (by rw [pass1_length]; exact Nat.le_refl _) k (by
      intro f e; rw [e] at hk; exact hk.1)]
    unfold nlEff; simp [hroot]
  have hchunks : sdF.chunks = (cRun (pass1 es) es es.length).chunks := congrArg CState.chunks hcp
  have hcinv := cinv sc es.length (Nat.le_refl _)
  have herr2 : ((sdF.kids k).any fun kv => (sdF.nodes kv.2).isNone) = false := by
    rw [List.any_eq_false]
    intro kv hkv
    obtain ⟨b', hb', _, _⟩ := inv.node kv.2 (inv.kidsCreated k kv hkv)
    simp [hb']
  have hdb : dbNode sdF k =
      { attr := readAttr b,
        offset := ((readChunks (sdF.chunks k) (readAttr b).size).head?.map (·.offset)).getD 0,
        openOk := fmIsRegular (readAttr b).mode,
        chunks := .table (readChunks (sdF.chunks k) (readAttr b).size),
        kids := sdF.kids k,
        kidsErr := (sdF.kids k).any fun kv => (sdF.nodes kv.2).isNone } := by
    unfold dbNode; rw [hb]
  have hkids : sdF.kids k = (smF.kids (lastOf (pass1 es) k)).map (mapKV (canon (pass1 es))) := by
    obtain ⟨h1, h2⟩ := canon_lastOf ok hk
    by_cases hdir : IsDirKey (pass1 es) k
    · have := inv.kids _ (h2.mpr hdir)
      rw [h1] at this
      exact this
    · rw [inv.noKids k (fun h => hdir h.2), inv.memNoKids _ (fun h => hdir (h2.mp h))]; rfl
  -- the root and the implicit directories: the memory store makes up a directory entry
  have himpl : (∀ f, k ≠ .ent f) → memChunkTab (pass1 es) smF k = .none →
      NodeAgree (canon (pass1 es)) (memNode (pass1 es) smF (lastOf (pass1 es) k)) (dbNode sdF k) := by
    intro hne hmtab
    have hself : lastOf (pass1 es) k = k := by
      cases k with
      | ent f => exact absurd rfl (hne f)
      | _ => rfl
    have ha0 : attr0 (pass1 es) k = rootAttr := by
      cases k with
      | ent f => exact absurd rfl (hne f)
      | _ => rfl
    have hmem : memNode (pass1 es) smF k =
        { attr := { mode := goFileMode "dir" 0o755, numLink := smF.nl k },
          chunks := memChunkTab (pass1 es) smF k, kids := smF.kids k } := by
      cases k with
      | ent f => exact absurd rfl (hne f)
      | _ => rfl
    rw [hself] at hnl hkids ⊢
    rw [ha0] at hbe
    obtain ⟨hattr, hmode, hsize⟩ := attr_agree b rootAttr (smF.nl k) hbe hnl (by decide) (by simp [rootAttr])
    have hch : sdF.chunks k = [] := by
      rw [hchunks]; exact hcinv.others k (fun r mr _ _ e => hne r e)
    rw [hdb, hmem, hch, readChunks_nil, hmtab]
    refine { ok1 := rfl, ok2 := rfl, err1 := rfl, err2 := herr2, kids := hkids, offset := rfl,
             attr := ?attr, mode := ?mode, size := ?size, openOk := ?openOk, lookup := ?lookup }
    case attr => rw [hattr]; rfl
    case mode => rw [hmode]; show goFileMode "dir" 0o755 = rootAttr.mode; decide
    case size => rw [hsize]; rfl
    case openOk =>
      show false = fmIsRegular (readAttr b).mode
      rw [hmode]; decide
    case lookup => intro x _; simp [ChunkTab.lookup, searchChunk]
  cases k with
  | ent f =>
    obtain ⟨hj, mf, hmf, hcf, hhf, hff⟩ := hk
    obtain ⟨j, m, hj⟩ := mem_entry ok hmf hcf
    have hm := hj.get
    have hc : m.e.type ≠ "chunk" := by rw [hj.type]; exact hcf
    have hh : m.e.type ≠ "hardlink" := by rw [hj.type]; exact hhf
    rw [hj.key] at hnl hkids ⊢
    obtain ⟨hjl, hee⟩ := pass1_entry hm
    have hx : (m.e.xattrs.map Prod.fst).Nodup := by rw [← hee]; exact sc.xattrs j hjl
    have ha0 : attr0 (pass1 es) (.ent f) = attrOfEntry m.e (if m.e.type = "dir" then 2 else 1) := by
      have : attr0 (pass1 es) (.ent f) = attrOfEntry mf.e (if mf.e.type = "dir" then 2 else 1) := by
        simp [attr0, hmf]
      rw [this, hj.type, attrOfEntry_nl mf.e, attrOfEntry_nl m.e, hj.attr]
    obtain ⟨hattr, hmode, hsize⟩ := attr_agree b (attr0 (pass1 es) (.ent f)) (smF.nl (.ent j)) hbe hnl
      (attr0_mode_lt _ _) (by rw [ha0]; exact hx)
    have hres := mLookupResolved_ent smF hm hj.last hh
    have hmt : memChunkTab (pass1 es) smF (.ent j) =
        if m.e.isData then
          (if (memChunkIdxs (pass1 es) m.path).length < 2 then
            ChunkTab.single m.e.chunkOffset m.chunkSize (memDigest m.e)
           else ChunkTab.table (memRows (pass1 es) (memChunkIdxs (pass1 es) m.path)))
        else ChunkTab.none := by
      unfold memChunkTab
      simp only [keyPath, hm, Option.map_some, Option.getD_some, hres]
    have hmem : memNode (pass1 es) smF (.ent j) =
        { attr := attrOfEntry m.e (smF.nl (.ent j)), offset := m.e.offset,
          openOk := decide (m.e.type = "reg"), chunks := memChunkTab (pass1 es) smF (.ent j),
          kids := smF.kids (.ent j) } := by
      simp only [memNode, hm, hres, keyType_ent hm]
    rw [hmem]
    rw [hdb]
    have hsz' : (readAttr b).size = m.e.size := by rw [hsize, ha0]; rfl
    have hmd' : (readAttr b).mode = goFileMode m.e.type m.e.mode := by rw [hmode, ha0]; rfl
    have hty : m.e.type ∈ validTypes := by rw [← hee]; exact sc.types j hjl
    have hothers : m.e.type ≠ "reg" → (cRun (pass1 es) es es.length).chunks (.ent f) = [] := by
      intro hreg
      exact hcinv.others (.ent f) (by
        intro r mr hmr hregr e; cases e; rw [hmf] at hmr; cases hmr; rw [hj.type] at hreg; exact hreg hregr)
    -- a regular file is announced once: its memory entry is the one the db store made the node for
    have hjf : m.e.type = "reg" → j = f := fun hreg => hj.self (by rw [← hj.type, hreg]; decide)
    refine { ok1 := rfl, ok2 := rfl, err1 := rfl, err2 := herr2, kids := hkids, attr := ?attr, mode := ?mode,
             size := ?size, offset := ?offset, openOk := ?openOk, lookup := ?lookup }
    case attr => show _ = normalise (readAttr b); rw [hattr, ha0]; rfl
    case mode => show _ = (readAttr b).mode; rw [hmd']; rfl
    case size => show _ = (readAttr b).size; rw [hsz']; rfl
    case offset =>
      show m.e.offset = _
      rw [hsz', hchunks]
      by_cases hreg : m.e.type = "reg"
      · cases hjf hreg
        exact (file_agree sc hm hreg).2.symm
      · rw [hothers hreg, readChunks_nil]
        have : m.e.offset = 0 := by rw [← hee]; exact sc.noOffset j hjl (by rw [hee]; exact hreg) (by rw [hee]; exact hc)
        simp [this]
    case openOk =>
      show decide (m.e.type = "reg") = fmIsRegular (readAttr b).mode
      rw [hmd', fmIsRegular_go]
      rcases validTypes_cases hty hc hh with h | h | h | h | h | h <;> rw [h] <;> decide
    case lookup =>
      intro x hx0
      show (memChunkTab (pass1 es) smF (.ent j)).lookup x = _
      rw [hmt, hsz', hchunks]
      by_cases hreg : m.e.type = "reg"
      · have hd : m.e.isData = true := by simp [Entry.isData, hreg]
        rw [hd]
        cases hjf hreg
        exact (file_agree sc hm hreg).1 x hx0
      · have hd : m.e.isData = false := by simp [Entry.isData, hreg, hc]
        rw [hd, hothers hreg, readChunks_nil]
        simp [ChunkTab.lookup, searchChunk]
  | root =>
    refine himpl (fun f e => by cases e) ?_
    simp only [memChunkTab, keyPath, mLookupResolved_imp _ smF ((lastIdx_eq_none_iff _ []).mpr ok.noRoot) hroot,
      impKey, ↓reduceIte]
  | imp p =>
    refine himpl (fun f e => by cases e) ?_
    simp only [memChunkTab, keyPath, mLookupResolved_imp _ smF (inv.impsNone p hk.1) hk.1, impKey, hk.2, ↓reduceIte]

theorem memNode_kids_or_nil (ms : List MEnt) (s : MState) (k : Key) :
    (memNode ms s k).kids = s.kids k ∨ (memNode ms s k).kids = [] := by
  cases k with
  | root => exact Or.inl rfl
  | imp p => exact Or.inl rfl
  | ent j =>
    simp only [memNode]
    split
    · exact Or.inl rfl
    · exact Or.inr rfl

/-- what both interpreters build from the TOC: `mt`, `dt` the memory and the db tree; `walk` and `impsAnc` are for C02's
bridge (the memory tree resolves names likewise, by `walk_agree`) -/
structure BothTrees (es : List Entry) (smF : MState) (sdF : DState) : Prop where
  mem : memTree es = .accept { root := .root, node := memNode (pass1 es) smF }
  db : dbTree es = .accept { root := .root, node := dbNode sdF }
  agree : TreesAgree (canon (pass1 es)) { root := .root, node := memNode (pass1 es) smF }
    { root := .root, node := dbNode sdF } (MemKey (pass1 es) es.length smF.imps)
  walk : ∀ p, walkKids (fun k => (dbNode sdF k).kids) .root p = look (pass1 es) es.length smF.imps p
  impsAnc : ∀ d ∈ smF.imps, d = [] ∨ IsAncestor (pass1 es) d

theorem trees_agree {es : List Entry} (sc : SpecConformingR es) : ∃ smF sdF, BothTrees es smF sdF := by
  obtain ⟨smF, sdF, fs⟩ := final_states sc
  have inv := fs.inv
  have ok := spec_treeOK sc
  have hl : lastIdx (pass1 es) [] = none := (lastIdx_eq_none_iff _ []).mpr ok.noRoot
  have hsrc : ∀ org, org ∈ smF.hlSources → smF.kids org = [] := by
    intro org horg
    apply inv.memNoKids
    intro hlive
    apply (fs.hl org horg).2
    cases org with
    | root => trivial
    | imp p => trivial
    | ent j => obtain ⟨m, hm, hd, _⟩ := hlive; exact ⟨m, hm, hd⟩
  refine ⟨smF, sdF, memTree_accept fs.mem fs.root hl hsrc, dbTree_accept fs.db, ⟨rfl, ⟨.root, trivial, rfl⟩, ?_, ?_, ?_⟩, ?_, inv.impsAnc⟩
  · rintro km ⟨kd, hkd, e⟩
    subst e
    show NodeAgree _ (memNode (pass1 es) smF (lastOf (pass1 es) kd)) (dbNode sdF (canon (pass1 es) (lastOf (pass1 es) kd)))
    rw [(canon_lastOf ok hkd).1]
    exact node_agree sc inv fs.chunks fs.root kd hkd
  · rintro km ⟨kd, hkd, e⟩ kv hkv
    simp only at hkv
    rcases memNode_kids_or_nil (pass1 es) smF km with h | h
    · rw [h] at hkv
      have hlive : MLiveDir (pass1 es) km := by
        apply Classical.byContradiction
        intro hn
        rw [inv.memNoKids km hn] at hkv
        cases hkv
      have hk := inv.kids km hlive
      have hmem : mapKV (canon (pass1 es)) kv ∈ sdF.kids (canon (pass1 es) km) := by
        rw [hk]; exact List.mem_map.mpr ⟨kv, hkv, rfl⟩
      have hcr := inv.kidsCreated _ _ hmem
      have mk' : KidsLast (pass1 es) (pass1 es).length smF := by rw [pass1_length]; exact fs.kidsLast
      exact ⟨canon (pass1 es) kv.2, hcr, kid_is_last ok mk' hkv⟩
    · rw [h] at hkv; cases hkv
  · rintro a b ⟨ka, hka, ea⟩ ⟨kb, hkb, eb⟩ hab
    rw [ea, eb, (canon_lastOf ok hka).1, (canon_lastOf ok hkb).1] at hab
    rw [ea, eb, hab]
  · -- every node a walk passes exists, so the walk sees the children maps themselves
    intro p
    rw [← inv.walk_nil p]
    have hw : ∀ (p : Path) (k : Key), Created (pass1 es) es.length smF.imps k →
        walkKids (fun k => (dbNode sdF k).kids) k p = walkKids sdF.kids k p := by
      intro p
      induction p with
      | nil => intro k _; rfl
      | cons b rest ih =>
        intro k hk
        obtain ⟨bk, hbk, _⟩ := inv.node k hk
        have hkids : (dbNode sdF k).kids = sdF.kids k := by simp only [dbNode, hbk]
        simp only [walkKids, hkids]
        cases hg : getKid b (sdF.kids k) with
        | none => rfl
        | some c => exact ih c (inv.kidsCreated k (b, c) (mem_of_getKid hg))
    exact hw p .root trivial

theorem views_agree {es : List Entry} (sc : SpecConformingR es) :
    ∃ tm td, memTree es = .accept tm ∧ dbTree es = .accept td ∧ view tm = view td := by
  obtain ⟨smF, sdF, t⟩ := trees_agree sc
  exact ⟨_, _, t.mem, t.db, view_agree t.agree⟩

end SV.Toc.R
