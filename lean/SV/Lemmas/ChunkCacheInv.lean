/-
The invariant of the directory-cache model (C11).  The steps are made of three elementary changes -
appending to a table, replacing one entry, an LRU operation followed by its `OnEvicted` callback - and
each component of the invariant is carried through those, not through the steps.
`Owns` is what `BufInv`/`FileInv` share; `Keeps` (`PubKept` for published inodes) and the orders `RcsLe`, `CmLe` are
what the frame lemmas `WrOk.frame`, `RdOk.frame`, `CommInv.frame` are stated with.
-/
import SV.Lemmas.ChunkCacheLRU

namespace SV.ChunkCache

def Reader.holdsMem (i : Nat) (r : Reader) : Bool :=
  match r.phase, r.src with
  | .opened, .mem _ rc => rc == i
  | _, _ => false

/-- writer `w` (its `commit` function, possibly in a background goroutine) holds a closure of `i`. -/
def Writer.holdsMem (i : Nat) (w : Writer) : Bool :=
  match w.phase with
  | .published rc => rc == i
  | .written rc => rc == i
  | .finishing rc => rc == i
  | _ => false

def Reader.holdsFd (i : Nat) (r : Reader) : Bool :=
  match r.phase, r.src with
  | .opened, .fdc _ rc => rc == i
  | .closing rc, _ => rc == i
  | _, _ => false

/-- This and `fdHolders` are the `h` of `LRU.Inv` in `Inv`. -/
def memHolders (rs : List Reader) (ws : List Writer) (i : Nat) : Nat :=
  rs.countP (Reader.holdsMem i) + ws.countP (Writer.holdsMem i)

def fdHolders (rs : List Reader) (i : Nat) : Nat := rs.countP (Reader.holdsFd i)

theorem countP_set_get {α : Type} {p : α → Bool} {l : List α} {i : Nat} {x y : α} (h : l[i]? = some x) :
    (l.set i y).countP p + (if p x then 1 else 0) = l.countP p + (if p y then 1 else 0) := by
  obtain ⟨hlt, rfl⟩ := List.getElem?_eq_some_iff.mp h
  have hpos : (if p l[i] = true then 1 else 0) ≤ l.countP p := by
    split
    · exact List.countP_pos_iff.mpr ⟨_, List.getElem_mem hlt, ‹_›⟩
    · exact Nat.zero_le _
  rw [List.countP_set hlt]; omega

theorem countP_pos_of_get {α : Type} {p : α → Bool} {l : List α} {i : Nat} {x : α} (h : l[i]? = some x)
    (hp : p x = true) : 1 ≤ l.countP p := by
  have hm : x ∈ l := List.mem_of_getElem? h
  exact List.countP_pos_iff.mpr ⟨x, hm, hp⟩

theorem countP_eq_zero_of {α : Type} {p : α → Bool} {l : List α}
    (h : ∀ (i : Nat) (x : α), l[i]? = some x → p x = false) : l.countP p = 0 := by
  rw [List.countP_eq_zero]
  intro a ha
  obtain ⟨i, hi⟩ := List.getElem?_of_mem ha
  simp [h i a hi]

/-- What `BufInv` and `FileInv` are instances of: every live refCounter `i` finds its value among the objects,
tagged as its own (`own x i`) and fit for its key (`Q r.key x`). -/
def Owns {α : Type} (rcs : List RC) (objs : List α) (own : α → Nat → Prop) (Q : Nat → α → Prop) : Prop :=
  ∀ (i : Nat) (r : RC), rcs[i]? = some r → r.alive → ∃ x : α, objs[r.val]? = some x ∧ own x i ∧ Q r.key x

def BufInv (rcs : List RC) (bufs : List Buf) (cm : Nat → List Bytes) : Prop :=
  ∀ (i : Nat) (r : RC), rcs[i]? = some r → r.alive →
    ∃ bf : Buf, bufs[r.val]? = some bf ∧ bf.owner = .cached i ∧ bf.data ∈ cm r.key

def FileInv (rcs : List RC) (files : List FileObj) : Prop :=
  ∀ (i : Nat) (r : RC), rcs[i]? = some r → r.alive →
    ∃ fo : FileObj, files[r.val]? = some fo ∧ fo.owner = .cached i ∧ fo.closed = false ∧ fo.key = r.key

theorem BufInv.owns {rcs : List RC} {bufs : List Buf} {cm : Nat → List Bytes} (h : BufInv rcs bufs cm) :
    Owns rcs bufs (fun bf i => bf.owner = .cached i) (fun k bf => bf.data ∈ cm k) := h

theorem FileInv.owns {rcs : List RC} {files : List FileObj} (h : FileInv rcs files) :
    Owns rcs files (fun fo i => fo.owner = .cached i) (fun k fo => fo.closed = false ∧ fo.key = k) := h

def FileIno (files : List FileObj) (inodes : List Inode) : Prop :=
  ∀ (f : Nat) (fo : FileObj), files[f]? = some fo →
    ∃ ino : Inode, inodes[fo.inode]? = some ino ∧ ino.st = .pub fo.key

def InoComm (inodes : List Inode) (cm : Nat → List Bytes) : Prop :=
  ∀ (i : Nat) (ino : Inode) (k : Nat), inodes[i]? = some ino → ino.st = .pub k → ino.data ∈ cm k

/-- `cachePath(k)` names an inode published under `k`. -/
def DiskIno (disk : Nat → Option Nat) (inodes : List Inode) : Prop :=
  ∀ (k i : Nat), disk k = some i → ∃ ino : Inode, inodes[i]? = some ino ∧ ino.st = .pub k

def WipOk (inodes : List Inode) (w : Nat) (wr : Writer) (P : Bytes → Prop) : Prop :=
  ∃ ino : Inode, inodes[wr.wip]? = some ino ∧ ino.st = .wip w ∧ P ino.data

/-- What writer `w` relies on, by phase. -/
def WrOk (bufs : List Buf) (inodes : List Inode) (rcs : List RC) (cm : Nat → List Bytes)
    (w : Nat) (wr : Writer) : Prop :=
  match wr.phase with
  | .opened =>
    if wr.direct then WipOk inodes w wr (· = wr.written)
    else (∃ bf : Buf, bufs[wr.buf]? = some bf ∧ bf.owner = .writer w ∧ bf.data = wr.written) ∧
      WipOk inodes w wr (· = [])
  | .published rc =>
    wr.direct = false ∧ (∃ r : RC, rcs[rc]? = some r ∧ r.key = wr.key) ∧ WipOk inodes w wr (· = [])
  | .written rc =>
    (∃ r : RC, rcs[rc]? = some r ∧ r.key = wr.key) ∧ WipOk inodes w wr (· ∈ cm wr.key)
  | .finishing rc => ∃ r : RC, rcs[rc]? = some r
  | .committed => True
  | .aborted => WipOk inodes w wr (fun _ => True)

def WrInv (ws : List Writer) (bufs : List Buf) (inodes : List Inode) (rcs : List RC)
    (cm : Nat → List Bytes) : Prop :=
  ∀ (w : Nat) (wr : Writer), ws[w]? = some wr → WrOk bufs inodes rcs cm w wr

/-- What reader `r` relies on. -/
def RdOk (mrcs frcs : List RC) (files : List FileObj) (r : Nat) (rd : Reader) : Prop :=
  match rd.phase with
  | .opened =>
    match rd.src with
    | .mem b rc => ∃ x : RC, mrcs[rc]? = some x ∧ x.val = b ∧ x.key = rd.key
    | .fdc f rc => ∃ x : RC, frcs[rc]? = some x ∧ x.val = f ∧ x.key = rd.key
    | .own f _ => ∃ fo : FileObj, files[f]? = some fo ∧ fo.owner = .reader r ∧ fo.closed = false ∧ fo.key = rd.key
  | .closing rc => ∃ x : RC, frcs[rc]? = some x
  | .closed => True

def RdInv (rs : List Reader) (mrcs frcs : List RC) (files : List FileObj) : Prop :=
  ∀ (r : Nat) (rd : Reader), rs[r]? = some rd → RdOk mrcs frcs files r rd

/-- Every committed value was written by a writer of that key that called `Commit` (ghost ↔ ghost). -/
def CommInv (cm : Nat → List Bytes) (ws : List Writer) : Prop :=
  ∀ (k : Nat) (v : Bytes), v ∈ cm k →
    ∃ (w : Nat) (wr : Writer), ws[w]? = some wr ∧ wr.key = k ∧ wr.written = v ∧
      wr.phase ≠ .opened ∧ wr.phase ≠ .aborted

/-- A buffer in the pool has been `Reset`. -/
def PoolInv (bufs : List Buf) : Prop :=
  ∀ (b : Nat) (bf : Buf), bufs[b]? = some bf → bf.owner = .pooled → bf.data = []

structure Inv (s : State) : Prop where
  pool : PoolInv s.bufs
  mem : s.mem.Inv (memHolders s.readers s.writers)
  fd : s.fd.Inv (fdHolders s.readers)
  buf : BufInv s.mem.rcs s.bufs s.committed
  file : FileInv s.fd.rcs s.files
  fileIno : FileIno s.files s.inodes
  inoComm : InoComm s.inodes s.committed
  diskIno : DiskIno s.disk s.inodes
  wr : WrInv s.writers s.bufs s.inodes s.mem.rcs s.committed
  rd : RdInv s.readers s.mem.rcs s.fd.rcs s.files
  comm : CommInv s.committed s.writers

def CmLe (cm cm' : Nat → List Bytes) : Prop := ∀ k v, v ∈ cm k → v ∈ cm' k

theorem CmLe.refl (cm : Nat → List Bytes) : CmLe cm cm := fun _ _ h => h

theorem CmLe.add (cm : Nat → List Bytes) (k : Nat) (v : Bytes) : CmLe cm (addCommitted cm k v) := by
  intro k' v' h
  unfold addCommitted
  split
  · exact List.mem_append_left _ h
  · exact h

theorem mem_addCommitted (cm : Nat → List Bytes) (k : Nat) (v : Bytes) : v ∈ addCommitted cm k v k := by
  simp [addCommitted]

theorem PoolInv.append {bufs : List Buf} (h : PoolInv bufs) {x : Buf} (hx : x.owner = .pooled → x.data = []) :
    PoolInv (bufs ++ [x]) := by
  intro b bf hb ho
  rw [append_some_iff] at hb
  rcases hb with hb | ⟨_, rfl⟩
  · exact h b bf hb ho
  · exact hx ho

theorem PoolInv.set {bufs : List Buf} (h : PoolInv bufs) (b : Nat) {x : Buf} (hx : x.owner = .pooled → x.data = []) :
    PoolInv (bufs.set b x) := by
  intro b' bf hb ho
  rw [set_some_iff] at hb
  rcases hb with ⟨_, _, rfl⟩ | ⟨_, hb⟩
  · exact hx ho
  · exact h b' bf hb ho

theorem PoolInv.evict {bufs : List Buf} (h : PoolInv bufs) (f : Option Nat) : PoolInv (evictBuf bufs f) := by
  cases f with
  | none => exact h
  | some v => exact h.set v (fun _ => rfl)

/-- `l'` still has every element of `l` that satisfies `Q`, at its place: what a step leaves alone. -/
def Keeps {α : Type} (l l' : List α) (Q : α → Prop) : Prop :=
  ∀ (i : Nat) (x : α), l[i]? = some x → Q x → l'[i]? = some x

theorem Keeps.refl {α : Type} {l : List α} {Q : α → Prop} : Keeps l l Q := fun _ _ h _ => h

theorem Keeps.append {α : Type} {l : List α} {y : α} {Q : α → Prop} : Keeps l (l ++ [y]) Q :=
  fun _ _ h _ => append_get_old h

theorem Keeps.trans {α : Type} {l1 l2 l3 : List α} {Q : α → Prop} (h12 : Keeps l1 l2 Q) (h23 : Keeps l2 l3 Q) :
    Keeps l1 l3 Q :=
  fun i x h1 h2 => h23 i x (h12 i x h1 h2) h2

theorem Keeps.mono {α : Type} {l l' : List α} {Q Q' : α → Prop} (h : Keeps l l' Q) (hq : ∀ x, Q' x → Q x) :
    Keeps l l' Q' :=
  fun i x h1 h2 => h i x h1 (hq x h2)

theorem Keeps.set {α : Type} {l : List α} {i0 : Nat} {x0 : α} (x : α) (h0 : l[i0]? = some x0) {Q : α → Prop}
    (hne : ¬ Q x0) : Keeps l (l.set i0 x) Q := by
  intro i y hi hq
  have : i ≠ i0 := by
    intro hc; subst hc
    rw [h0] at hi; cases hi
    exact hne hq
  rw [set_get_ne this]; exact hi

section Owns

variable {α : Type} {rcs : List RC} {l l' : LRU} {fired : Option Nat} {objs objs' : List α}
  {own : α → Nat → Prop} {Q : Nat → α → Prop}

theorem Owns.append (h : Owns rcs objs own Q) (y : α) : Owns rcs (objs ++ [y]) own Q := by
  intro i r hr ha
  obtain ⟨x, h1, h2⟩ := h i r hr ha
  exact ⟨x, append_get_old h1, h2⟩

theorem Owns.set_unowned (h : Owns rcs objs own Q) {b : Nat} {x0 : α} (hb : objs[b]? = some x0)
    (hn : ∀ i, ¬ own x0 i) (y : α) : Owns rcs (objs.set b y) own Q := by
  intro i r hr ha
  obtain ⟨x, h1, h2, h3⟩ := h i r hr ha
  exact ⟨x, Keeps.set y hb (Q := fun x => own x i) (hn i) _ x h1 h2, h2, h3⟩

/-- An LRU operation followed by its `OnEvicted` callback changes at most the object `fired`, the value of a counter
that just died: an object all of whose owners are alive afterwards (one that nobody owns, for instance) stays. -/
theorem Owns.eff_keeps (h : Owns l.rcs objs own Q) (he : l.Eff l' fired)
    (hev : ∀ b, fired ≠ some b → objs'[b]? = objs[b]?) :
    Keeps objs objs' (fun x => ∀ (j : Nat) (rj' : RC), own x j → l'.rcs[j]? = some rj' → rj'.alive) := by
  intro b x hb hn
  rw [hev _ ?_]; exact hb
  intro hf
  obtain ⟨j, rj, rj', hj, hj', hval, haj, hnj⟩ := he.fired_some _ hf
  obtain ⟨xj, g1, g2, _⟩ := h j rj hj haj
  rw [hval, hb] at g1; cases g1
  exact hnj (hn j rj' g2 hj')

/-- Tags are unambiguous, so the value of a counter that is still alive stays. -/
theorem Owns.eff (h : Owns l.rcs objs own Q) (he : l.Eff l' fired) (hinj : ∀ x i j, own x i → own x j → i = j)
    (hev : ∀ b, fired ≠ some b → objs'[b]? = objs[b]?)
    (hnew : ∀ (i : Nat) (r' : RC), l.rcs.length ≤ i → l'.rcs[i]? = some r' → r'.alive →
      ∃ x : α, objs[r'.val]? = some x ∧ own x i ∧ Q r'.key x) :
    Owns l'.rcs objs' own Q := by
  intro i r' hr' ha'
  have hold : ∃ x : α, objs[r'.val]? = some x ∧ own x i ∧ Q r'.key x := by
    by_cases hlt : i < l.rcs.length
    · obtain ⟨r2, h2, hk, hv, hal, _⟩ := he.old i l.rcs[i] (by simp [hlt])
      rw [hr'] at h2; cases h2
      rw [hk, hv]
      exact h i l.rcs[i] (by simp [hlt]) (hal ha')
    · exact hnew i r' (by omega) hr' ha'
  obtain ⟨x, h1, h2, h3⟩ := hold
  refine ⟨x, h.eff_keeps he hev _ x h1 (fun j rj' ho hj' => ?_), h2, h3⟩
  cases hinj x i j h2 ho
  rw [hr'] at hj'; cases hj'
  exact ha'

theorem no_new_of_len (hlen : l'.rcs.length = l.rcs.length) {P : Nat → RC → Prop} :
    ∀ (i : Nat) (r' : RC), l.rcs.length ≤ i → l'.rcs[i]? = some r' → r'.alive → P i r' := by
  intro i r' hle hr'
  have := lt_of_get_some hr'
  omega

theorem LRU.AddSpec.rc {k v i : Nat} {added : Bool} (h : l.AddSpec k v l' i added fired) :
    ∃ r' : RC, l'.rcs[i]? = some r' ∧ r'.key = k := by
  cases added with
  | true =>
    obtain ⟨_, _, _, ⟨r', hr', hk', _⟩, _⟩ := h.fresh rfl
    exact ⟨r', hr', hk'⟩
  | false =>
    obtain ⟨_, _, _, r0, r', _, hr', hk0, _, _, _, hk', _⟩ := h.existing rfl
    exact ⟨r', hr', hk'.trans hk0⟩

/-- `LRUCache.Add` of object `v`, which no refCounter owns.  If the key was new, `v` is re-tagged (`x1`) as the
new counter's and `OnEvicted` (`ev`) runs on the value evicted for capacity; otherwise the caller disposes of `v`
(`y`).  Either way the live counters own their values, and whatever is neither `v` nor a counter's is kept. -/
theorem Owns.add {k v id : Nat} {added : Bool} (h : Owns l.rcs objs own Q)
    (hspec : l.AddSpec k v l' id added fired) (hinj : ∀ x i j, own x i → own x j → i = j) {x0 : α}
    (hv : objs[v]? = some x0) (hn : ∀ i, ¬ own x0 i) {x1 : α} (h1 : own x1 id) (hq : Q k x1) (y : α)
    {ev : List α → List α} (hev : ∀ (o : List α) (b : Nat), fired ≠ some b → (ev o)[b]? = o[b]?) :
    Owns l'.rcs (if added then ev (objs.set v x1) else objs.set v y) own Q ∧
      ∀ P : α → Prop, ¬ P x0 → (∀ x, P x → ∀ i, ¬ own x i) →
        Keeps objs (if added then ev (objs.set v x1) else objs.set v y) P := by
  cases added with
  | true =>
    rw [if_pos rfl]
    have h1' : Owns l.rcs (objs.set v x1) own Q := h.set_unowned hv hn x1
    obtain ⟨_, hid, hlen, ⟨r', hr', hk', hv', _⟩, _⟩ := hspec.fresh rfl
    refine ⟨h1'.eff hspec.eff hinj (hev _) ?_,
      fun P hP hPn => (Keeps.set x1 hv hP).trans
        ((h1'.eff_keeps hspec.eff (hev _)).mono (fun x hp j _ ho => absurd ho (hPn x hp j)))⟩
    intro i ri hle hri _
    have hlt : i < l'.rcs.length := lt_of_get_some hri
    have : i = id := by omega
    subst this
    rw [hr'] at hri; cases hri
    exact ⟨x1, by rw [hv']; exact List.getElem?_set_self (lt_of_get_some hv), h1, by rw [hk']; exact hq⟩
  | false =>
    rw [if_neg Bool.false_ne_true]
    obtain ⟨rfl, hlen, _⟩ := hspec.existing rfl
    exact ⟨(h.eff hspec.eff hinj (fun _ _ => rfl) (no_new_of_len hlen)).set_unowned hv hn y,
      fun P hP _ => Keeps.set y hv hP⟩

end Owns

theorem evictBuf_get_ne {bufs : List Buf} {fired : Option Nat} (b : Nat) (hne : fired ≠ some b) :
    (evictBuf bufs fired)[b]? = bufs[b]? := by
  cases fired with
  | none => rfl
  | some v => exact set_get_ne (fun hc => hne (by rw [hc]))

theorem evictFile_get_ne {files : List FileObj} {fired : Option Nat} (f : Nat) (hne : fired ≠ some f) :
    (evictFile files fired)[f]? = files[f]? := by
  cases fired with
  | none => rfl
  | some v =>
    simp only [evictFile]
    split
    · exact set_get_ne (fun hc => hne (by rw [hc]))
    · rfl

theorem Buf.not_cached_of_writer {bf : Buf} {w : Nat} (h : bf.owner = .writer w) (i : Nat) : bf.owner ≠ .cached i :=
  fun hc => nomatch h.symm.trans hc

theorem FileObj.not_cached_of_reader {fo : FileObj} {r : Nat} (h : fo.owner = .reader r) (i : Nat) :
    fo.owner ≠ .cached i :=
  fun hc => nomatch h.symm.trans hc

theorem Keeps.set_own {α β : Type} {l : List α} {i0 : Nat} {x0 : α} (x : α) (h0 : l[i0]? = some x0) {tag : α → β}
    {t t' : β} (ht : tag x0 = t) (hne : t' ≠ t) : Keeps l (l.set i0 x) (fun y => tag y = t') :=
  Keeps.set x h0 (fun hc => hne (hc.symm.trans ht))

theorem Owner.cached_inj (bf : Buf) (i j : Nat) (h1 : bf.owner = .cached i) (h2 : bf.owner = .cached j) : i = j :=
  Owner.cached.inj (h1.symm.trans h2)

theorem FOwner.cached_inj (fo : FileObj) (i j : Nat) (h1 : fo.owner = .cached i) (h2 : fo.owner = .cached j) :
    i = j :=
  FOwner.cached.inj (h1.symm.trans h2)

theorem BufInv.mono {rcs : List RC} {bufs : List Buf} {cm cm' : Nat → List Bytes}
    (h : BufInv rcs bufs cm) (hle : CmLe cm cm') : BufInv rcs bufs cm' :=
  fun i r hr ha => (h i r hr ha).elim fun bf g => ⟨bf, g.1, g.2.1, hle _ _ g.2.2⟩

theorem BufInv.append {rcs : List RC} {bufs : List Buf} {cm : Nat → List Bytes}
    (h : BufInv rcs bufs cm) (x : Buf) : BufInv rcs (bufs ++ [x]) cm :=
  h.owns.append x

theorem FileInv.append {rcs : List RC} {files : List FileObj}
    (h : FileInv rcs files) (x : FileObj) : FileInv rcs (files ++ [x]) :=
  h.owns.append x

def PubKept (inodes inodes' : List Inode) : Prop := ∀ k, Keeps inodes inodes' (fun ino => ino.st = .pub k)

theorem PubKept.refl (inodes : List Inode) : PubKept inodes inodes := fun _ => Keeps.refl

theorem PubKept.append (inodes : List Inode) (x : Inode) : PubKept inodes (inodes ++ [x]) := fun _ => Keeps.append

theorem PubKept.trans {i1 i2 i3 : List Inode} (h12 : PubKept i1 i2) (h23 : PubKept i2 i3) : PubKept i1 i3 :=
  fun k => (h12 k).trans (h23 k)

theorem PubKept.set_wip {inodes : List Inode} {j w : Nat} {old : Inode} (hj : inodes[j]? = some old)
    (hw : old.st = .wip w) (x : Inode) : PubKept inodes (inodes.set j x) :=
  fun _ => Keeps.set_own x hj hw nofun

/-- `evictFile` and every other change to a file object keeps `key` and `inode`. -/
theorem FileIno.of_same {files files' : List FileObj} {inodes inodes' : List Inode}
    (h : FileIno files inodes)
    (hf : ∀ (f : Nat) (fo' : FileObj), files'[f]? = some fo' →
      (∃ fo : FileObj, files[f]? = some fo ∧ fo.key = fo'.key ∧ fo.inode = fo'.inode) ∨
      (∃ ino : Inode, inodes'[fo'.inode]? = some ino ∧ ino.st = .pub fo'.key))
    (hi : PubKept inodes inodes') : FileIno files' inodes' := by
  intro f fo' hfo'
  rcases hf f fo' hfo' with ⟨fo, h1, h2, h3⟩ | h
  · obtain ⟨ino, g1, g2⟩ := h f fo h1
    rw [← h2, ← h3]
    exact ⟨ino, hi _ _ ino g1 g2, g2⟩
  · exact h

theorem FileIno.inodes {files : List FileObj} {inodes inodes' : List Inode} (h : FileIno files inodes)
    (hi : PubKept inodes inodes') : FileIno files inodes' :=
  h.of_same (fun _ fo h => Or.inl ⟨fo, h, rfl, rfl⟩) hi

theorem evictFile_same {files : List FileObj} {fired : Option Nat} (f : Nat) (fo' : FileObj)
    (h : (evictFile files fired)[f]? = some fo') :
    ∃ fo : FileObj, files[f]? = some fo ∧ fo.key = fo'.key ∧ fo.inode = fo'.inode := by
  cases fired with
  | none => exact ⟨fo', h, rfl, rfl⟩
  | some v =>
    simp only [evictFile] at h
    split at h
    · rename_i fo hv
      rw [set_some_iff] at h
      rcases h with ⟨rfl, _, rfl⟩ | ⟨_, h⟩
      · exact ⟨fo, hv, rfl, rfl⟩
      · exact ⟨fo', h, rfl, rfl⟩
    · exact ⟨fo', h, rfl, rfl⟩

theorem FileIno.evict {files : List FileObj} {inodes : List Inode} (h : FileIno files inodes) (f : Option Nat) :
    FileIno (evictFile files f) inodes :=
  h.of_same (fun f' fo' hf => Or.inl (evictFile_same f' fo' hf)) (PubKept.refl _)

theorem FileIno.set_same {files : List FileObj} {inodes : List Inode} (h : FileIno files inodes) {f : Nat}
    {fo : FileObj} (hf : files[f]? = some fo) (x : FileObj) (hk : fo.key = x.key) (hi : fo.inode = x.inode) :
    FileIno (files.set f x) inodes := by
  refine h.of_same (fun f' fo' hf' => Or.inl ?_) (PubKept.refl _)
  rw [set_some_iff] at hf'
  rcases hf' with ⟨rfl, _, rfl⟩ | ⟨_, hf'⟩
  · exact ⟨fo, hf, hk, hi⟩
  · exact ⟨fo', hf', rfl, rfl⟩

theorem DiskIno.of_pub {disk : Nat → Option Nat} {inodes inodes' : List Inode} (h : DiskIno disk inodes)
    (hi : PubKept inodes inodes') : DiskIno disk inodes' := by
  intro k i hd
  obtain ⟨ino, h1, h2⟩ := h k i hd
  exact ⟨ino, hi k i ino h1 h2, h2⟩

theorem InoComm.mono {inodes : List Inode} {cm cm' : Nat → List Bytes} (h : InoComm inodes cm)
    (hle : CmLe cm cm') : InoComm inodes cm' :=
  fun i ino k h1 h2 => hle _ _ (h i ino k h1 h2)

theorem InoComm.append_wip {inodes : List Inode} {cm : Nat → List Bytes} (h : InoComm inodes cm)
    (w : Nat) (d : Bytes) : InoComm (inodes ++ [{ data := d, st := .wip w }]) cm := by
  intro i ino k h1 h2
  rw [append_some_iff] at h1
  rcases h1 with h1 | ⟨_, rfl⟩
  · exact h i ino k h1 h2
  · cases h2

theorem InoComm.set {inodes : List Inode} {cm : Nat → List Bytes} (h : InoComm inodes cm)
    (j : Nat) {x : Inode} (hx : ∀ k, x.st = .pub k → x.data ∈ cm k) : InoComm (inodes.set j x) cm := by
  intro i ino k h1 h2
  rw [set_some_iff] at h1
  rcases h1 with ⟨_, _, rfl⟩ | ⟨_, h1⟩
  · exact hx k h2
  · exact h i ino k h1 h2

def RcsLe (rcs rcs' : List RC) : Prop :=
  ∀ (i : Nat) (r : RC), rcs[i]? = some r → ∃ r' : RC, rcs'[i]? = some r' ∧ r'.key = r.key ∧ r'.val = r.val

theorem RcsLe.refl (rcs : List RC) : RcsLe rcs rcs := fun _ r h => ⟨r, h, rfl, rfl⟩

theorem LRU.Eff.rcsLe {l l' : LRU} {f : Option Nat} (he : l.Eff l' f) : RcsLe l.rcs l'.rcs := by
  intro i r h
  obtain ⟨r', h1, h2, h3, _⟩ := he.old i r h
  exact ⟨r', h1, h2, h3⟩

section Frames

variable {bufs bufs' : List Buf} {inodes inodes' : List Inode} {rcs rcs' : List RC} {cm cm' : Nat → List Bytes}
  {w : Nat} {wr : Writer} {files files' : List FileObj}

theorem WipOk.frame {P : Bytes → Prop} (h : WipOk inodes w wr P)
    (hi : Keeps inodes inodes' (fun ino => ino.st = .wip w)) : WipOk inodes' w wr P := by
  obtain ⟨ino, h1, h2, h3⟩ := h
  exact ⟨ino, hi _ ino h1 h2, h2, h3⟩

theorem WipOk.imp {P Q : Bytes → Prop} (h : WipOk inodes w wr P) (hpq : ∀ d, P d → Q d) : WipOk inodes w wr Q := by
  obtain ⟨ino, h1, h2, h3⟩ := h
  exact ⟨ino, h1, h2, hpq _ h3⟩

theorem WrOk.wip (h : WrOk bufs inodes rcs cm w wr) (hc : wr.phase ≠ .committed)
    (hf : ∀ rc, wr.phase ≠ .finishing rc) : WipOk inodes w wr (fun _ => True) := by
  unfold WrOk at h
  split at h
  · split at h
    · exact h.imp (fun _ _ => trivial)
    · exact h.2.imp (fun _ _ => trivial)
  · exact h.2.2.imp (fun _ _ => trivial)
  · exact h.2.imp (fun _ _ => trivial)
  · rename_i rc hp; exact absurd hp (hf rc)
  · rename_i hp; exact absurd hp hc
  · exact h

theorem WrOk.frame (h : WrOk bufs inodes rcs cm w wr) (hb : Keeps bufs bufs' (fun bf => bf.owner = .writer w))
    (hi : Keeps inodes inodes' (fun ino => ino.st = .wip w)) (hr : RcsLe rcs rcs') (hle : CmLe cm cm') :
    WrOk bufs' inodes' rcs' cm' w wr := by
  have hkey : ∀ rc, (∃ r : RC, rcs[rc]? = some r ∧ r.key = wr.key) → ∃ r : RC, rcs'[rc]? = some r ∧ r.key = wr.key :=
    fun rc ⟨r, h2, h3⟩ => (hr rc r h2).elim fun r' g => ⟨r', g.1, g.2.1.trans h3⟩
  unfold WrOk at h ⊢
  split
  · rename_i hp
    simp only [hp] at h
    split
    · rename_i hd
      rw [if_pos hd] at h
      exact h.frame hi
    · rename_i hd
      rw [if_neg hd] at h
      obtain ⟨⟨bf, h1, h2, h3⟩, h4⟩ := h
      exact ⟨⟨bf, hb _ bf h1 h2, h2, h3⟩, h4.frame hi⟩
  · rename_i rc hp
    simp only [hp] at h
    exact ⟨h.1, hkey rc h.2.1, h.2.2.frame hi⟩
  · rename_i rc hp
    simp only [hp] at h
    exact ⟨hkey rc h.1, (h.2.frame hi).imp (fun d hd => hle _ _ hd)⟩
  · rename_i rc hp
    simp only [hp] at h
    obtain ⟨r, h2⟩ := h
    exact (hr rc r h2).elim fun r' g => ⟨r', g.1⟩
  · trivial
  · rename_i hp
    simp only [hp] at h
    exact h.frame hi

theorem RdOk.frame {mrcs mrcs' frcs frcs' : List RC} {r : Nat} {rd : Reader} (h : RdOk mrcs frcs files r rd)
    (hm : RcsLe mrcs mrcs') (hf : RcsLe frcs frcs')
    (hfo : Keeps files files' (fun fo => fo.owner = .reader r)) : RdOk mrcs' frcs' files' r rd := by
  have hkv : ∀ {rcs rcs' : List RC} {rc v : Nat}, RcsLe rcs rcs' →
      (∃ x : RC, rcs[rc]? = some x ∧ x.val = v ∧ x.key = rd.key) →
      ∃ x : RC, rcs'[rc]? = some x ∧ x.val = v ∧ x.key = rd.key :=
    fun hle ⟨x, h1, h2, h3⟩ => (hle _ x h1).elim fun x' g => ⟨x', g.1, g.2.2.trans h2, g.2.1.trans h3⟩
  unfold RdOk at h ⊢
  split
  · rename_i hp
    simp only [hp] at h
    split
    · rename_i b rc hs
      simp only [hs] at h
      exact hkv hm h
    · rename_i f rc hs
      simp only [hs] at h
      exact hkv hf h
    · rename_i f d hs
      simp only [hs] at h
      obtain ⟨fo, h1, h2, h3⟩ := h
      exact ⟨fo, hfo f fo h1 h2, h2, h3⟩
  · rename_i rc hp
    simp only [hp] at h
    obtain ⟨x, h1⟩ := h
    exact (hf rc x h1).elim fun x' g => ⟨x', g.1⟩
  · trivial

theorem CommInv.frame {ws ws' : List Writer} (h : CommInv cm ws)
    (hw : ∀ (w : Nat) (wr : Writer), ws[w]? = some wr → wr.phase ≠ .opened → wr.phase ≠ .aborted →
      ∃ wr' : Writer, ws'[w]? = some wr' ∧ wr'.key = wr.key ∧ wr'.written = wr.written ∧
        wr'.phase ≠ .opened ∧ wr'.phase ≠ .aborted) : CommInv cm ws' := by
  intro k v hv
  obtain ⟨w, wr, h1, h2, h3, h4, h5⟩ := h k v hv
  obtain ⟨wr', g1, g2, g3, g4, g5⟩ := hw w wr h1 h4 h5
  exact ⟨w, wr', g1, by rw [g2]; exact h2, by rw [g3]; exact h3, g4, g5⟩

theorem CommInv.add {ws : List Writer} (h : CommInv cm ws) (hw : ws[w]? = some wr) (hp1 : wr.phase ≠ .opened)
    (hp2 : wr.phase ≠ .aborted) : CommInv (addCommitted cm wr.key wr.written) ws := by
  intro k v hv
  unfold addCommitted at hv
  split at hv
  · rename_i hk
    rw [List.mem_append] at hv
    rcases hv with hv | hv
    · exact h k v hv
    · simp at hv; subst hv
      exact ⟨w, wr, hw, hk.symm, rfl, hp1, hp2⟩
  · exact h k v hv

end Frames

end SV.ChunkCache
