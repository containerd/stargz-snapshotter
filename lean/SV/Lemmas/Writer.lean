/-
The eStargz writer model (C03).  `Inv` (the counters are sums over the view) and `LInv` (the two locals
of `appendTar` hold the sizes of the closed part); `Tr w w' bs` (the view only extended: `Ext`, the stream
grew by `bs`); `Good`/`AllGood` (TOC entries read their ranges), `Group`/`EntryToc`/`TocOf` (the shape of
the TOC); `Run` = `Tr` with the entries recorded; `chunk_write` is the idea of a chunk step, `Closed` what
`closeGz` leaves.  The loop specs compose `Run`s up to `writerRun_sound` and, through `PartOK` and
`combineGo_spec`, `build_sound`; both end in `BlobOK`.
Last, the index checker (`checkGo_sound`) and file content by name (`contentOf_eq`).
-/
import SV.Model.Writer

namespace SV.Writer

/-! ## Member lists -/

@[simp] theorem sumClen_nil : sumClen [] = 0 := rfl
@[simp] theorem sumClen_cons (m : Member) (ms : List Member) : sumClen (m :: ms) = m.clen + sumClen ms := rfl

@[simp] theorem sumClen_append (a b : List Member) : sumClen (a ++ b) = sumClen a + sumClen b := by
  induction a with
  | nil => simp
  | cons m a ih => simp [ih, Nat.add_assoc]

@[simp] theorem streamOf_nil : streamOf [] = [] := rfl
@[simp] theorem streamOf_cons (m : Member) (ms : List Member) : streamOf (m :: ms) = m.payload ++ streamOf ms := rfl

@[simp] theorem streamOf_append (a b : List Member) : streamOf (a ++ b) = streamOf a ++ streamOf b := by
  induction a with
  | nil => simp
  | cons m a ih => simp [ih]

def AllPos (ms : List Member) : Prop := ∀ m ∈ ms, 0 < m.clen

theorem AllPos.append {a b : List Member} (ha : AllPos a) (hb : AllPos b) : AllPos (a ++ b) :=
  List.forall_mem_append.mpr ⟨ha, hb⟩

theorem findMember_at (init : List Member) (m : Member) (rest : List Member) (s : Nat)
    (h : AllPos init) : findMember (init ++ m :: rest) s (s + sumClen init) = some m := by
  induction init generalizing s with
  | nil => simp [findMember]
  | cons x init ih =>
    have hx : 0 < x.clen := h x List.mem_cons_self
    rw [List.cons_append, findMember, if_neg (by rw [sumClen_cons]; omega), sumClen_cons,
      ← Nat.add_assoc]
    exact ih _ fun y hy => h y (List.mem_cons_of_mem _ hy)

/-- `e` reads `d` from the member list: some member starts exactly at `e.offset` and its payload
continues with `d` after `e.innerOffset` bytes. -/
def Good (ms : List Member) (e : TocEnt) (d : Bytes) : Prop :=
  ∃ init m rest, ms = init ++ m :: rest ∧ sumClen init = e.offset ∧ d <+: m.payload.drop e.innerOffset

/-- `b` extends `a`: every member of `a` is still there, at the same compressed offset, with a
payload that only grew. -/
def Ext (a b : List Member) : Prop :=
  ∀ init m rest, a = init ++ m :: rest →
    ∃ m' rest', b = init ++ m' :: rest' ∧ m.payload <+: m'.payload

theorem Ext.refl (a : List Member) : Ext a a :=
  fun _ m rest h => ⟨m, rest, h, List.prefix_refl _⟩

theorem Ext.trans {a b c : List Member} (h1 : Ext a b) (h2 : Ext b c) : Ext a c := by
  intro init m rest h
  obtain ⟨m', rest', hb, hp⟩ := h1 init m rest h
  obtain ⟨m'', rest'', hc, hp'⟩ := h2 init m' rest' hb
  exact ⟨m'', rest'', hc, List.IsPrefix.trans hp hp'⟩

theorem Ext.append (a x : List Member) : Ext a (a ++ x) := by
  intro init m rest h
  exact ⟨m, rest ++ x, by simp [h], List.prefix_refl _⟩

theorem Ext.snoc (c : List Member) (m m' : Member) (hp : m.payload <+: m'.payload) :
    Ext (c ++ [m]) (c ++ [m']) := by
  intro init x rest h
  rcases List.eq_nil_or_concat rest with rfl | ⟨r0, z, rfl⟩
  · obtain ⟨rfl, hx⟩ := List.append_inj' h rfl
    cases hx
    exact ⟨m', [], rfl, hp⟩
  · rw [List.concat_eq_append, ← List.cons_append, ← List.append_assoc] at h
    obtain ⟨rfl, _⟩ := List.append_inj' h rfl
    exact ⟨x, r0 ++ [m'], by simp, List.prefix_refl _⟩

theorem prefix_drop {α} {a b : List α} (h : a <+: b) (n : Nat) : a.drop n <+: b.drop n := by
  obtain ⟨t, rfl⟩ := h
  rw [List.drop_append]
  exact List.prefix_append _ _

theorem Good.mono {a b : List Member} {e : TocEnt} {d : Bytes} (hg : Good a e d) (hx : Ext a b) :
    Good b e d := by
  obtain ⟨init, m, rest, ha, hs, hp⟩ := hg
  obtain ⟨m', rest', hb, hpp⟩ := hx init m rest ha
  exact ⟨init, m', rest', hb, hs, List.IsPrefix.trans hp (prefix_drop hpp _)⟩

theorem Good.shift {ms : List Member} {e : TocEnt} {d : Bytes} (hg : Good ms e d)
    (pre post : List Member) :
    Good (pre ++ ms ++ post) { e with offset := e.offset + sumClen pre } d := by
  obtain ⟨init, m, rest, rfl, hs, hp⟩ := hg
  refine ⟨pre ++ init, m, rest ++ post, by simp, ?_, hp⟩
  rw [sumClen_append, hs]
  exact Nat.add_comm _ _

theorem Good.specRead {ms : List Member} {e : TocEnt} {d : Bytes} {fs : Nat}
    (hg : Good ms e d) (hpos : AllPos ms) (hlen : d.length = effSize e fs) :
    specRead ms e fs = some d := by
  obtain ⟨init, m, rest, rfl, hs, hp⟩ := hg
  have hf := findMember_at init m rest 0 fun y hy => hpos y (List.mem_append_left _ hy)
  rw [Nat.zero_add, hs] at hf
  unfold SV.Writer.specRead
  rw [hf]
  simp only
  rw [← hlen, ← List.prefix_iff_eq_take.mp hp]

/-! ## The stream operations -/

/-- Bookkeeping invariant of a Writer that started empty. -/
structure Inv (w : W) : Prop where
  cw : w.cwN = sumClen w.view
  unc : w.uncN = (streamOf w.view).length
  pos : AllPos w.closed
  hash : w.hashed = streamOf w.view

/-- What `prevOffset` / `prevOffsetUncompressed` mean: the open stream starts at compressed offset
`prevOff` and `prevOffUnc` uncompressed bytes precede it - unless `MinChunkSize = 0`, where the
boundary test `MinChunkSize ≤ cw.n - prevOffset` is true whatever `prevOffset` holds and
`prevOffsetUncompressed` is never read.  Stated so that it can be established without `Inv`;
proofs use it through `linv_iff`. -/
def LInv (P : Params) (w : W) (loc : Loc) : Prop :=
  P.minChunk = 0 ∨
    match w.cur with
    | some m => sumClen w.closed = loc.prevOff ∧ m.payload.length + loc.prevOffUnc = w.uncN
    | none => w.cwN = loc.prevOff ∧ w.uncN = loc.prevOffUnc

theorem inv_fresh (f c : List Nat) : Inv { orcF := f, orcC := c } := by
  constructor <;> simp [W.view, AllPos]

theorem linv_fresh (P : Params) (f c : List Nat) :
    LInv P { orcF := f, orcC := c } ⟨0, 0⟩ := by
  right; simp

/-- `w'` is reached from `w` by writing `bs` (plus flushes, closes, opens). -/
structure Tr (w w' : W) (bs : Bytes) : Prop where
  inv : Inv w'
  ext : Ext w.view w'.view
  stream : streamOf w'.view = streamOf w.view ++ bs

theorem Tr.rfl' {w : W} (h : Inv w) : Tr w w [] := ⟨h, Ext.refl _, by simp⟩

theorem Tr.trans {w w' w'' : W} {a b : Bytes} (h1 : Tr w w' a) (h2 : Tr w' w'' b) :
    Tr w w'' (a ++ b) :=
  ⟨h2.inv, Ext.trans h1.ext h2.ext, by rw [h2.stream, h1.stream, List.append_assoc]⟩

theorem view_none {w : W} (h : w.cur = none) : w.view = w.closed := by
  rw [W.view, h, Option.toList_none, List.append_nil]

theorem view_some {w : W} {m : Member} (h : w.cur = some m) : w.view = w.closed ++ [m] := by
  rw [W.view, h, Option.toList_some]

/-- The stream operations only touch the open end `t` of the view. -/
theorem tr_tail {w w' : W} {c t t' : List Member} {p : Bytes} (h : Inv w) (hv : w.view = c ++ t)
    (hv' : w'.view = c ++ t') (hx : Ext (c ++ t) (c ++ t')) (hpos : AllPos w'.closed)
    (hs : streamOf t' = streamOf t ++ p) (hcw : w'.cwN + sumClen t = w.cwN + sumClen t')
    (hunc : w'.uncN = w.uncN + p.length) (hh : w'.hashed = w.hashed ++ p) : Tr w w' p := by
  have h1 := h.cw
  have h2 := h.unc
  have h4 := h.hash
  rw [hv] at h1 h2 h4
  rw [sumClen_append] at h1
  have hst : streamOf (c ++ t') = streamOf (c ++ t) ++ p := by
    rw [streamOf_append, streamOf_append, hs, List.append_assoc]
  refine ⟨⟨?_, ?_, hpos, ?_⟩, hv ▸ hv' ▸ hx, hv ▸ hv' ▸ hst⟩
  · rw [hv', sumClen_append]
    exact Nat.add_right_cancel (by rw [hcw, h1, Nat.add_right_comm])
  · rw [hv', hst, List.length_append, ← h2, hunc]
  · rw [hv', hst, ← h4, hh]

theorem condOpenGz_tr {w : W} (h : Inv w) : Tr w (condOpenGz w) [] := by
  obtain ⟨closed, cur, cwN, uncN, toc, hashed, orcF, orcC⟩ := w
  cases cur with
  | none =>
    exact tr_tail (c := closed) (t := []) (t' := [⟨[], 0⟩]) h rfl rfl h.pos rfl rfl rfl
      (hx := by rw [List.append_nil]; exact Ext.append _ _) (hh := (List.append_nil _).symm)
  | some m => exact Tr.rfl' h

theorem write_tr {w : W} (h : Inv w) (p : Bytes) : Tr w (write w p) p := by
  obtain ⟨closed, cur, cwN, uncN, toc, hashed, orcF, orcC⟩ := w
  cases cur with
  | none =>
    exact tr_tail (c := closed) (t := []) (t' := [⟨p, 0⟩]) h rfl rfl h.pos rfl rfl rfl
      (hx := by rw [List.append_nil]; exact Ext.append _ _) (hs := List.append_nil p)
  | some m =>
    exact tr_tail (c := closed) (t := [m]) (t' := [⟨m.payload ++ p, m.clen⟩]) h rfl rfl h.pos
      rfl rfl rfl (hx := Ext.snoc _ _ _ (List.prefix_append _ _)) (hs := by simp)

theorem flushGz_tr {w : W} (h : Inv w) : Tr w (flushGz w) [] := by
  obtain ⟨closed, cur, cwN, uncN, toc, hashed, orcF, orcC⟩ := w
  cases cur with
  | none => exact Tr.rfl' h
  | some m =>
    exact tr_tail (c := closed) (t := [m]) (t' := [⟨m.payload, m.clen + orcF.headD 0⟩]) h rfl rfl
      h.pos rfl (hx := Ext.snoc _ _ _ (List.prefix_refl _)) (hs := (List.append_nil _).symm)
      (hcw := by simp only [sumClen_cons, sumClen_nil, flushGz]; omega)
      (hh := (List.append_nil _).symm)

theorem closeGz_tr {w : W} (h : Inv w) : Tr w (closeGz w) [] := by
  obtain ⟨closed, cur, cwN, uncN, toc, hashed, orcF, orcC⟩ := w
  cases cur with
  | none => exact Tr.rfl' h
  | some m =>
    refine tr_tail (c := closed) (t := [m]) (t' := [⟨m.payload, m.clen + orcC.headD 0 + 1⟩]) h rfl
      (hv' := List.append_nil _) (hx := Ext.snoc _ _ _ (List.prefix_refl _))
      (hpos := h.pos.append fun x hx => ?_) (hs := (List.append_nil _).symm)
      (hcw := by simp only [sumClen_cons, sumClen_nil, closeGz]; omega) rfl
      (hh := (List.append_nil _).symm)
    rw [List.mem_singleton.mp hx]
    exact Nat.succ_pos _

theorem pushToc_tr {w w' : W} {bs : Bytes} (h : Tr w w' bs) (e : TocEnt) : Tr w (pushToc w' e) bs :=
  ⟨⟨h.inv.cw, h.inv.unc, h.inv.pos, h.inv.hash⟩, h.ext, h.stream⟩

theorem condOpenGz_closed {w : W} : (condOpenGz w).closed = w.closed := by
  unfold condOpenGz; split <;> rfl
theorem condOpenGz_toc {w : W} : (condOpenGz w).toc = w.toc := by
  unfold condOpenGz; split <;> rfl
theorem condOpenGz_uncN {w : W} : (condOpenGz w).uncN = w.uncN := by
  unfold condOpenGz; split <;> rfl
theorem condOpenGz_cur {w : W} : (condOpenGz w).cur.isSome := by
  unfold condOpenGz; split
  · rename_i h; rw [h]; rfl
  · rfl

theorem write_closed {w : W} {p : Bytes} : (write w p).closed = w.closed := by
  unfold write; split <;> rfl
theorem write_toc {w : W} {p : Bytes} : (write w p).toc = w.toc := by
  unfold write; split <;> rfl

theorem flushGz_closed {w : W} : (flushGz w).closed = w.closed := by
  unfold flushGz; split <;> rfl
theorem flushGz_toc {w : W} : (flushGz w).toc = w.toc := by
  unfold flushGz; split <;> rfl

theorem closeGz_toc {w : W} : (closeGz w).toc = w.toc := by
  unfold closeGz; split <;> rfl
theorem closeGz_cur {w : W} : (closeGz w).cur = none := by
  unfold closeGz; split
  · assumption
  · rfl

/-- What `closeGz_final` gives for `w' = closeGz w`: everything is in `closed`, so the counters and the
hash speak of the closed members. -/
structure Closed (w w' : W) : Prop where
  pos : AllPos w'.closed
  cw : w'.cwN = sumClen w'.closed
  unc : w'.uncN = (streamOf w'.closed).length
  stream : streamOf w'.closed = streamOf w.view
  ext : Ext w.view w'.closed
  hash : w'.hashed = streamOf w'.closed

theorem closeGz_final {w : W} (h : Inv w) : Closed w (closeGz w) := by
  have h' := closeGz_tr h
  have hv : (closeGz w).view = (closeGz w).closed := view_none closeGz_cur
  exact ⟨h'.inv.pos, hv ▸ h'.inv.cw, hv ▸ h'.inv.unc, hv ▸ h'.stream.trans (List.append_nil _),
    hv ▸ h'.ext, hv ▸ h'.inv.hash⟩

/-- Under `Inv`, `LInv` says that `loc` records where the closed members end, in both counts. -/
theorem linv_iff {P : Params} {w : W} {loc : Loc} (h : Inv w) :
    LInv P w loc ↔ P.minChunk = 0 ∨
      (sumClen w.closed = loc.prevOff ∧ (streamOf w.closed).length = loc.prevOffUnc) := by
  have hcw := h.cw
  have hunc := h.unc
  unfold LInv
  cases hc : w.cur with
  | none =>
    rw [view_none hc] at hcw hunc
    simp only [hcw, hunc]
  | some m =>
    rw [view_some hc, streamOf_append, List.length_append] at hunc
    simp only [hunc, streamOf_cons, streamOf_nil, List.append_nil, Nat.add_comm m.payload.length,
      Nat.add_right_cancel_iff, eq_comm (a := loc.prevOffUnc)]

theorem LInv.frame {P : Params} {w w' : W} {loc : Loc} (hl : LInv P w loc) (h : Inv w) (h' : Inv w')
    (hc : w'.closed = w.closed) : LInv P w' loc := by
  rw [linv_iff h', hc]
  exact (linv_iff h).mp hl

theorem linv_closeGz (P : Params) (w : W) :
    LInv P (closeGz w) ⟨(closeGz w).cwN, (closeGz w).uncN⟩ := by
  right
  rw [closeGz_cur]
  exact ⟨rfl, rfl⟩

/-! ## `AllGood`, `Run` -/

/-- Every data entry of `toc` reads, by the documented rule, its range of the content of a
regular file among `src` carrying its name. -/
def AllGood (ms : List Member) (src : List TarEnt) (toc : List TocEnt) : Prop :=
  ∀ x ∈ toc, x.isData = true → ∃ e ∈ src, e.isToc = false ∧ e.typ = .reg ∧ x.name = e.name ∧
    Good ms x (expect e.data x) ∧ 0 < effSize x e.data.length ∧
    x.chunkOffset + effSize x e.data.length ≤ e.data.length

theorem AllGood.mono {ms ms' : List Member} {src src' : List TarEnt} {toc : List TocEnt}
    (h : AllGood ms src toc) (hx : Ext ms ms') (hs : ∀ e ∈ src, e ∈ src') : AllGood ms' src' toc := by
  intro x hx' hd
  obtain ⟨e, he, hkept, hreg, hname, hgood, hfits⟩ := h x hx' hd
  exact ⟨e, hs e he, hkept, hreg, hname, hgood.mono hx, hfits⟩

theorem AllGood.append {ms : List Member} {src : List TarEnt} {a b : List TocEnt}
    (ha : AllGood ms src a) (hb : AllGood ms src b) : AllGood ms src (a ++ b) :=
  List.forall_mem_append.mpr ⟨ha, hb⟩

/-- The Writer went from `w` to `w'`, writing `bs` and recording `g`, every data entry of which
reads its range of a file among `src`. -/
structure Run (src : List TarEnt) (w w' : W) (bs : Bytes) (g : List TocEnt) : Prop where
  tr : Tr w w' bs
  toc : w'.toc = w.toc ++ g
  good : AllGood w'.view src g

theorem Run.of_tr {src : List TarEnt} {w w' : W} {bs : Bytes} (h : Tr w w' bs)
    (htoc : w'.toc = w.toc) : Run src w w' bs [] :=
  ⟨h, by rw [htoc, List.append_nil], fun _ hx => nomatch hx⟩

theorem Run.trans {src : List TarEnt} {w w1 w2 : W} {a b : Bytes} {g1 g2 : List TocEnt}
    (h1 : Run src w w1 a g1) (h2 : Run src w1 w2 b g2) : Run src w w2 (a ++ b) (g1 ++ g2) :=
  ⟨h1.tr.trans h2.tr, by rw [h2.toc, h1.toc, List.append_assoc],
    (h1.good.mono h2.tr.ext fun _ h => h).append h2.good⟩

theorem Run.mono {src src' : List TarEnt} {w w' : W} {bs : Bytes} {g : List TocEnt}
    (h : Run src w w' bs g) (hs : ∀ e ∈ src, e ∈ src') : Run src' w w' bs g :=
  ⟨h.tr, h.toc, h.good.mono (Ext.refl _) hs⟩

theorem Run.append {a b : List TarEnt} {w w1 w2 : W} {x y : Bytes} {g1 g2 : List TocEnt}
    (h1 : Run a w w1 x g1) (h2 : Run b w1 w2 y g2) : Run (a ++ b) w w2 (x ++ y) (g1 ++ g2) :=
  (h1.mono fun _ => List.mem_append_left _).trans (h2.mono fun _ => List.mem_append_right _)

theorem Run.write {src : List TarEnt} {w w' : W} {bs : Bytes} {g : List TocEnt}
    (h : Run src w w' bs g) (p : Bytes) : Run src w (write w' p) (bs ++ p) g :=
  have ht := write_tr h.tr.inv p
  ⟨h.tr.trans ht, write_toc.trans h.toc, h.good.mono ht.ext fun _ h => h⟩

theorem Run.push {src : List TarEnt} {w w' : W} {bs : Bytes} {g : List TocEnt}
    (h : Run src w w' bs g) (x : TocEnt) (hx : x.isData = false) :
    Run src w (pushToc w' x) bs (g ++ [x]) := by
  refine ⟨pushToc_tr h.tr x, ?_, h.good.append fun y hy hd => ?_⟩
  · show w'.toc ++ [x] = _
    rw [h.toc, List.append_assoc]
  · rw [List.mem_singleton.mp hy, hx] at hd
    cases hd

theorem Run.cast {src : List TarEnt} {w w' : W} {bs bs' : Bytes} {g : List TocEnt}
    (h : Run src w w' bs g) (e : bs = bs') : Run src w w' bs' g := e ▸ h

/-! ## The chunk loop -/

def chunkLen (P : Params) (total written : Nat) : Nat :=
  if total - written < P.chunk then total - written else P.chunk

/-- The entry `chunkStep` pushes, with `offset` and `innerOffset` left open. -/
def mkEnt (P : Params) (name : String) (total : Nat) (first : Bool) (written off inner : Nat) : TocEnt :=
  ⟨name, if first then Kind.reg else Kind.chunk, if first then total else 0, off, inner, written,
   if total - written < P.chunk then 0 else P.chunk⟩

theorem effSize_mkEnt {P : Params} (hc : 0 < P.chunk) (name : String) (total : Nat) (first : Bool)
    (written off inner : Nat) :
    effSize (mkEnt P name total first written off inner) total = chunkLen P total written := by
  unfold chunkLen
  by_cases h : total - written < P.chunk
  · simp [effSize, mkEnt, h]
  · simp [effSize, mkEnt, h, Nat.ne_of_gt hc]

/-- `w'`, `loc` are `w` after a chunk step that wrote `ch` and recorded it as `x`. -/
structure ChunkDone (P : Params) (w w' : W) (loc : Loc) (x : TocEnt) (ch : Bytes) : Prop where
  tr : Tr w w' ch
  toc : w'.toc = w.toc ++ [x]
  linv : LInv P w' loc
  good : Good w'.view x ch

/-- Both branches of `chunkStep` end alike: the chunk goes to an open stream `w2` and is recorded at
that stream's start, skipping what the stream already holds; so the entry reads it back. -/
theorem chunk_write {P : Params} {w w2 : W} {loc : Loc} (x : TocEnt) (ch : Bytes)
    (ht : Tr w w2 []) (htoc : w2.toc = w.toc) (ho : w2.cur.isSome) (hl : LInv P w2 loc)
    (hoff : sumClen w2.closed = x.offset)
    (hin : w2.uncN - (streamOf w2.closed).length = x.innerOffset) :
    ChunkDone P w (pushToc (write w2 ch) x) loc x ch := by
  have hp := pushToc_tr (ht.trans (write_tr ht.inv ch)) x
  obtain ⟨m, hm⟩ := Option.isSome_iff_exists.mp ho
  have hunc := ht.inv.unc
  rw [view_some hm, streamOf_append, List.length_append] at hunc
  simp only [streamOf_cons, streamOf_nil, List.append_nil] at hunc
  refine ⟨hp, ?_, hl.frame ht.inv hp.inv write_closed,
    w2.closed, ⟨m.payload ++ ch, m.clen⟩, [], ?_, hoff, ?_⟩
  · show (write w2 ch).toc ++ [x] = _
    rw [write_toc, htoc]
  · show (write w2 ch).view = _
    unfold write
    rw [hm]
    rfl
  · rw [← hin, hunc, Nat.add_sub_cancel_left]
    show ch <+: (m.payload ++ ch).drop m.payload.length
    rw [List.drop_left]
    exact List.prefix_refl _

theorem chunkStep_spec {P : Params} {name : String} {total : Nat} {first : Bool} {written : Nat}
    {ch : Bytes} {w : W} {loc : Loc} {r : W × Loc} (hinv : Inv w) (hl : LInv P w loc)
    (hr : chunkStep P name total first written ch w loc = r) :
    ∃ off inner, ChunkDone P w r.1 r.2 (mkEnt P name total first written off inner) ch := by
  subst hr
  have hf := flushGz_tr hinv
  by_cases hb : ((first && P.needsOpen.contains name) ||
      decide (P.minChunk ≤ (flushGz w).cwN - loc.prevOff)) = true
  · simp only [chunkStep, hb, if_true]
    have hcl := closeGz_tr hf.inv
    have ho := condOpenGz_tr hcl.inv
    have hcg := closeGz_final hf.inv
    refine ⟨(closeGz (flushGz w)).cwN, 0,
      chunk_write _ ch ((hf.trans hcl).trans ho) ?_ condOpenGz_cur ?_ ?_ ?_⟩
    · rw [condOpenGz_toc, closeGz_toc, flushGz_toc]
    · exact (linv_closeGz P _).frame hcl.inv ho.inv condOpenGz_closed
    · rw [condOpenGz_closed]
      exact hcg.cw.symm
    · rw [condOpenGz_closed, condOpenGz_uncN, hcg.unc]
      exact Nat.sub_self _
  · simp only [chunkStep, hb]
    have ho := condOpenGz_tr hf.inv
    have hl2 : LInv P (condOpenGz (flushGz w)) loc :=
      (hl.frame hinv hf.inv flushGz_closed).frame hf.inv ho.inv condOpenGz_closed
    -- the locals are read, so `MinChunkSize` is not 0 and `LInv` says what they hold
    have hmin : P.minChunk ≠ 0 := fun h0 => hb (by simp [h0])
    obtain ⟨h1, h2⟩ := ((linv_iff ho.inv).mp hl2).resolve_left hmin
    refine ⟨loc.prevOff, (flushGz w).uncN - loc.prevOffUnc,
      chunk_write _ ch (hf.trans ho) ?_ condOpenGz_cur hl2 h1 ?_⟩
    · rw [condOpenGz_toc, flushGz_toc]
    · rw [condOpenGz_uncN, h2]

/-- The TOC entries of one regular file: a `reg` entry first, then `chunk`s, all with the file's
name, contiguous from `pos`, none empty, ending exactly at `total`. -/
def Group (name : String) (total : Nat) : Bool → Nat → List TocEnt → Prop
  | _, pos, [] => pos = total
  | first, pos, e :: es =>
    e.name = name ∧ e.typ = (if first then Kind.reg else Kind.chunk) ∧
    e.size = (if first then total else 0) ∧ e.chunkOffset = pos ∧ 0 < effSize e total ∧
    pos + effSize e total ≤ total ∧ Group name total false (pos + effSize e total) es

/-- What `Group` says of its first entry. -/
structure ChunkEnt (nm : String) (total : Nat) (first : Bool) (pos : Nat) (e : TocEnt) : Prop where
  name : e.name = nm
  typ : e.typ = if first then Kind.reg else Kind.chunk
  size : e.size = if first then total else 0
  off : e.chunkOffset = pos
  nonempty : 0 < effSize e total
  fits : pos + effSize e total ≤ total

section
variable {name : String} {total : Nat} {first : Bool} {pos : Nat} {e : TocEnt} {es : List TocEnt}

theorem Group.head (h : Group name total first pos (e :: es)) : ChunkEnt name total first pos e :=
  ⟨h.1, h.2.1, h.2.2.1, h.2.2.2.1, h.2.2.2.2.1, h.2.2.2.2.2.1⟩

theorem Group.tail (h : Group name total first pos (e :: es)) :
    Group name total false (pos + effSize e total) es :=
  h.2.2.2.2.2.2

theorem Group.cons (he : ChunkEnt name total first pos e)
    (ht : Group name total false (pos + effSize e total) es) : Group name total first pos (e :: es) :=
  ⟨he.name, he.typ, he.size, he.off, he.nonempty, he.fits, ht⟩

end

theorem chunkLen_bounds {P : Params} {total written : Nat} (hc : 0 < P.chunk) (hlt : written < total) :
    0 < chunkLen P total written ∧ written + chunkLen P total written ≤ total := by
  unfold chunkLen
  split
  · exact ⟨Nat.sub_pos_of_lt hlt, Nat.le_of_eq (Nat.add_sub_cancel' (Nat.le_of_lt hlt))⟩
  · next h => exact ⟨hc, Nat.add_le_of_le_sub' (Nat.le_of_lt hlt) (Nat.le_of_not_lt h)⟩

theorem chunkLoop_succ (P : Params) (name : String) (total fuel : Nat) (rest : Bytes) (written : Nat)
    (first : Bool) (w : W) (loc : Loc) :
    chunkLoop P name total (fuel + 1) rest written first w loc =
      if written < total then
        let r := chunkStep P name total first written (rest.take (chunkLen P total written)) w loc
        chunkLoop P name total fuel (rest.drop (chunkLen P total written))
          (written + chunkLen P total written) false r.1 r.2
      else (w, loc) := rfl

theorem chunkLoop_spec {P : Params} (hc : 0 < P.chunk) {src : List TarEnt} {e : TarEnt}
    (he : e ∈ src) (htoc : e.isToc = false) (hreg : e.typ = .reg) {fuel written : Nat} {first : Bool}
    {w : W} {loc : Loc} {r : W × Loc} (hinv : Inv w) (hl : LInv P w loc)
    (hle : written ≤ e.data.length) (hfuel : e.data.length - written ≤ fuel)
    (hr : chunkLoop P e.name e.data.length fuel (e.data.drop written) written first w loc = r) :
    ∃ g, Run src w r.1 (e.data.drop written) g ∧ LInv P r.1 r.2 ∧
      Group e.name e.data.length first written g := by
  induction fuel generalizing written first w loc with
  | zero =>
    cases hr
    rw [Nat.le_antisymm hle (Nat.le_of_sub_eq_zero (Nat.le_zero.mp hfuel)), List.drop_length]
    exact ⟨[], Run.of_tr (Tr.rfl' hinv) rfl, hl, rfl⟩
  | succ fuel ih =>
    rw [chunkLoop_succ] at hr
    split at hr
    · rename_i hlt
      obtain ⟨hn0, hnle⟩ := chunkLen_bounds hc hlt
      have heff := effSize_mkEnt hc e.name e.data.length first written
      simp only at hr
      generalize chunkLen P e.data.length written = n at hr hn0 hnle heff
      generalize hr1 : chunkStep _ _ _ _ _ _ _ _ = r1 at hr
      obtain ⟨off, inner, h1⟩ := chunkStep_spec hinv hl hr1
      rw [List.drop_drop] at hr
      obtain ⟨g, hrun, hl', hgrp⟩ := ih h1.tr.inv h1.linv hnle (by omega) hr
      refine ⟨mkEnt P e.name e.data.length first written off inner :: g, ?_, hl', ?_⟩
      · have hrun1 : Run src w r1.1 ((e.data.drop written).take n)
            [mkEnt P e.name e.data.length first written off inner] := by
          refine ⟨h1.tr, h1.toc, fun y hy _ => ?_⟩
          rw [List.mem_singleton.mp hy]
          refine ⟨e, he, htoc, hreg, rfl, ?_, (heff off inner).symm ▸ hn0, (heff off inner).symm ▸ hnle⟩
          rw [expect, heff]
          exact h1.good
        exact (hrun1.trans hrun).cast (by rw [← List.drop_drop, List.take_append_drop])
      · rw [← heff off inner] at hn0 hnle hgrp
        exact Group.cons ⟨rfl, rfl, rfl, rfl, hn0, hnle⟩ hgrp
    · rename_i hlt
      cases hr
      rw [Nat.le_antisymm hle (Nat.not_lt.mp hlt), List.drop_length]
      exact ⟨[], Run.of_tr (Tr.rfl' hinv) rfl, hl, rfl⟩

/-! ## Entries and calls -/

/-- The bytes one (non-skipped) entry contributes to the uncompressed stream. -/
def entBytes (e : TarEnt) : Bytes := e.pre ++ ((if e.typ = .reg then e.data else []) ++ e.post)

theorem entBytes_plain {e : TarEnt} (h : ¬(e.typ = .reg ∧ e.data ≠ [])) :
    entBytes e = e.pre ++ e.post := by
  unfold entBytes
  split
  · rename_i hr
    rw [Decidable.not_not.mp fun hd => h ⟨hr, hd⟩]
    rfl
  · rfl

/-- The TOC entries one (non-skipped) tar entry produces. -/
def EntryToc (e : TarEnt) (g : List TocEnt) : Prop :=
  supported e.typ = true ∧
  if e.typ = .reg ∧ e.data ≠ [] then Group e.name e.data.length true 0 g
  else g = [⟨e.name, e.typ, 0, 0, 0, 0, 0⟩]

theorem plain_isData {e : TarEnt} (h : supported e.typ = true) :
    (⟨e.name, e.typ, 0, 0, 0, 0, 0⟩ : TocEnt).isData = false := by
  have hk : e.typ ≠ .chunk := fun hk => by rw [hk] at h; cases h
  simp [TocEnt.isData, hk]

theorem group_bounds {name : String} {total : Nat} :
    ∀ {first : Bool} {pos : Nat} {g : List TocEnt}, Group name total first pos g →
      ∀ x ∈ g, x.name = name ∧ x.isData = true ∧ 0 < effSize x total ∧ x.chunkOffset + effSize x total ≤ total := by
  intro first pos g
  induction g generalizing first pos with
  | nil => intro _ x hx; cases hx
  | cons e es ih =>
    intro hg x hx
    have he := hg.head
    rcases List.mem_cons.mp hx with rfl | hx
    · refine ⟨he.name, ?_, he.nonempty, he.off ▸ he.fits⟩
      -- `reg` entries of a group carry `total`, which is positive as the entry is not empty
      cases first
      · simp [TocEnt.isData, he.typ]
      · have : 0 < total := Nat.lt_of_lt_of_le he.nonempty (Nat.le_trans (Nat.le_add_left _ _) he.fits)
        simp [TocEnt.isData, he.typ, he.size, this]
    · exact ih hg.tail x hx

theorem appendEntry_spec {P : Params} (hc : 0 < P.chunk) {w : W} {loc : Loc} {e : TarEnt} {w' : W}
    {loc' : Loc} (hinv : Inv w) (hl : LInv P w loc)
    (h : appendEntry P (w, loc) e = some (w', loc')) :
    (e.isToc = true ∧ w' = w ∧ loc' = loc) ∨
    (e.isToc = false ∧ LInv P w' loc' ∧ ∃ g, Run [e] w w' (entBytes e) g ∧ EntryToc e g) := by
  unfold appendEntry at h
  by_cases htoc : e.isToc = true
  · rw [if_pos htoc] at h
    by_cases hll : P.lossless = true
    · rw [if_pos hll] at h
      cases h
    · rw [if_neg hll] at h
      cases h
      exact Or.inl ⟨htoc, rfl, rfl⟩
  · have hco := condOpenGz_tr hinv
    have h0 : Run [e] w (write (condOpenGz w) e.pre) e.pre [] :=
      (Run.of_tr hco condOpenGz_toc).write e.pre
    have hl0 : LInv P (write (condOpenGz w) e.pre) loc :=
      hl.frame hinv h0.tr.inv (by rw [write_closed, condOpenGz_closed])
    simp only [if_neg htoc] at h
    by_cases hsup : supported e.typ = false
    · rw [if_pos hsup] at h
      cases h
    · rw [if_neg hsup] at h
      have hsup := Bool.of_not_eq_false hsup
      refine Or.inr ⟨Bool.of_not_eq_true htoc, ?_⟩
      by_cases hreg : e.typ = .reg ∧ e.data ≠ []
      · rw [if_pos hreg] at h
        generalize hr : chunkLoop _ _ _ _ _ _ _ _ _ = r at h
        cases h
        obtain ⟨g, hrun, hl2, hgrp⟩ := chunkLoop_spec hc (List.mem_singleton_self e)
          (Bool.of_not_eq_true htoc) hreg.1 h0.tr.inv hl0 (Nat.zero_le _) (Nat.le_succ _) hr
        have hpost := (h0.trans hrun).write e.post
        refine ⟨hl2.frame hrun.tr.inv hpost.tr.inv write_closed, g, ?_, hsup, ?_⟩
        · refine hpost.cast ?_
          rw [entBytes, if_pos hreg.1]
          exact List.append_assoc _ _ _
        · rw [if_pos hreg]
          exact hgrp
      · rw [if_neg hreg] at h
        cases h
        have hpost := (h0.push _ (plain_isData hsup)).write e.post
        refine ⟨hl0.frame h0.tr.inv hpost.tr.inv write_closed, _, ?_, hsup, by rw [if_neg hreg]⟩
        exact hpost.cast (entBytes_plain hreg).symm

/-- Entries that reach the output (an input entry named like the TOC is dropped). -/
def keep (es : List TarEnt) : List TarEnt := es.filter (fun e => !e.isToc)

def tarStream (es : List TarEnt) : Bytes := (keep es).flatMap entBytes

@[simp] theorem keep_nil : keep [] = [] := rfl
theorem keep_cons_toc {e : TarEnt} {es : List TarEnt} (h : e.isToc = true) : keep (e :: es) = keep es := by
  simp [keep, h]
theorem keep_cons_keep {e : TarEnt} {es : List TarEnt} (h : e.isToc = false) : keep (e :: es) = e :: keep es := by
  simp [keep, h]
theorem keep_append (a b : List TarEnt) : keep (a ++ b) = keep a ++ keep b := by simp [keep]
theorem tarStream_append (a b : List TarEnt) : tarStream (a ++ b) = tarStream a ++ tarStream b := by
  simp [tarStream, keep_append]

/-- Pointwise relation between two lists of the same length (core has no `Forall₂`). -/
inductive Forall2 {α β : Type} (R : α → β → Prop) : List α → List β → Prop
  | nil : Forall2 R [] []
  | cons {a b as bs} : R a b → Forall2 R as bs → Forall2 R (a :: as) (b :: bs)

theorem forall2_append {α β : Type} {R : α → β → Prop} {a a' : List α} {b b' : List β}
    (h1 : Forall2 R a b) (h2 : Forall2 R a' b') : Forall2 R (a ++ a') (b ++ b') := by
  induction h1 with
  | nil => exact h2
  | cons hr _ ih => exact Forall2.cons hr ih

/-- `g` is, group by group, the TOC of the kept entries of `es`.  `writerRun_spec`, `PartOK.groups` and
`combineGo_spec` write this proposition out. -/
def TocOf (es : List TarEnt) (g : List TocEnt) : Prop :=
  ∃ gs, g = gs.flatten ∧ Forall2 EntryToc (keep es) gs

theorem TocOf.nil : TocOf [] [] := ⟨[], rfl, Forall2.nil⟩

theorem TocOf.skip {e : TarEnt} {es : List TarEnt} {g : List TocEnt} (h : e.isToc = true)
    (ht : TocOf es g) : TocOf (e :: es) g := by
  unfold TocOf
  rw [keep_cons_toc h]
  exact ht

theorem TocOf.cons {e : TarEnt} {es : List TarEnt} {g g' : List TocEnt} (h : e.isToc = false)
    (he : EntryToc e g) : TocOf es g' → TocOf (e :: es) (g ++ g')
  | ⟨gs, hg, hf⟩ => ⟨g :: gs, by rw [hg, List.flatten_cons], by
      rw [keep_cons_keep h]
      exact Forall2.cons he hf⟩

theorem TocOf.append {a b : List TarEnt} {g g' : List TocEnt} :
    TocOf a g → TocOf b g' → TocOf (a ++ b) (g ++ g')
  | ⟨gs, hg, hf⟩, ⟨gs', hg', hf'⟩ => ⟨gs ++ gs', by rw [hg, hg', List.flatten_append], by
      rw [keep_append]
      exact forall2_append hf hf'⟩

theorem appendEntries_spec {P : Params} (hc : 0 < P.chunk) {es : List TarEnt} {w w' : W}
    {loc loc' : Loc} (hinv : Inv w) (hl : LInv P w loc)
    (h : appendEntries P (w, loc) es = some (w', loc')) :
    ∃ g, Run es w w' (tarStream es) g ∧ TocOf es g := by
  induction es generalizing w loc with
  | nil =>
    cases h
    exact ⟨[], Run.of_tr (Tr.rfl' hinv) rfl, TocOf.nil⟩
  | cons e es ih =>
    rw [appendEntries] at h
    split at h
    · cases h
    next st1 h1 =>
      obtain ⟨w1, loc1⟩ := st1
      rcases appendEntry_spec hc hinv hl h1 with ⟨htoc, rfl, rfl⟩ | ⟨htoc, hl1, g1, hrun1, hent⟩
      · obtain ⟨g, hrun, hg⟩ := ih hinv hl h
        refine ⟨g, (hrun.mono fun _ => List.mem_cons_of_mem _).cast ?_, hg.skip htoc⟩
        rw [tarStream, tarStream, keep_cons_toc htoc]
      · obtain ⟨g, hrun, hg⟩ := ih hrun1.tr.inv hl1 h
        refine ⟨g1 ++ g, (Run.append hrun1 hrun).cast ?_, hg.cons htoc hent⟩
        rw [tarStream, tarStream, keep_cons_keep htoc, List.flatMap_cons]

/-- In lossless mode a TOC-named entry is an error, so a successful call saw none. -/
theorem appendEntries_lossless {P : Params} (hl : P.lossless = true) {es : List TarEnt}
    {st st' : W × Loc} (h : appendEntries P st es = some st') : ∀ e ∈ es, e.isToc = false := by
  induction es generalizing st with
  | nil => exact fun _ he => nomatch he
  | cons x es ih =>
    rw [appendEntries] at h
    split at h
    · cases h
    next st1 h1 =>
      intro e he
      rcases List.mem_cons.mp he with rfl | he
      · unfold appendEntry at h1
        by_cases ht : e.isToc = true
        · rw [if_pos ht, if_pos hl] at h1
          cases h1
        · exact Bool.of_not_eq_true ht
      · exact ih h e he

def lossTail (P : Params) (tail : Bytes) : Bytes := if P.lossless then tail else []

theorem lossTail_nil {P : Params} {tail : Bytes} (h : ¬(P.lossless = true ∧ tail ≠ [])) :
    lossTail P tail = [] := by
  unfold lossTail
  split
  · rename_i hl
    exact Decidable.not_not.mp fun ht => h ⟨hl, ht⟩
  · rfl

theorem appendTar_spec {P : Params} (hc : 0 < P.chunk) {w w' : W} {ents : List TarEnt} {tail : Bytes}
    (hinv : Inv w) (h : appendTar P w ents tail = some w') :
    ∃ g, Run ents w w' (tarStream ents ++ lossTail P tail) g ∧ TocOf ents g := by
  unfold appendTar at h
  have hcl := closeGz_tr hinv
  split at h
  · cases h
  next w1 loc1 h1 =>
    obtain ⟨g, hrun, hg⟩ := appendEntries_spec hc hcl.inv (linv_closeGz P w) h1
    have hrun : Run ents w w1 (tarStream ents) g := (Run.of_tr hcl closeGz_toc).trans hrun
    refine ⟨g, ?_, hg⟩
    by_cases hw : P.lossless = true ∧ tail ≠ []
    · rw [if_pos hw] at h
      cases h
      refine (hrun.write tail).cast ?_
      rw [lossTail, if_pos hw.1]
    · rw [if_neg hw] at h
      cases h
      exact hrun.cast (by rw [lossTail_nil hw, List.append_nil])

theorem appendTar_lossless {P : Params} (hl : P.lossless = true) {w w' : W} {ents : List TarEnt}
    {tail : Bytes} (h : appendTar P w ents tail = some w') : ∀ e ∈ ents, e.isToc = false := by
  unfold appendTar at h
  split at h
  · cases h
  next h1 => exact appendEntries_lossless hl h1

def callEnts : List (List TarEnt × Bytes) → List TarEnt
  | [] => []
  | c :: cs => c.1 ++ callEnts cs

def callStream (P : Params) : List (List TarEnt × Bytes) → Bytes
  | [] => []
  | c :: cs => tarStream c.1 ++ lossTail P c.2 ++ callStream P cs

theorem appendTars_spec {P : Params} (hc : 0 < P.chunk) {calls : List (List TarEnt × Bytes)}
    {w w' : W} (hinv : Inv w) (h : appendTars P w calls = some w') :
    ∃ g, Run (callEnts calls) w w' (callStream P calls) g ∧ TocOf (callEnts calls) g := by
  induction calls generalizing w with
  | nil =>
    cases h
    exact ⟨[], Run.of_tr (Tr.rfl' hinv) rfl, TocOf.nil⟩
  | cons c cs ih =>
    rw [appendTars] at h
    split at h
    · cases h
    next w1 h1 =>
      obtain ⟨g1, hrun1, hg1⟩ := appendTar_spec hc hinv h1
      obtain ⟨g, hrun, hg⟩ := ih hrun1.tr.inv h
      exact ⟨g1 ++ g, hrun1.append hrun, hg1.append hg⟩

theorem appendTars_lossless {P : Params} (hl : P.lossless = true)
    {calls : List (List TarEnt × Bytes)} {w w' : W} (h : appendTars P w calls = some w') :
    ∀ e ∈ callEnts calls, e.isToc = false := by
  induction calls generalizing w with
  | nil => exact fun _ he => nomatch he
  | cons c cs ih =>
    rw [appendTars] at h
    split at h
    · cases h
    next w1 h1 =>
      exact List.forall_mem_append.mpr ⟨appendTar_lossless hl h1, ih h⟩

theorem length_expect {data : Bytes} {x : TocEnt}
    (h : x.chunkOffset + effSize x data.length ≤ data.length) :
    (expect data x).length = effSize x data.length := by
  rw [expect, List.length_take, List.length_drop]
  omega

def IsBoundary (ms : List Member) (off : Nat) : Prop :=
  ∃ init m rest, ms = init ++ m :: rest ∧ sumClen init = off

/-- Index consistency of a member list and a TOC: every data entry names a regular file among
`src`, reads its range of that file by the documented rule, and starts on a member boundary. -/
def IndexOK (ms : List Member) (src : List TarEnt) (toc : List TocEnt) : Prop :=
  ∀ x ∈ toc, x.isData = true → ∃ e ∈ src, e.isToc = false ∧ e.typ = .reg ∧ e.name = x.name ∧
    specRead ms x e.data.length = some (expect e.data x) ∧ IsBoundary ms x.offset

theorem AllGood.indexOK {ms : List Member} {src : List TarEnt} {toc : List TocEnt}
    (h : AllGood ms src toc) (hpos : AllPos ms) : IndexOK ms src toc := by
  intro x hx hd
  obtain ⟨e, he, hkept, hreg, hname, hgood, _, hfits⟩ := h x hx hd
  refine ⟨e, he, hkept, hreg, hname.symm, hgood.specRead hpos (length_expect hfits), ?_⟩
  obtain ⟨init, m, rest, ha, hs, _⟩ := hgood
  exact ⟨init, m, rest, ha, hs⟩

/-! ## TOC and footer -/

/-- What the TOC adds to the decompressed stream: the TOC tar entry for gzip, nothing otherwise. -/
def tocAddition (F : Fmt) (tt : Bytes) : Bytes :=
  match F with
  | .gzip => tt
  | _ => []

theorem wtf_members (F : Fmt) (ms : List Member) (off : Nat) (toc : List TocEnt) (tt : Bytes) (a : Nat)
    (h : Bytes) : ∃ t, (writeTocAndFooter F ms off toc tt a h).members = ms ++ t ∧ AllPos t ∧
      streamOf t = tocAddition F tt := by
  cases F
  · exact ⟨[⟨tt, a + 1⟩], rfl, fun m hm => by rw [List.mem_singleton.mp hm]; exact Nat.succ_pos a,
      List.append_nil tt⟩
  · exact ⟨[⟨[], 8 + (a + 1)⟩], rfl, fun m hm => by rw [List.mem_singleton.mp hm]; exact Nat.succ_pos _,
      rfl⟩
  · exact ⟨[], (List.append_nil ms).symm, fun _ hm => (nomatch hm), rfl⟩

theorem wtf_toc (F : Fmt) (ms : List Member) (off : Nat) (toc : List TocEnt) (tt : Bytes) (a : Nat)
    (h : Bytes) : (writeTocAndFooter F ms off toc tt a h).toc = toc := by
  cases F <;> rfl

theorem wtf_ext (F : Fmt) (ms : List Member) (off : Nat) (toc : List TocEnt) (tt : Bytes) (a : Nat)
    (h : Bytes) : Ext ms (writeTocAndFooter F ms off toc tt a h).members := by
  obtain ⟨t, ht, _⟩ := wtf_members F ms off toc tt a h
  rw [ht]
  exact Ext.append ms t

theorem wtf_pos (F : Fmt) (ms : List Member) (off : Nat) (toc : List TocEnt) (tt : Bytes) (a : Nat)
    (h : Bytes) (hp : AllPos ms) : AllPos (writeTocAndFooter F ms off toc tt a h).members := by
  obtain ⟨t, ht, hpt, _⟩ := wtf_members F ms off toc tt a h
  rw [ht]
  exact hp.append hpt

theorem wtf_stream (F : Fmt) (ms : List Member) (off : Nat) (toc : List TocEnt) (tt : Bytes) (a : Nat)
    (h : Bytes) : streamOf (writeTocAndFooter F ms off toc tt a h).members = streamOf ms ++ tocAddition F tt := by
  obtain ⟨t, ht, _, hst⟩ := wtf_members F ms off toc tt a h
  rw [ht, streamOf_append, hst]

theorem wtf_hashed (F : Fmt) (ms : List Member) (off : Nat) (toc : List TocEnt) (tt : Bytes) (a : Nat)
    (h : Bytes) : (writeTocAndFooter F ms off toc tt a h).hashed = h ++ tocAddition F tt := by
  cases F
  · rfl
  · exact (List.append_nil h).symm
  · exact (List.append_nil h).symm

/-- The footer's TOC offset is where the data members end (zstd: plus the 8-byte frame header),
and the blob is the members followed by a footer of the format's fixed size. -/
theorem wtf_layout (F : Fmt) (ms : List Member) (toc : List TocEnt) (tt : Bytes) (a : Nat) (h : Bytes) :
    let b := writeTocAndFooter F ms (sumClen ms) toc tt a h
    b.size = sumClen b.members + F.footerLen ∧
    (F ≠ .external → b.tocOff = some (sumClen ms + F.tocSkip)) ∧ (F = .external → b.tocOff = none) := by
  cases F <;> simp [writeTocAndFooter, Fmt.footerLen, Fmt.tocSkip]

/-- What both `Build` and a Writer run establish about their blob. -/
structure BlobOK (src : List TarEnt) (stream : Bytes) (F : Fmt) (tocTar : List TocEnt → Bytes)
    (b : Blob) : Prop where
  pos : AllPos b.members
  good : AllGood b.members src b.toc
  toc : TocOf src b.toc
  stream : streamOf b.members = stream ++ tocAddition F (tocTar b.toc)

theorem wtf_allGood {F : Fmt} {ms : List Member} {src : List TarEnt} {toc : List TocEnt} (off : Nat)
    (tt : Bytes) (a : Nat) (h : Bytes) (hg : AllGood ms src toc) :
    AllGood (writeTocAndFooter F ms off toc tt a h).members src
      (writeTocAndFooter F ms off toc tt a h).toc := by
  rw [wtf_toc]
  exact hg.mono (wtf_ext F ms off toc tt a h) fun _ he => he

/-! ## Writer runs -/

theorem effChunk_pos (c : Int) : 0 < effChunk c := by
  unfold effChunk
  split
  · omega
  · omega

/-- `s` is a free proposition: the last conjunct holds outright (`writerRun_sound` takes `True`). -/
theorem writerRun_spec {P : Params} {F : Fmt} {calls : List (List TarEnt × Bytes)}
    {tocTar : List TocEnt → Bytes} {orcF orcC : List Nat} {a : Nat} {b : Blob} (hc : 0 < P.chunk)
    (s : Prop)
    (h : writerRun P F calls tocTar orcF orcC a = some b) :
    ∃ ms, AllPos ms ∧ streamOf ms = callStream P calls ∧
      b = writeTocAndFooter F ms (sumClen ms) b.toc (tocTar b.toc) a (streamOf ms) ∧
      (P.lossless = true → ∀ e ∈ callEnts calls, e.isToc = false) ∧
      (∃ gs, b.toc = gs.flatten ∧ Forall2 EntryToc (keep (callEnts calls)) gs) ∧
      (s → AllGood ms (callEnts calls) b.toc) := by
  unfold writerRun at h
  split at h
  · cases h
  next w hw =>
    cases h
    obtain ⟨g, hrun, hg⟩ := appendTars_spec hc (inv_fresh orcF orcC) hw
    have hcg := closeGz_final hrun.tr.inv
    have htoc : w.toc = g := hrun.toc
    have hbtoc : (close F w tocTar a).toc = g := by rw [close, wtf_toc, closeGz_toc, htoc]
    refine ⟨(closeGz w).closed, hcg.pos, ?_, ?_, fun hl => appendTars_lossless hl hw,
      hbtoc ▸ hg, ?_⟩
    · rw [hcg.stream, hrun.tr.stream]
      rfl
    · rw [hbtoc]
      simp only [close]
      rw [closeGz_toc, htoc, hcg.cw, hcg.hash]
    · rw [hbtoc]
      exact fun _ => hrun.good.mono hcg.ext fun _ he => he

theorem writerRun_sound {P : Params} {F : Fmt} {calls : List (List TarEnt × Bytes)}
    {tocTar : List TocEnt → Bytes} {orcF orcC : List Nat} {a : Nat} {b : Blob} (hc : 0 < P.chunk)
    (h : writerRun P F calls tocTar orcF orcC a = some b) :
    BlobOK (callEnts calls) (callStream P calls) F tocTar b ∧ b.hashed = streamOf b.members ∧
      (P.lossless = true → ∀ e ∈ callEnts calls, e.isToc = false) := by
  obtain ⟨ms, hpos, hst, hb, hlos, hgs, hag⟩ := writerRun_spec hc True h
  refine ⟨⟨hb ▸ wtf_pos _ _ _ _ _ _ _ hpos, ?_, hgs, ?_⟩, ?_, hlos⟩
  · have := wtf_allGood (F := F) (sumClen ms) (tocTar b.toc) a (streamOf ms) (hag trivial)
    rwa [← hb] at this
  · rw [hb, wtf_stream, wtf_toc, hst]
  · rw [hb, wtf_stream, wtf_hashed]

/-- The source bytes of a list of calls: every entry's raw bytes and data, then the tail. -/
def inputBytes : List (List TarEnt × Bytes) → Bytes
  | [] => []
  | c :: cs => c.1.flatMap entBytes ++ c.2 ++ inputBytes cs

theorem callStream_lossless (P : Params) (hl : P.lossless = true) :
    ∀ (calls : List (List TarEnt × Bytes)), (∀ e ∈ callEnts calls, e.isToc = false) →
      callStream P calls = inputBytes calls := by
  intro calls
  induction calls with
  | nil => intro _; rfl
  | cons c cs ih =>
    intro hlos
    have h1 : keep c.1 = c.1 :=
      List.filter_eq_self.mpr fun e he => by rw [hlos e (List.mem_append_left _ he)]; rfl
    rw [callStream, inputBytes, tarStream, h1, lossTail, if_pos hl,
      ih fun e he => hlos e (List.mem_append_right _ he)]

/-! ## `closeWithCombine` -/

/-- `rebase` only moves `offset`, and only of data entries; every other field, hence `effSize`,
`isData`, `expect` and `Group`, is untouched (by `rfl` once `rebase` is in this form). -/
theorem rebase_eq (off : Nat) (x : TocEnt) :
    rebase off x = { x with offset := x.offset + if x.isData then off else 0 } := by
  have hd : x.isData = true ↔ (x.typ = .reg ∧ 0 < x.size) ∨ x.typ = .chunk := by simp [TocEnt.isData]
  unfold rebase
  by_cases h : (x.typ = .reg ∧ 0 < x.size) ∨ x.typ = .chunk
  · rw [if_pos h, if_pos (hd.mpr h)]
  · rw [if_neg h, if_neg (mt hd.mp h)]
    rfl

theorem rebase_innerOffset (off : Nat) (x : TocEnt) : (rebase off x).innerOffset = x.innerOffset := by
  rw [rebase_eq]

theorem group_rebase (off : Nat) {name : String} {total : Nat} :
    ∀ {first : Bool} {pos : Nat} {g : List TocEnt}, Group name total first pos g →
      Group name total first pos (g.map (rebase off)) := by
  intro first pos g
  induction g generalizing first pos with
  | nil => exact id
  | cons e es ih =>
    intro h
    rw [List.map_cons, rebase_eq]
    -- `Group` does not look at `offset`
    exact show Group name total first pos (e :: _) from Group.cons h.head (ih h.tail)

theorem entryToc_rebase (off : Nat) {e : TarEnt} {g : List TocEnt} (h : EntryToc e g) :
    EntryToc e (g.map (rebase off)) := by
  obtain ⟨hs, h⟩ := h
  refine ⟨hs, ?_⟩
  by_cases hr : e.typ = .reg ∧ e.data ≠ []
  · rw [if_pos hr] at h ⊢
    exact group_rebase off h
  · rw [if_neg hr] at h ⊢
    rw [h, List.map_singleton, rebase_eq, plain_isData hs]
    rfl

theorem TocOf.rebase (off : Nat) {es : List TarEnt} {g : List TocEnt} :
    TocOf es g → TocOf es (g.map (SV.Writer.rebase off)) := by
  rintro ⟨gs, rfl, hf⟩
  refine ⟨gs.map (List.map (SV.Writer.rebase off)), List.map_flatten, ?_⟩
  generalize keep es = k at hf
  induction hf with
  | nil => exact Forall2.nil
  | cons hr _ ih => exact Forall2.cons (entryToc_rebase off hr) ih

/-- Placing a member list behind `pre` shifts the offsets of its data entries by the size of `pre`,
which is what `rebase` adds. -/
theorem AllGood.rebase {ms : List Member} {src : List TarEnt} {toc : List TocEnt}
    (h : AllGood ms src toc) (pre post : List Member) :
    AllGood (pre ++ ms ++ post) src (toc.map (SV.Writer.rebase (sumClen pre))) := by
  intro x hx hd
  obtain ⟨x0, hx0, rfl⟩ := List.mem_map.mp hx
  rw [rebase_eq] at hd ⊢
  obtain ⟨e, he, hkept, hreg, hname, hgood, hfits⟩ := h x0 hx0 hd
  rw [show x0.isData = true from hd, if_pos rfl]
  exact ⟨e, he, hkept, hreg, hname, hgood.shift pre post, hfits⟩

/-- What a sub-blob writer handed to `closeWithCombine` must satisfy, relative to its own part. -/
structure PartOK (w : W) (p : List TarEnt) : Prop where
  inv : Inv w
  stream : streamOf w.view = tarStream p
  groups : ∃ gs, w.toc = gs.flatten ∧ Forall2 EntryToc (keep p) gs
  good : AllGood w.view p w.toc

/-- `pre` (any members of size `off`; `[]` in `build_sound`) is what the induction needs: the sub-blobs
after the first stand behind the first.  Only the `AllGood` conjunct speaks of it. -/
theorem combineGo_spec :
    ∀ (ws : List W) (parts : List (List TarEnt)) (off : Nat) (pre : List Member),
      Forall2 PartOK ws parts → sumClen pre = off →
      AllPos (combineGo ws off).1 ∧
      (combineGo ws off).2.2 = off + sumClen (combineGo ws off).1 ∧
      streamOf (combineGo ws off).1 = tarStream parts.flatten ∧
      (∃ gs, (combineGo ws off).2.1 = gs.flatten ∧ Forall2 EntryToc (keep parts.flatten) gs) ∧
      AllGood (pre ++ (combineGo ws off).1) parts.flatten (combineGo ws off).2.1 := by
  intro ws parts off pre h
  induction h generalizing off pre with
  | nil =>
    intro _
    exact ⟨fun _ hm => (nomatch hm), rfl, rfl, TocOf.nil, fun _ hx => nomatch hx⟩
  | @cons w p ws parts hw _ ih =>
    intro hpre
    have hcg := closeGz_final hw.inv
    obtain ⟨ih1, ih2, ih3, ih4, ih5⟩ :=
      ih (off + (closeGz w).cwN) (pre ++ (closeGz w).closed) (by rw [sumClen_append, hpre, hcg.cw])
    have hg : AllGood (closeGz w).closed p w.toc := hw.good.mono hcg.ext fun _ he => he
    subst hpre
    simp only [combineGo, closeGz_toc]
    refine ⟨hcg.pos.append ih1, ?_, ?_, (TocOf.rebase _ hw.groups).append ih4, ?_⟩
    · rw [ih2, sumClen_append, hcg.cw, Nat.add_assoc]
    · rw [streamOf_append, hcg.stream, hw.stream, ih3, List.flatten_cons, tarStream_append]
    · rw [List.flatten_cons, ← List.append_assoc]
      exact ((hg.rebase pre _).mono (Ext.refl _) fun _ => List.mem_append_left _).append
        (ih5.mono (Ext.refl _) fun _ => List.mem_append_right _)

/-! ## `Build` -/

theorem divideGo_flatten (unit : Nat) :
    ∀ (es cur : List TarEnt) (o n : Nat), (divideGo unit es cur o n).flatten = cur ++ es := by
  intro es
  induction es with
  | nil => intro cur o n; simp [divideGo]
  | cons e es ih =>
    intro cur o n
    rw [divideGo]
    split
    · rw [List.flatten_cons, ih, List.nil_append, List.append_assoc]
      rfl
    · rw [ih, List.append_assoc]
      rfl

theorem divideGo_ne_nil (unit : Nat) :
    ∀ (es cur : List TarEnt) (o n : Nat), divideGo unit es cur o n ≠ [] := by
  intro es
  induction es with
  | nil => intro cur o n; exact List.cons_ne_nil _ _
  | cons e es ih =>
    intro cur o n
    rw [divideGo]
    split
    · exact List.cons_ne_nil _ _
    · exact ih _ _ _

theorem divideEntries_spec {n : Nat} {es : List TarEnt} {parts : List (List TarEnt)}
    (h : divideEntries n es = some parts) : n ≠ 0 ∧ parts.flatten = es ∧ parts ≠ [] := by
  unfold divideEntries at h
  split at h
  · cases h
  · rename_i hn
    cases h
    exact ⟨hn, divideGo_flatten _ _ _ _ _, divideGo_ne_nil _ _ _ _ _⟩

theorem partOK_of_appendTar {P : Params} (hc : 0 < P.chunk) {f c : List Nat} {p : List TarEnt} {w : W}
    (h : appendTar P { orcF := f, orcC := c } p [] = some w) : PartOK w p := by
  obtain ⟨g, hrun, hg⟩ := appendTar_spec hc (inv_fresh f c) h
  have htoc : w.toc = g := hrun.toc
  refine ⟨hrun.tr.inv, ?_, htoc ▸ hg, htoc ▸ hrun.good⟩
  rw [hrun.tr.stream, lossTail_nil fun h => h.2 rfl, List.append_nil]
  rfl

theorem buildParts_spec (P : Params) (hc : 0 < P.chunk) :
    ∀ (parts : List (List TarEnt)) (f c : List Nat) (ws : List W),
      buildParts P parts f c = some ws → Forall2 PartOK ws parts := by
  intro parts
  induction parts with
  | nil =>
    intro f c ws h
    cases h
    exact Forall2.nil
  | cons p ps ih =>
    intro f c ws h
    rw [buildParts] at h
    split at h
    · cases h
    next w h1 =>
      split at h
      · cases h
      next ws' h2 =>
        cases h
        exact Forall2.cons (partOK_of_appendTar hc h1) (ih _ _ _ h2)

theorem build_spec {F : Fmt} {chunk minChunk workers : Nat} {ents : List TarEnt}
    {tocTar : List TocEnt → Bytes} {orcF orcC : List Nat} {a : Nat} {b : Blob} (hc : 0 < chunk)
    (h : build F chunk minChunk workers ents tocTar orcF orcC a = some b) :
    ∃ parts ws, parts.flatten = ents ∧ Forall2 PartOK ws parts ∧
      (0 < minChunk → parts = [ents]) ∧ (minChunk = 0 → divideEntries workers ents = some parts) ∧
      b = writeTocAndFooter F (combineGo ws 0).1 (combineGo ws 0).2.2 (combineGo ws 0).2.1
            (tocTar (combineGo ws 0).2.1) a [] := by
  unfold build at h
  simp only at h
  split at h
  · cases h
  next parts hp =>
    split at h
    · cases h
    next ws hw =>
      cases h
      refine ⟨parts, ws, ?_, buildParts_spec _ hc parts orcF orcC ws hw, ?_, ?_, rfl⟩
      · split at hp
        · cases hp
          exact List.append_nil ents
        · exact (divideEntries_spec hp).2.1
      · intro hm
        rw [if_pos hm] at hp
        cases hp
        rfl
      · intro hm
        rw [if_neg (by omega)] at hp
        exact hp

theorem build_sound {F : Fmt} {chunk minChunk workers : Nat} {ents : List TarEnt}
    {tocTar : List TocEnt → Bytes} {orcF orcC : List Nat} {a : Nat} {b : Blob} (hc : 0 < chunk)
    (h : build F chunk minChunk workers ents tocTar orcF orcC a = some b) :
    BlobOK ents (tarStream ents) F tocTar b := by
  obtain ⟨parts, ws, rfl, hok, _, _, rfl⟩ := build_spec hc h
  obtain ⟨hpos, _, hst, hgs, hag⟩ := combineGo_spec ws parts 0 [] hok rfl
  exact ⟨wtf_pos _ _ _ _ _ _ _ hpos, wtf_allGood _ _ _ _ hag, wtf_toc .. ▸ hgs,
    by rw [wtf_stream, wtf_toc, hst]⟩

/-! ## The checker -/

theorem checkChunk_sound {ms : List Member} {e : TocEnt} {f : FileC} {pos : Nat}
    (h : checkChunk ms e f pos = true) :
    f.name = e.name ∧ specRead ms e f.content.length = some (expect f.content e) ∧
      e.chunkOffset + effSize e f.content.length ≤ f.content.length := by
  simp only [checkChunk, Bool.and_eq_true, decide_eq_true_eq, beq_iff_eq] at h
  obtain ⟨⟨⟨⟨h1, h2⟩, _⟩, h4⟩, h5⟩ := h
  exact ⟨h1.symm, h5, h2 ▸ h4⟩

/-- The files the remaining TOC may still refer to. -/
def curFiles (files : List FileC) (cur : Option (FileC × Nat)) : List FileC :=
  match cur with
  | none => files
  | some (f, _) => f :: files

theorem mem_curFiles {f : FileC} {files : List FileC} (h : f ∈ files) (cur : Option (FileC × Nat)) :
    f ∈ curFiles files cur := by
  cases cur with
  | none => exact h
  | some c => exact List.mem_cons_of_mem _ h

theorem checkGo_sound (ms : List Member) :
    ∀ (toc : List TocEnt) (files : List FileC) (cur : Option (FileC × Nat)),
      checkGo ms toc files cur = true →
      ∀ e ∈ toc, e.isData = true → ∃ f ∈ curFiles files cur, f.name = e.name ∧
        specRead ms e f.content.length = some (expect f.content e) ∧
        e.chunkOffset + effSize e f.content.length ≤ f.content.length := by
  intro toc
  induction toc with
  | nil => intro files cur _ e he; cases he
  | cons x es ih =>
    intro files cur h e he hd
    unfold checkGo at h
    -- `x` itself is answered by `checkChunk`, a later entry by the rest of the walk, whose
    -- files are among the present ones
    by_cases hreg : x.typ = .reg
    · simp only [hreg, if_true] at h
      cases files with
      | nil => cases h
      | cons f fs =>
        simp only [Bool.and_eq_true, decide_eq_true_eq] at h
        obtain ⟨_, hrest⟩ := h
        by_cases hz : x.size = 0
        · rw [if_pos hz] at hrest
          rcases List.mem_cons.mp he with rfl | he
          · simp [TocEnt.isData, hreg, hz] at hd
          · exact (ih fs none hrest e he hd).imp fun _ h =>
              ⟨mem_curFiles (List.mem_cons_of_mem _ h.1) cur, h.2⟩
        · rw [if_neg hz, Bool.and_eq_true] at hrest
          rcases List.mem_cons.mp he with rfl | he
          · exact ⟨f, mem_curFiles List.mem_cons_self cur, checkChunk_sound hrest.1⟩
          · exact (ih fs _ hrest.2 e he hd).imp fun _ h => ⟨mem_curFiles h.1 cur, h.2⟩
    · simp only [hreg, if_false] at h
      by_cases hch : x.typ = .chunk
      · simp only [hch, if_true] at h
        cases cur with
        | none => cases h
        | some c =>
          simp only [Bool.and_eq_true] at h
          rcases List.mem_cons.mp he with rfl | he
          · exact ⟨c.1, List.mem_cons_self, checkChunk_sound h.1⟩
          · exact ih files _ h.2 e he hd
      · simp only [hch, if_false, Bool.and_eq_true] at h
        rcases List.mem_cons.mp he with rfl | he
        · simp [TocEnt.isData, hreg, hch] at hd
        · exact (ih files none h.2 e he hd).imp fun _ h => ⟨mem_curFiles h.1 cur, h.2⟩

/-! ## Content by name -/

/-- `content(name)`: the data of the regular file entry called `name` that reaches the output. -/
def contentOf (ents : List TarEnt) (name : String) : Option Bytes :=
  (ents.find? (fun e => !e.isToc && (e.typ == Kind.reg && e.name == name))).map (·.data)

/-- No two regular files of the (kept) entries share a name - what `importTar`'s "last duplicate
wins" establishes for `Build`. -/
def UniqueRegNames (ents : List TarEnt) : Prop :=
  ∀ a ∈ ents, ∀ b ∈ ents, a.isToc = false → b.isToc = false → a.typ = .reg → b.typ = .reg →
    a.name = b.name → a = b

theorem uniqueRegNames_of_nodup {ents : List TarEnt} (h : (ents.map (·.name)).Nodup) :
    UniqueRegNames ents := by
  induction ents with
  | nil => exact fun _ ha => nomatch ha
  | cons x xs ih =>
    rw [List.map_cons, List.nodup_cons] at h
    have hx : ∀ y ∈ xs, x.name ≠ y.name := fun y hy hn => h.1 (hn ▸ List.mem_map_of_mem hy)
    intro a ha b hb _ _ _ _ hn
    rcases List.mem_cons.mp ha with rfl | ha' <;> rcases List.mem_cons.mp hb with rfl | hb'
    · rfl
    · exact absurd hn (hx b hb')
    · exact absurd hn.symm (hx a ha')
    · exact ih h.2 a ha' b hb' ‹_› ‹_› ‹_› ‹_› hn

theorem contentOf_eq {ents : List TarEnt} {e : TarEnt} (hu : UniqueRegNames ents) (he : e ∈ ents)
    (h1 : e.isToc = false) (h2 : e.typ = .reg) : contentOf ents e.name = some e.data := by
  unfold contentOf
  cases h : ents.find? (fun a => !a.isToc && (a.typ == Kind.reg && a.name == e.name)) with
  | none =>
    have := List.find?_eq_none.mp h e he
    simp [h1, h2] at this
  | some e' =>
    have hp := List.find?_some h
    have hm := List.mem_of_find?_eq_some h
    simp at hp
    have : e' = e := hu e' hm e he hp.1 h1 hp.2.1 h2 hp.2.2
    simp [this]

end SV.Writer
