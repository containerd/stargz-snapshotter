/-
C02, metadata: the trees both stores build from the TOC the builder writes for a tar archive show, path by path,
what `tarView` describes (`both_trees_match`): `Toc.R.trees_agree` says how both trees resolve names
(`Toc.R.look`), `look_matches` that what `look` finds is what `tarView` describes.
The first section (namespace `SV.LazyRead`) reads `fileModeToSystemMode` back bit group by bit group, for C02's
`attr_conversion_*`.
-/
import SV.Model.LazyRead
import SV.Lemmas.TocAgree

namespace SV.LazyRead

/-! ## `fileModeToSystemMode`, bit group by bit group -/

theorem typeBits_mod (t : NType) : typeBits t % 4096 = 0 := by cases t <;> rfl

theorem fileModeToSystemMode_eq (m : FileMode) : fileModeToSystemMode m =
    m.perm % 512 + typeBits m.type + 2048 * m.setuid.toNat + 1024 * m.setgid.toNat + 512 * m.sticky.toNat := by
  simp only [fileModeToSystemMode, S_ISUID, S_ISGID, S_ISVTX, Toc.ite_eq_mul_toNat]

/-- the bit groups of a system mode are disjoint, so that `+` is `|`: each part can be read back -/
theorem sysMode_bits (p q u g s x : Nat) (hp : p < 512) (hu : u ≤ 1) (hg : g ≤ 1) (hs : s ≤ 1)
    (hx : x = p + 512 * (s + 2 * (g + 2 * (u + 2 * q)))) :
    x % 512 = p ∧ x / 512 % 2 = s ∧ x / 1024 % 2 = g ∧ x / 2048 % 2 = u ∧ x / 4096 = q := by
  have peel : ∀ b m : Nat, b ≤ 1 → (b + 2 * m) / 2 = m ∧ (b + 2 * m) % 2 = b := fun b m h => by omega
  have h9 : x / 512 = s + 2 * (g + 2 * (u + 2 * q)) := by
    rw [hx, Nat.add_mul_div_left _ _ (by decide), Nat.div_eq_of_lt hp, Nat.zero_add]
  have h10 : x / 1024 = g + 2 * (u + 2 * q) := by
    rw [show 1024 = 512 * 2 from rfl, ← Nat.div_div_eq_div_mul, h9, (peel s _ hs).1]
  have h11 : x / 2048 = u + 2 * q := by
    rw [show 2048 = 1024 * 2 from rfl, ← Nat.div_div_eq_div_mul, h10, (peel g _ hg).1]
  have h12 : x / 4096 = q := by
    rw [show 4096 = 2048 * 2 from rfl, ← Nat.div_div_eq_div_mul, h11, (peel u _ hu).1]
  rw [h9, h10, h11, h12, (peel s _ hs).2, (peel g _ hg).2, (peel u _ hu).2, hx, Nat.add_mul_mod_self_left,
    Nat.mod_eq_of_lt hp]
  exact ⟨rfl, rfl, rfl, rfl, rfl⟩

theorem fileModeToSystemMode_bits (m : FileMode) :
    fileModeToSystemMode m % 512 = m.perm % 512 ∧
    fileModeToSystemMode m / 512 % 2 = m.sticky.toNat ∧
    fileModeToSystemMode m / 1024 % 2 = m.setgid.toNat ∧
    fileModeToSystemMode m / 2048 % 2 = m.setuid.toNat ∧
    fileModeToSystemMode m / 4096 = typeBits m.type / 4096 := by
  have hT := Nat.div_add_mod (typeBits m.type) 4096
  rw [typeBits_mod, Nat.add_zero] at hT
  refine sysMode_bits _ _ _ _ _ _ (Nat.mod_lt _ (by decide)) m.setuid.toNat_le m.setgid.toNat_le m.sticky.toNat_le ?_
  rw [fileModeToSystemMode_eq]
  generalize typeBits m.type / 4096 = q at hT ⊢
  omega

theorem toNat_decide_mod_two (a : Nat) : (decide (a % 2 = 1)).toNat = a % 2 := by
  rcases Nat.mod_two_eq_zero_or_one a with h | h <;> simp [h]

theorem digits_mod_4096 (n : Nat) :
    n % 4096 = n % 512 + 512 * (n / 512 % 2 + 2 * (n / 1024 % 2 + 2 * (n / 2048 % 2))) := by
  rw [show 4096 = 512 * (2 * (2 * 2)) from rfl, Nat.mod_mul, Nat.mod_mul, Nat.mod_mul, Nat.div_div_eq_div_mul,
    Nat.div_div_eq_div_mul]

theorem fileModeToSystemMode_toAttr (n : Node) :
    fileModeToSystemMode n.toAttr.mode = typeBits n.type + n.mode % 4096 := by
  simp only [fileModeToSystemMode_eq, Node.toAttr, toNat_decide_mod_two, Nat.mod_mod, digits_mod_4096 n.mode,
    Nat.mul_add, ← Nat.mul_assoc, Nat.reduceMul]
  ac_rfl

end SV.LazyRead

namespace SV.MetaTar

/-! ## The builder's entry translation -/

def typeStr : LazyRead.EType → String
  | .reg => "reg" | .dir => "dir" | .symlink => "symlink" | .hardlink => "hardlink"
  | .char => "char" | .block => "block" | .fifo => "fifo"

def ntStr : LazyRead.NType → String
  | .reg => "reg" | .dir => "dir" | .symlink => "symlink" | .char => "char" | .block => "block"
  | .fifo => "fifo" | .socket => "socket"

/-- `estargz.(*Writer).appendTar`: the TOC entry written for one tar header (payload / chunk fields
left at their zero values: chunk tables are C02's other half).  `xv` renders an xattr value
(`[]byte` in Go) as the TOC model's string. -/
def tocOfEntry (xv : LazyRead.Bytes → String) (e : LazyRead.TarEntry) : Toc.Entry :=
  { name := Toc.renderPath e.name
    type := typeStr e.type
    size := if e.type = .reg then (e.size : Int) else 0
    linkName := if e.type = .symlink then e.link
                else if e.type = .hardlink then Toc.renderPath e.linkPath else ""
    mode := (e.mode : Int)
    uid := (e.uid : Int)
    gid := (e.gid : Int)
    devMajor := if e.type = .char ∨ e.type = .block then (e.devMajor : Int) else 0
    devMinor := if e.type = .char ∨ e.type = .block then (e.devMinor : Int) else 0
    xattrs := e.xattrs.map fun kv => (kv.1, xv kv.2) }

/-- `importTar`: an entry whose (clean) name is already present replaces it and moves to the end —
last duplicate wins, at the position of the last occurrence.  This is word for word the `let es` of
`LazyRead.tarView`: specification and builder share `dedupLast`, so that the last duplicate wins is built into
both sides here and not a checked fact about the builder. -/
def importTar (tar : List LazyRead.TarEntry) : List (LazyRead.Path × LazyRead.TarEntry) :=
  LazyRead.dedupLast (tar.map fun e => (LazyRead.cleanName e.name, e))

/-- the TOC (non-chunk entries) `Build` writes for a tar -/
def tocOfTar (xv : LazyRead.Bytes → String) (tar : List LazyRead.TarEntry) : List Toc.Entry :=
  (importTar tar).map fun x => tocOfEntry xv x.2

/-! ## Plain names -/

def PlainPath (p : LazyRead.Path) : Prop := ∀ c ∈ p, Toc.Plain c.toList

instance (c : List Char) : Decidable (Toc.Plain c) := by unfold Toc.Plain; infer_instance
instance (p : LazyRead.Path) : Decidable (PlainPath p) := by unfold PlainPath; infer_instance

theorem cleanGo_plain (p acc : List String) (h : PlainPath p) :
    LazyRead.cleanGo acc p = acc.reverse ++ p := by
  induction p generalizing acc with
  | nil => simp [LazyRead.cleanGo]
  | cons c cs ih =>
    have hc := h c (by simp)
    have h1 : ¬ (c = "" ∨ c = ".") := by
      rintro (e | e)
      · exact hc.1 (by rw [e]; rfl)
      · exact hc.2.1 (by rw [e]; rfl)
    have h2 : ¬ c = ".." := fun e => hc.2.2.1 (by rw [e]; rfl)
    unfold LazyRead.cleanGo
    rw [if_neg h1, if_neg h2, ih (c :: acc) (fun x hx => h x (List.mem_cons_of_mem _ hx))]
    simp

theorem cleanName_plain (p : LazyRead.Path) (h : PlainPath p) : LazyRead.cleanName p = p := by
  unfold LazyRead.cleanName; rw [cleanGo_plain p [] h]; simp

/-! ## Facts about the TOC model alone -/

theorem goFileMode_mod (t : String) (m : Nat) :
    Toc.goFileMode t ((m % 4096 : Nat) : Int) = Toc.goFileMode t (m : Int) := by
  have h : ((m % 4096 : Nat) : Int) % 4096 = (m : Int) % 4096 := by
    rw [Int.natCast_emod]; exact Int.emod_emod_of_dvd _ (Int.dvd_refl _)
  unfold Toc.goFileMode
  rw [h]

theorem walk_prefix (kids : Toc.Key → Toc.Kids) : ∀ (p r : Toc.Path) (k c : Toc.Key),
    Toc.walkKids kids k (p ++ r) = some c → ∃ c', Toc.walkKids kids k p = some c' := by
  intro p
  induction p with
  | nil => intro r k c _; exact ⟨k, rfl⟩
  | cons b rest ih =>
    intro r k c h
    simp only [List.cons_append, Toc.walkKids] at h ⊢
    cases hg : Toc.getKid b (kids k) with
    | none => rw [hg] at h; cases h
    | some c1 => rw [hg] at h; exact ih r c1 c h

/-! ## The specification's nodes and the attributes that match them -/

/-- The attributes the metadata store holds for a node (`metadata.Attr`, TOC model) are the ones the
specification gives the node: Go file mode of (type, header mode), size, owner, device numbers,
symlink target, xattrs.  The link count is NOT part of this relation (see `MetadataEqualTar` in Props/C02.lean). -/
structure AttrMatches (xv : LazyRead.Bytes → String) (a : Toc.Attr) (n : LazyRead.Node) : Prop where
  mode : a.mode = Toc.goFileMode (ntStr n.type) (n.mode : Int)
  size : a.size = (n.size : Int)
  uid : a.uid = (n.uid : Int)
  gid : a.gid = (n.gid : Int)
  devMajor : a.devMajor = (n.devMajor : Int)
  devMinor : a.devMinor = (n.devMinor : Int)
  link : n.type = .symlink → a.linkName = n.link
  xattrs : a.xattrs = n.xattrs.map fun kv => (kv.1, xv kv.2)

/-- word for word the `let allPaths` of `LazyRead.tarView`: the `tarView_*` lemmas below unfold `allPaths` and
`importTar` in their hypotheses and rely on the result being syntactically `tarView`'s text -/
def allPaths (live : List (LazyRead.Path × LazyRead.TarEntry)) : List LazyRead.Path :=
  (([] : LazyRead.Path) :: live.map (·.1) ++ (live.map (·.1)).flatMap LazyRead.ancestors).eraseDups

theorem mem_allPaths (live : List (LazyRead.Path × LazyRead.TarEntry)) (p : LazyRead.Path) :
    (allPaths live).contains p = true ↔
      p = [] ∨ (∃ x ∈ live, x.1 = p) ∨ (∃ x ∈ live, ∃ n, n < x.1.length ∧ p = x.1.take n) := by
  unfold allPaths
  simp only [List.contains_eq_mem, List.mem_eraseDups, decide_eq_true_eq, List.cons_append, List.mem_cons,
    List.mem_append, List.mem_map, List.mem_flatMap, LazyRead.ancestors, List.mem_range]
  constructor
  · rintro (h | ⟨x, hx, e⟩ | ⟨_, ⟨x, hx, rfl⟩, n, hn, e⟩)
    · exact Or.inl h
    · exact Or.inr (Or.inl ⟨x, hx, e⟩)
    · exact Or.inr (Or.inr ⟨x, hx, n, hn, e.symm⟩)
  · rintro (h | ⟨x, hx, e⟩ | ⟨x, hx, n, hn, e⟩)
    · exact Or.inl h
    · exact Or.inr (Or.inl ⟨x, hx, e⟩)
    · exact Or.inr (Or.inr ⟨x.1, ⟨x, hx, rfl⟩, n, hn, e.symm⟩)

/-- the specification's node for the header `e`, all but its link count -/
structure IsNodeOf (e : LazyRead.TarEntry) (n : LazyRead.Node) : Prop where
  type : n.type = LazyRead.ntypeOf e.type
  mode : n.mode = e.mode % 4096
  uid : n.uid = e.uid
  gid : n.gid = e.gid
  size : n.size = (if e.type = .reg then e.size else 0)
  link : n.link = (if e.type = .symlink then e.link else "")
  devMajor : n.devMajor = (if e.type = .char ∨ e.type = .block then e.devMajor else 0)
  devMinor : n.devMinor = (if e.type = .char ∨ e.type = .block then e.devMinor else 0)
  xattrs : n.xattrs = e.xattrs
  content : n.content = e.content

theorem tarView_none (tar : List LazyRead.TarEntry) (p : LazyRead.Path)
    (h : (allPaths (importTar tar)).contains p = false) : (LazyRead.tarView tar).node p = none := by
  unfold LazyRead.tarView
  unfold allPaths importTar at h
  simp only [h, Bool.not_false, if_true]

theorem tarView_implicit (xv : LazyRead.Bytes → String) (tar : List LazyRead.TarEntry) (p : LazyRead.Path)
    (h : p = [] ∨ ∃ x ∈ importTar tar, ∃ n, n < x.1.length ∧ p = x.1.take n)
    (hf : LazyRead.findEntry (importTar tar) p = none) (nl : Int) :
    ∃ n, (LazyRead.tarView tar).node p = some n ∧
      AttrMatches xv { mode := Toc.goFileMode "dir" 0o755, numLink := nl } n := by
  have hc := (mem_allPaths (importTar tar) p).mpr (h.imp_right Or.inr)
  unfold LazyRead.tarView
  unfold allPaths importTar at hc
  unfold importTar at hf
  simp only [hc, hf, Bool.not_true, Bool.false_eq_true, if_false]
  exact ⟨_, rfl, rfl, rfl, rfl, rfl, rfl, rfl, fun _ => rfl, rfl⟩

theorem findEntry_some {live : List (LazyRead.Path × LazyRead.TarEntry)} {p : LazyRead.Path}
    {e : LazyRead.TarEntry} (h : LazyRead.findEntry live p = some e) :
    ∃ (j : Nat) (x : LazyRead.Path × LazyRead.TarEntry), live[j]? = some x ∧ x.1 = p ∧ x.2 = e := by
  obtain ⟨x, hf, rfl⟩ := Option.map_eq_some_iff.mp h
  obtain ⟨j, hj⟩ := List.getElem?_of_mem (List.mem_of_find?_eq_some hf)
  exact ⟨j, x, hj, by simpa using List.find?_some hf, rfl⟩

theorem tarView_entry {tar : List LazyRead.TarEntry} {p q : LazyRead.Path} {e0 e : LazyRead.TarEntry}
    (hf : LazyRead.findEntry (importTar tar) p = some e0)
    (hr : LazyRead.resolve (importTar tar) ((importTar tar).length + 1) p = some (q, e)) :
    ∃ n, (LazyRead.tarView tar).node p = some n ∧ IsNodeOf e n := by
  obtain ⟨j, x, hj, hp, _⟩ := findEntry_some hf
  have h := (mem_allPaths _ p).mpr (Or.inr (Or.inl ⟨x, List.mem_of_getElem? hj, hp⟩))
  unfold LazyRead.tarView
  unfold allPaths importTar at h
  unfold importTar at hf hr
  simp only [h, hf, hr, Bool.not_true, Bool.false_eq_true, if_false]
  exact ⟨_, rfl, rfl, rfl, rfl, rfl, rfl, rfl, rfl, rfl, rfl, rfl⟩

theorem typeStr_ne_chunk (t : LazyRead.EType) : typeStr t ≠ "chunk" := by cases t <;> decide

theorem typeStr_hardlink (t : LazyRead.EType) : typeStr t = "hardlink" ↔ t = .hardlink := by
  cases t <;> simp [typeStr]

theorem ntStr_ntypeOf (t : LazyRead.EType) (h : t ≠ .hardlink) : ntStr (LazyRead.ntypeOf t) = typeStr t := by
  cases t <;> first | rfl | exact absurd rfl h

theorem entry_matches (xv : LazyRead.Bytes → String) {e : LazyRead.TarEntry} (he : e.type ≠ .hardlink)
    {n : LazyRead.Node} (hn : IsNodeOf e n) (nl : Int) :
    AttrMatches xv (Toc.attrOfEntry (tocOfEntry xv e) nl) n := by
  refine { mode := ?_, size := ?_, uid := ?_, gid := ?_, devMajor := ?_, devMinor := ?_, link := ?_, xattrs := ?_ }
    <;> simp only [Toc.attrOfEntry, tocOfEntry]
  · rw [hn.type, hn.mode, ntStr_ntypeOf _ he, goFileMode_mod]
  · rw [hn.size]; split <;> rfl
  · rw [hn.uid]
  · rw [hn.gid]
  · rw [hn.devMajor]; split <;> rfl
  · rw [hn.devMinor]; split <;> rfl
  · intro hs
    have : e.type = .symlink := by revert hs; rw [hn.type]; cases e.type <;> decide
    rw [hn.link, if_pos this, if_pos this]
  · rw [hn.xattrs]

/-! ## The fragment, and the TOC of a tar seen through pass 1 -/

/-- The decidable fragment of tars for which the theorem is proved:
  * every name (and hardlink target) is spelled plainly — any other spelling (`./`, `../`, `//`, a
    trailing slash) is reduced to this one by `cleanName`, which both stores and the specification
    apply first (`Toc.cleanName_render`);
  * the TOC of the tar — AFTER the builder's `importTar` dropped all but the last entry of every
    name — is `SpecConforming` (C05): supported types, no entry for the root itself, a directory
    entry precedes what is below it (other ancestors implicit), hardlinks (also chains) point at
    earlier non-directories, xattr keys unique. Duplicate names in the tar are fine. -/
structure TarOK (xv : LazyRead.Bytes → String) (tar : List LazyRead.TarEntry) : Prop where
  names : ∀ e ∈ tar, PlainPath e.name
  links : ∀ e ∈ tar, e.type = .hardlink → PlainPath e.linkPath
  spec : Toc.SpecConforming (tocOfTar xv tar)

instance (xv : LazyRead.Bytes → String) (tar : List LazyRead.TarEntry) : Decidable (TarOK xv tar) :=
  decidable_of_iff ((∀ e ∈ tar, PlainPath e.name) ∧ (∀ e ∈ tar, e.type = .hardlink → PlainPath e.linkPath) ∧
      Toc.SpecConforming (tocOfTar xv tar))
    ⟨fun ⟨a, b, c⟩ => ⟨a, b, c⟩, fun ⟨a, b, c⟩ => ⟨a, b, c⟩⟩

theorem dedupLast_sub (l : List (LazyRead.Path × LazyRead.TarEntry)) : ∀ x ∈ LazyRead.dedupLast l, x ∈ l := by
  induction l with
  | nil => intro x h; cases h
  | cons y ys ih =>
    intro x h
    unfold LazyRead.dedupLast at h
    split at h
    · exact List.mem_cons_of_mem _ (ih x h)
    · rcases List.mem_cons.mp h with h | h
      · exact h ▸ List.mem_cons_self
      · exact List.mem_cons_of_mem _ (ih x h)

section
variable {xv : LazyRead.Bytes → String} {tar : List LazyRead.TarEntry}

theorem live_facts (ok : TarOK xv tar)
    {x : LazyRead.Path × LazyRead.TarEntry} (hx : x ∈ importTar tar) :
    x.1 = x.2.name ∧ PlainPath x.2.name ∧ (x.2.type = .hardlink → PlainPath x.2.linkPath) := by
  have := dedupLast_sub _ x hx
  obtain ⟨e, he, rfl⟩ := List.mem_map.mp this
  exact ⟨cleanName_plain _ (ok.names e he), ok.names e he, ok.links e he⟩

theorem ms_live (ok : TarOK xv tar)
    {i : Nat} {m : Toc.MEnt} (hm : (Toc.pass1 (tocOfTar xv tar))[i]? = some m) :
    ∃ x, (importTar tar)[i]? = some x ∧ m.e = tocOfEntry xv x.2 ∧ m.path = x.1 ∧ m.e.type ≠ "chunk" := by
  obtain ⟨he, hp⟩ := Toc.pass1_getElem _ i m hm
  unfold tocOfTar at he
  rw [List.getElem?_map] at he
  cases hl : (importTar tar)[i]? with
  | none => rw [hl] at he; cases he
  | some x =>
    rw [hl] at he
    simp only [Option.map_some, Option.some.injEq] at he
    have hc : m.e.type ≠ "chunk" := by rw [← he]; exact typeStr_ne_chunk _
    have hf := live_facts ok (List.mem_of_getElem? hl)
    refine ⟨x, rfl, he.symm, ?_, hc⟩
    rw [hp hc, ← he]
    simp only [tocOfEntry]
    rw [Toc.cleanName_renderPath _ hf.2.1, hf.1]

theorem live_ms (ok : TarOK xv tar)
    {i : Nat} {x : LazyRead.Path × LazyRead.TarEntry} (hx : (importTar tar)[i]? = some x) :
    ∃ m, (Toc.pass1 (tocOfTar xv tar))[i]? = some m ∧ m.e = tocOfEntry xv x.2 ∧ m.path = x.1 ∧
      m.e.type ≠ "chunk" := by
  have hi : i < (Toc.pass1 (tocOfTar xv tar)).length := by
    rw [Toc.pass1_length]; unfold tocOfTar; rw [List.length_map]
    exact (List.getElem?_eq_some_iff.mp hx).1
  have hm : (Toc.pass1 (tocOfTar xv tar))[i]? = some (Toc.pass1 (tocOfTar xv tar))[i] :=
    List.getElem?_eq_getElem hi
  obtain ⟨x', hx', h1, h2, h3⟩ := ms_live ok hm
  rw [hx] at hx'; cases hx'
  exact ⟨_, hm, h1, h2, h3⟩

theorem lastIdx_live (ok : TarOK xv tar) (p : LazyRead.Path) (j : Nat) :
    Toc.lastIdx (Toc.pass1 (tocOfTar xv tar)) p = some j ↔ ∃ x, (importTar tar)[j]? = some x ∧ x.1 = p := by
  refine (Toc.lastIdx_eq_some_iff _ (Toc.namesNodup_of_list ok.spec.names) p j).trans ⟨?_, ?_⟩
  · rintro ⟨m, hm, _, hp⟩
    obtain ⟨x, hx, _, h2, _⟩ := ms_live ok hm
    exact ⟨x, hx, by rw [← h2, hp]⟩
  · rintro ⟨x, hx, hp⟩
    obtain ⟨m, hm, _, h2, h3⟩ := live_ms ok hx
    exact ⟨m, hm, h3, by rw [h2, hp]⟩

theorem findEntry_at (ok : TarOK xv tar) {j : Nat} {x : LazyRead.Path × LazyRead.TarEntry}
    (hx : (importTar tar)[j]? = some x) : LazyRead.findEntry (importTar tar) x.1 = some x.2 := by
  cases hf : LazyRead.findEntry (importTar tar) x.1 with
  | none =>
    have := List.find?_eq_none.mp (Option.map_eq_none_iff.mp hf) x (List.mem_of_getElem? hx)
    simp at this
  | some e =>
    obtain ⟨j', y, hj', hy, rfl⟩ := findEntry_some hf
    -- names are unique: both indices are the last one of the name
    cases ((lastIdx_live ok x.1 j').mpr ⟨y, hj', hy⟩).symm.trans ((lastIdx_live ok x.1 j).mpr ⟨x, hx, rfl⟩)
    rw [hx] at hj'; cases hj'; rfl

theorem findEntry_none (ok : TarOK xv tar) {p : LazyRead.Path}
    (h : Toc.lastIdx (Toc.pass1 (tocOfTar xv tar)) p = none) : LazyRead.findEntry (importTar tar) p = none := by
  cases hf : LazyRead.findEntry (importTar tar) p with
  | none => rfl
  | some e =>
    obtain ⟨j, x, hj, hp, _⟩ := findEntry_some hf
    rw [(lastIdx_live ok p j).mpr ⟨x, hj, hp⟩] at h
    cases h

theorem resolve_agrees (ok : TarOK xv tar) :
    ∀ (j : Nat) (x : LazyRead.Path × LazyRead.TarEntry), (importTar tar)[j]? = some x →
      ∀ fuel, j < fuel →
        ∃ r xr, Toc.R.resolveKey (Toc.pass1 (tocOfTar xv tar)) j = .ent r ∧ (importTar tar)[r]? = some xr ∧
          xr.2.type ≠ .hardlink ∧ LazyRead.resolve (importTar tar) fuel x.1 = some (xr.1, xr.2) := by
  have tok := Toc.R.spec_treeOK (Toc.R.spec_of_nodup ok.spec)
  intro j
  induction j using Nat.strongRecOn with
  | _ j ih =>
    intro x hx fuel hfuel
    obtain ⟨m, hm, hme, hmp, hmc⟩ := live_ms ok hx
    cases fuel with
    | zero => omega
    | succ f =>
      unfold LazyRead.resolve
      rw [findEntry_at ok hx, Toc.R.resolveKey_unfold tok hm]
      simp only []
      by_cases hh : x.2.type = .hardlink
      · have hmh : m.e.type = "hardlink" := by rw [hme]; exact (typeStr_hardlink _).mpr hh
        rw [if_pos hh, if_pos hmh]
        obtain ⟨t, ht, hl, _⟩ := Toc.R.hardlink_target tok hm hmh
        have hf := live_facts ok (List.mem_of_getElem? hx)
        have hln : Toc.cleanName m.e.linkName = x.2.linkPath := by
          rw [hme]; simp only [tocOfEntry, hh]
          rw [if_neg (by decide), if_pos trivial, Toc.cleanName_renderPath _ (hf.2.2 hh)]
        rw [hln] at hl ⊢
        simp only [hl]
        obtain ⟨xt, hxt, hxp⟩ := (lastIdx_live ok _ t).mp hl
        obtain ⟨r, xr, h1, h2, h3, h4⟩ := ih t ht xt hxt f (by omega)
        refine ⟨r, xr, h1, h2, h3, ?_⟩
        rw [cleanName_plain _ (hf.2.2 hh), ← hxp]; exact h4
      · have hmh : ¬ m.e.type = "hardlink" := by rw [hme]; exact fun e => hh ((typeStr_hardlink _).mp e)
        rw [if_neg hh, if_neg hmh]
        exact ⟨j, x, rfl, hx, hh, rfl⟩

/-- What `R.look` finds for a name is what the specification describes at it, given that the store's implicit
directories are ancestors of entries and that whatever lies above a name that is found is found. -/
theorem look_matches (ok : TarOK xv tar)
    (smF : Toc.MState)
    (himps : ∀ d ∈ smF.imps, d = [] ∨ ∃ x ∈ importTar tar, ∃ n, n < x.1.length ∧ d = x.1.take n)
    (hpre : ∀ q r, Toc.R.look (Toc.pass1 (tocOfTar xv tar)) (tocOfTar xv tar).length smF.imps q = none →
      Toc.R.look (Toc.pass1 (tocOfTar xv tar)) (tocOfTar xv tar).length smF.imps (q ++ r) = none)
    (p : LazyRead.Path) :
    match Toc.R.look (Toc.pass1 (tocOfTar xv tar)) (tocOfTar xv tar).length smF.imps p with
    | none => (LazyRead.tarView tar).node p = none
    | some k => ∃ n, (LazyRead.tarView tar).node p = some n ∧
        AttrMatches xv (Toc.memNode (Toc.pass1 (tocOfTar xv tar)) smF k).attr n := by
  have hnd := Toc.namesNodup_of_list ok.spec.names
  have hl0 : Toc.lastIdx (Toc.pass1 (tocOfTar xv tar)) [] = none :=
    (Toc.lastIdx_eq_none_iff _ []).mpr (Toc.R.spec_treeOK (Toc.R.spec_of_nodup ok.spec)).noRoot
  have hlen : (tocOfTar xv tar).length = (importTar tar).length := by unfold tocOfTar; rw [List.length_map]
  rw [Toc.look_of_nodup hnd]
  by_cases hp : p = []
  · -- the root: no entry of its own, an implicit directory in both
    subst hp
    rw [if_pos rfl]
    simp only []
    exact tarView_implicit xv tar [] (Or.inl rfl) (findEntry_none ok hl0) _
  · rw [if_neg hp]
    cases hl : Toc.lastIdx (Toc.pass1 (tocOfTar xv tar)) p with
    | some j =>
      simp only []
      obtain ⟨xj, hxj, hxp⟩ := (lastIdx_live ok p j).mp hl
      have hj : j < (importTar tar).length := (List.getElem?_eq_some_iff.mp hxj).1
      rw [if_pos (by omega)]
      simp only []
      obtain ⟨r, xr, hr1, hr2, hr3, hr4⟩ := resolve_agrees ok j xj hxj ((importTar tar).length + 1) (by omega)
      rw [hxp] at hr4
      have hf := findEntry_at ok hxj
      rw [hxp] at hf
      obtain ⟨n, hn, hi⟩ := tarView_entry hf hr4
      obtain ⟨mr, hmr, hme, _, _⟩ := live_ms ok hr2
      refine ⟨n, hn, ?_⟩
      rw [hr1]
      have : (Toc.memNode (Toc.pass1 (tocOfTar xv tar)) smF (.ent r)).attr =
          Toc.attrOfEntry mr.e (smF.nl (.ent r)) := by simp [Toc.memNode, hmr]
      rw [this, hme]
      exact entry_matches xv hr3 hi _
    | none =>
      simp only []
      have hfn := findEntry_none ok hl
      by_cases hi : p ∈ smF.imps
      · rw [if_pos hi]
        simp only []
        exact tarView_implicit xv tar p (himps p hi) hfn _
      · rw [if_neg hi]
        simp only []
        apply tarView_none
        cases hcc : (allPaths (importTar tar)).contains p with
        | false => rfl
        | true =>
          exfalso
          rcases (mem_allPaths _ _).mp hcc with h | ⟨x, hx, e⟩ | ⟨x, hx, n, hn, e⟩
          · exact hp h
          · obtain ⟨j, hj⟩ := List.getElem?_of_mem hx
            have := (lastIdx_live ok p j).mpr ⟨x, hj, e⟩
            rw [hl] at this; cases this
          · -- p is a proper ancestor of the name of the entry x, which is found
            obtain ⟨j, hj⟩ := List.getElem?_of_mem hx
            have hjl := (List.getElem?_eq_some_iff.mp hj).1
            have hx1 : x.1 ≠ [] := fun e0 => by rw [e0] at hn; exact Nat.not_lt_zero _ hn
            have hw := hpre p (x.1.drop n) (by rw [Toc.look_of_nodup hnd, if_neg hp, hl]; exact if_neg hi)
            rw [e, List.take_append_drop, Toc.look_of_nodup hnd, if_neg hx1,
              (lastIdx_live ok x.1 j).mpr ⟨x, hj, rfl⟩] at hw
            simp only [] at hw
            rw [if_pos (by omega)] at hw
            cases hw

end

/-! ## The trees of both stores -/

/-- Path by path: the node the tree serves at `p` (walking children maps from the root, as `GetChild`
does) and the node the specification describes at `p` exist together and carry the same
attributes. -/
def PathMatches (xv : LazyRead.Bytes → String) (t : Toc.Tree) (tar : List LazyRead.TarEntry)
    (p : LazyRead.Path) : Prop :=
  match Toc.walkKids (fun k => (t.node k).kids) t.root p with
  | none => (LazyRead.tarView tar).node p = none
  | some k => ∃ n, (LazyRead.tarView tar).node p = some n ∧ AttrMatches xv (t.node k).attr n

/-- the db store's variant: what a container can observe of the node's attributes
(`Toc.normalise` = fs/layer `entryToAttr`) is what it observes of attributes matching the
specification -/
def PathMatchesN (xv : LazyRead.Bytes → String) (t : Toc.Tree) (tar : List LazyRead.TarEntry)
    (p : LazyRead.Path) : Prop :=
  match Toc.walkKids (fun k => (t.node k).kids) t.root p with
  | none => (LazyRead.tarView tar).node p = none
  | some k => ∃ n a, (LazyRead.tarView tar).node p = some n ∧ AttrMatches xv { a with numLink := 0 } n ∧
      { Toc.normalise (t.node k).attr with nlink := 0 } = { Toc.normalise a with nlink := 0 }

theorem both_trees_match {xv : LazyRead.Bytes → String} {tar : List LazyRead.TarEntry} (ok : TarOK xv tar) :
    ∃ tm td, Toc.memTree (tocOfTar xv tar) = .accept tm ∧ Toc.dbTree (tocOfTar xv tar) = .accept td ∧
      Toc.view tm = Toc.view td ∧ ∀ p, PathMatches xv tm tar p ∧ PathMatchesN xv td tar p := by
  obtain ⟨smF, sdF, t⟩ := Toc.R.trees_agree (Toc.R.spec_of_nodup ok.spec)
  have ag := t.agree
  have hlook := t.walk
  refine ⟨_, _, t.mem, t.db, Toc.R.view_agree ag, fun p => ?_⟩
  -- without repeated names the renaming is the identity: both trees resolve a name as `R.look` says
  rw [Toc.canon_id (Toc.namesNodup_of_list ok.spec.names)] at ag
  have hw : ∀ q, Toc.walkKids (fun k => (Toc.dbNode sdF k).kids) .root q =
      Toc.walkKids (fun k => (Toc.memNode (Toc.pass1 (tocOfTar xv tar)) smF k).kids) .root q := fun q =>
    (Toc.R.walk_agree ag q .root ag.rootC).1.trans (congrFun Option.map_id _)
  have himps : ∀ d ∈ smF.imps, d = [] ∨ ∃ x ∈ importTar tar, ∃ n, n < x.1.length ∧ d = x.1.take n :=
    fun d hd => (t.impsAnc d hd).imp_right fun ⟨j, m, hm, _, n, hn, he⟩ => by
      obtain ⟨x, hx, _, hp, _⟩ := ms_live ok hm
      rw [hp] at hn he
      exact ⟨x, List.mem_of_getElem? hx, n, hn, he⟩
  have hm := look_matches ok smF himps (fun q r hq => by
    rw [← hlook] at hq ⊢
    cases hqr : Toc.walkKids (fun k => (Toc.dbNode sdF k).kids) .root (q ++ r) with
    | none => rfl
    | some c =>
      obtain ⟨c', hc'⟩ := walk_prefix _ _ _ _ _ hqr
      rw [hq] at hc'
      cases hc') p
  unfold PathMatches PathMatchesN
  simp only [hw, ← hlook] at hm ⊢
  cases hwk : Toc.walkKids (fun k => (Toc.memNode (Toc.pass1 (tocOfTar xv tar)) smF k).kids) .root p with
  | none => rw [hwk] at hm; exact ⟨hm, hm⟩
  | some k =>
    rw [hwk] at hm
    obtain ⟨n, hn, ha⟩ := hm
    have hna := (ag.node k ((Toc.R.walk_agree ag p .root ag.rootC).2 k hwk)).attr
    refine ⟨⟨n, hn, ha⟩, n, (Toc.memNode (Toc.pass1 (tocOfTar xv tar)) smF k).attr, hn, ?_, ?_⟩
    · exact ⟨ha.mode, ha.size, ha.uid, ha.gid, ha.devMajor, ha.devMinor, ha.link, ha.xattrs⟩
    · simp only [id] at hna ⊢
      rw [← hna]

end SV.MetaTar
