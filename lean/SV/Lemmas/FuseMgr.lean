/-
Lemmas for C17 (SV/Model/FuseMgr.lean): association lists; the quiescent invariant `Inv`; `restore_spec`
and `init_spec` for `Init`; `step_spec`, the one case analysis over all operations under `Inv`, and
`step_frame`, the frame of Mount / Check / Unmount / Close from any state; `noconstruct_run`,
`harmless_run` for a manager without a filesystem.
-/
import SV.Model.FuseMgr

namespace SV.FuseMgr

@[simp] theorem aget_cons {β : Type} (k k' : Nat) (v : β) (t : List (Nat × β)) :
    aget k ((k', v) :: t) = if k' = k then some v else aget k t := rfl

theorem aget_ains {β : Type} (k k' : Nat) (v : β) (l : List (Nat × β)) :
    aget k' (ains k v l) = if k' = k then some v else aget k' l := by
  induction l with
  | nil => simp [ains, aget, eq_comm]
  | cons e t ih =>
    obtain ⟨a, b⟩ := e
    simp only [ains]
    split
    · simp only [aget_cons]; grind
    · split
      · simp only [aget_cons]; grind
      · simp only [aget_cons, ih]; grind

theorem aget_adel {β : Type} (k k' : Nat) (l : List (Nat × β)) :
    aget k' (adel k l) = if k' = k then none else aget k' l := by
  induction l with
  | nil => simp [adel, aget]
  | cons e t ih =>
    obtain ⟨a, b⟩ := e
    unfold adel at ih ⊢
    simp only [List.filter]
    split
    · simp only [aget, ih]; grind
    · simp only [aget, ih]; grind

theorem aget_of_mem {β : Type} (k : Nat) (v : β) (l : List (Nat × β)) (h : (k, v) ∈ l) :
    aget k l ≠ none := by
  induction l with
  | nil => cases h
  | cons e t ih =>
    obtain ⟨a, b⟩ := e
    rw [aget_cons]
    split
    · exact Option.some_ne_none b
    · exact ih ((List.mem_cons.mp h).resolve_left fun e => ‹¬a = k› (Prod.mk.inj e).1.symm)

theorem mem_of_aget {β : Type} (k : Nat) (v : β) (l : List (Nat × β)) (h : aget k l = some v) :
    (k, v) ∈ l := by
  induction l with
  | nil => cases h
  | cons e t ih =>
    obtain ⟨a, b⟩ := e
    rw [aget_cons] at h
    split at h
    · cases h
      subst a
      exact List.mem_cons_self ..
    · exact List.mem_cons_of_mem _ (ih h)

def Sorted {β : Type} (l : List (Nat × β)) : Prop := (l.map Prod.fst).Pairwise (· < ·)

theorem mem_keys_iff {β : Type} (x : Nat) (l : List (Nat × β)) :
    x ∈ l.map Prod.fst ↔ aget x l ≠ none := by
  constructor
  · intro h
    obtain ⟨⟨a, b⟩, hm, rfl⟩ := List.mem_map.mp h
    exact aget_of_mem a b l hm
  · intro h
    cases hv : aget x l with
    | none => exact absurd hv h
    | some v => exact List.mem_map.mpr ⟨(x, v), mem_of_aget x v l hv, rfl⟩

theorem sorted_ains {β : Type} {k : Nat} {v : β} {l : List (Nat × β)} (h : Sorted l) :
    Sorted (ains k v l) := by
  induction l with
  | nil => simp [ains, Sorted]
  | cons e t ih =>
    obtain ⟨a, b⟩ := e
    unfold Sorted at h ih ⊢
    rw [List.map_cons, List.pairwise_cons] at h
    simp only [ains]
    split
    · rw [List.map_cons, List.pairwise_cons]
      refine ⟨fun x hx => ?_, List.pairwise_cons.mpr h⟩
      rcases List.mem_cons.mp hx with rfl | hx
      · assumption
      · exact Nat.lt_trans ‹k < a› (h.1 x hx)
    · split
      · subst a
        exact List.pairwise_cons.mpr h
      · rw [List.map_cons, List.pairwise_cons]
        refine ⟨fun x hx => ?_, ih h.2⟩
        rw [mem_keys_iff, aget_ains] at hx
        split at hx
        · omega
        · exact h.1 x ((mem_keys_iff x t).mpr hx)

theorem sorted_adel {β : Type} {k : Nat} {l : List (Nat × β)} (h : Sorted l) : Sorted (adel k l) :=
  List.Pairwise.sublist (List.Sublist.map _ List.filter_sublist) h

theorem putRec_eq (s : St) (mp : Mp) (r : Rec) :
    putRec s mp r = { s with store := if s.closed then s.store else ains mp r s.store } := by
  unfold putRec; split <;> rfl

theorem delRec_eq (s : St) (mp : Mp) :
    delRec s mp = { s with store := if s.closed then s.store else adel mp s.store } := by
  unfold delRec; split <;> rfl

@[simp] theorem putRec_fsMap (s : St) (mp : Mp) (r : Rec) : (putRec s mp r).fsMap = s.fsMap := by
  rw [putRec_eq]

@[simp] theorem delRec_fsMap (s : St) (mp : Mp) : (delRec s mp).fsMap = s.fsMap := by
  rw [delRec_eq]

/-- The quiescent invariant of the manager (holds between any two RPCs). -/
structure Inv (s : St) : Prop where
  ready_fs : s.status = .ready → s.curFs ≠ none ∧ s.lastInit ≠ none
  fs_cfg : s.curFs ≠ none → s.cfg ≠ none
  live_iff : ∀ f mp, (f, mp) ∈ s.live ↔ aget mp s.fsMap = some f
  live_nodup : (s.live.map Prod.snd).Nodup
  map_lt : ∀ mp f, aget mp s.fsMap = some f → f < s.nextFs
  cur_lt : ∀ f, s.curFs = some f → f < s.nextFs
  map_cur : ∀ mp f, aget mp s.fsMap = some f → s.curFs ≠ none   -- an owner exists only after a construction
  -- open store: served ⊆ recorded; and recorded ⊆ served once an `Init` has returned ok
  sub : s.closed = false → ∀ mp, aget mp s.fsMap ≠ none → aget mp s.store ≠ none
  sup : s.closed = false → s.lastInit = some .ok → ∀ mp, aget mp s.store ≠ none → aget mp s.fsMap ≠ none
  -- the list is in bolt's key order, so that the model's `restore` walks the records in the order of
  -- `bucket.ForEach`; no statement below depends on that order
  sorted : Sorted s.store

theorem inv_started {st : List (Mp × Rec)} {n : FsId} {fc : List (FsId × Cfg)} (h : Sorted st) :
    Inv { store := st, nextFs := n, fsCfg := fc } :=
  ⟨by simp, by simp, by simp [aget], by simp, by simp [aget], by simp, by simp [aget], by simp [aget],
    by simp, h⟩

theorem mountCore_cases (s : St) (mp : Mp) (lab : Lab) (ok : Bool) :
    (∃ g, aget mp s.fsMap = some g ∧ mountCore s mp lab ok = ⟨s, .ok, []⟩) ∨
    (aget mp s.fsMap = none ∧ s.curFs = none ∧ mountCore s mp lab ok = ⟨s, .panic, []⟩) ∨
    (∃ f, aget mp s.fsMap = none ∧ s.curFs = some f ∧ ok = true ∧
      mountCore s mp lab ok = ⟨s.mounted mp f, .ok, [.mount f mp lab true]⟩) ∨
    (∃ f, aget mp s.fsMap = none ∧ s.curFs = some f ∧ ok = false ∧
      mountCore s mp lab ok = ⟨s, .err, [.mount f mp lab false]⟩) := by
  generalize ho : mountCore s mp lab ok = o
  unfold mountCore at ho
  split at ho
  · exact Or.inl ⟨_, ‹_›, ho.symm⟩
  · split at ho
    · exact Or.inr (Or.inl ⟨‹_›, ‹_›, ho.symm⟩)
    · cases ok
      · exact Or.inr (Or.inr (Or.inr ⟨_, ‹_›, ‹_›, rfl, ho.symm⟩))
      · exact Or.inr (Or.inr (Or.inl ⟨_, ‹_›, ‹_›, rfl, ho.symm⟩))

/-- A successful `fs.Mount` + `fsMap.Store`, with the store either untouched (restore: the key is
already recorded; `Mount` on a closed store) or extended by exactly that key (`Mount` RPC). -/
theorem inv_mounted {s : St} {mp : Mp} {f : FsId} {st' : List (Mp × Rec)} (h : Inv s)
    (hn : aget mp s.fsMap = none) (hc : s.curFs = some f) (hsorted : Sorted st')
    (hst : s.closed = false → ∀ m, aget m st' ≠ none ↔ (m = mp ∨ aget m s.store ≠ none)) :
    Inv { s.mounted mp f with store := st' } := by
  have hm : ∀ m, aget m (ains mp f s.fsMap) = if m = mp then some f else aget m s.fsMap :=
    fun m => aget_ains mp m f s.fsMap
  refine { h with
    live_iff := fun g m => ?_, live_nodup := ?_, map_lt := fun m g hg => ?_,
    map_cur := fun _ _ _ => hc ▸ Option.some_ne_none f,
    sub := fun hcl m hs => ?_, sup := fun hcl hli m hr => ?_, sorted := hsorted }
  · show (g, m) ∈ (f, mp) :: s.live ↔ aget m (ains mp f s.fsMap) = some g
    rw [List.mem_cons, hm, h.live_iff g m]
    split
    · subst m; simp [hn, eq_comm]
    · simp [*]
  · refine List.nodup_cons.mpr ⟨fun hmem => ?_, h.live_nodup⟩
    obtain ⟨⟨g, m⟩, hgm, rfl⟩ := List.mem_map.mp hmem
    cases hn.symm.trans ((h.live_iff g m).mp hgm)
  · have hg' : aget m (ains mp f s.fsMap) = some g := hg
    rw [hm] at hg'
    split at hg'
    · cases hg'; exact h.cur_lt f hc
    · exact h.map_lt m g hg'
  · -- `sub`: the new key is in `st'` by `hst`, every other served key was recorded before
    have hs' : aget m (ains mp f s.fsMap) ≠ none := hs
    rw [hm] at hs'
    refine (hst hcl m).mpr ?_
    split at hs'
    · exact Or.inl ‹_›
    · exact Or.inr (h.sub hcl m hs')
  · -- `sup`: `st'` has no key beyond `mp` and the old ones
    show aget m (ains mp f s.fsMap) ≠ none
    rw [hm]
    split
    · simp
    · exact h.sup hcl hli m (((hst hcl m).mp hr).resolve_left ‹_›)

theorem mountCore_st (s : St) (mp : Mp) (lab : Lab) (ok : Bool) :
    ∃ m l, (mountCore s mp lab ok).st = { s with fsMap := m, live := l } := by
  rcases mountCore_cases s mp lab ok with ⟨_, _, e⟩ | ⟨_, _, e⟩ | ⟨_, _, _, _, e⟩ | ⟨_, _, _, _, e⟩ <;>
    rw [e] <;> exact ⟨_, _, rfl⟩

theorem restore_st (failMp : Mp → Bool) (es : List (Mp × Rec)) :
    ∀ s : St, ∃ m l, (restore failMp es s).st = { s with fsMap := m, live := l } := by
  induction es with
  | nil => exact fun _ => ⟨_, _, rfl⟩
  | cons e rest ih =>
    intro s
    obtain ⟨m, l, h⟩ := mountCore_st s e.1 e.2.labels (!failMp e.1)
    simp only [restore]
    split
    · obtain ⟨m', l', h'⟩ := ih (mountCore s e.1 e.2.labels (!failMp e.1)).st
      exact ⟨m', l', by rw [h', h]⟩
    · exact ⟨m, l, h⟩

/-- Outcome `o` of `restoreFuseInfo` over the records `es` from the state `s`, whose current filesystem
is `f`. -/
structure RestoreSpec (f : FsId) (es : List (Mp × Rec)) (s : St) (o : Out) : Prop where
  inv : Inv o.st
  owner : ∀ mp, aget mp o.st.fsMap = aget mp s.fsMap ∨ (aget mp s.fsMap = none ∧
    aget mp o.st.fsMap = some f ∧ ∃ r, aget mp es = some r ∧ Call.mount f mp r.labels true ∈ o.calls)
  calls : ∀ c ∈ o.calls, ∃ mp r ok, c = Call.mount f mp r.labels ok ∧ aget mp s.fsMap = none ∧ (mp, r) ∈ es
  nopanic : o.resp ≠ .panic
  onok : o.resp = .ok → ∀ mp r, (mp, r) ∈ es → aget mp o.st.fsMap ≠ none

theorem RestoreSpec.mono {f : FsId} {es : List (Mp × Rec)} {s : St} {o : Out} (I : RestoreSpec f es s o)
    (mp : Mp) (g : FsId) (h : aget mp s.fsMap = some g) : aget mp o.st.fsMap = some g := by
  rcases I.owner mp with e | ⟨hn, _⟩
  · exact e.trans h
  · cases hn.symm.trans h

theorem RestoreSpec.stop {f : FsId} {es : List (Mp × Rec)} {s : St} (h : Inv s) (cs : List Call)
    (hcs : ∀ c ∈ cs, ∃ mp r ok, c = Call.mount f mp r.labels ok ∧ aget mp s.fsMap = none ∧ (mp, r) ∈ es) :
    RestoreSpec f es s ⟨s, .err, cs⟩ :=
  ⟨h, fun _ => Or.inl rfl, hcs, by simp, by simp⟩

-- the restored records are in the store: `Inv.sub` needs the new key there
theorem restore_spec (failMp : Mp → Bool) (f : FsId) (es : List (Mp × Rec)) :
    ∀ s : St, Inv s → s.curFs = some f →
      (s.closed = false → ∀ mp r, (mp, r) ∈ es → aget mp s.store ≠ none) →
      RestoreSpec f es s (restore failMp es s) := by
  induction es with
  | nil =>
    intro s h _ _
    exact ⟨h, fun _ => Or.inl rfl, by simp [restore], by simp [restore], by simp⟩
  | cons e rest ih =>
    obtain ⟨mp, r⟩ := e
    intro s h hc hes
    have hes' : s.closed = false → ∀ m r', (m, r') ∈ rest → aget m s.store ≠ none :=
      fun hcl m r' hm => hes hcl m r' (List.mem_cons_of_mem _ hm)
    simp only [restore]
    rcases mountCore_cases s mp r.labels (!failMp mp) with
      ⟨g, hg, heq⟩ | ⟨_, hcn, _⟩ | ⟨f', hn, hc', hok, heq⟩ | ⟨f', hn, hc', hok, heq⟩
    · -- already served: skipped
      rw [heq]
      have I := ih s h hc hes'
      refine ⟨I.inv, fun m => ?_, fun c hcm => ?_, I.nopanic, fun hok m r' hm => ?_⟩
      · refine (I.owner m).imp_right fun ⟨h1, h2, r', h3, h4⟩ => ⟨h1, h2, r', ?_, h4⟩
        rw [aget_cons, if_neg fun e => by rw [e, h1] at hg; cases hg]
        exact h3
      · obtain ⟨m, r', ok, h1, h2, h3⟩ := I.calls c hcm
        exact ⟨m, r', ok, h1, h2, List.mem_cons_of_mem _ h3⟩
      · rcases List.mem_cons.mp hm with hm | hm
        · rw [(Prod.mk.inj hm).1, I.mono mp g hg]; simp
        · exact I.onok hok m r' hm
    · cases hc.symm.trans hcn
    · -- mounted on the current filesystem
      rw [heq]
      obtain rfl : f = f' := Option.some.inj (hc.symm.trans hc')
      have h1 : Inv (s.mounted mp f) := inv_mounted h hn hc h.sorted fun hcl m => by
        have := hes hcl mp r (List.mem_cons_self ..)
        grind
      have I := ih (s.mounted mp f) h1 hc hes'
      have hm1 : ∀ m, aget m (s.mounted mp f).fsMap = if m = mp then some f else aget m s.fsMap :=
        fun m => aget_ains mp m f s.fsMap
      refine ⟨I.inv, fun m => ?_, fun c hcm => ?_, I.nopanic, fun hok' m r' hm => ?_⟩
      · rcases I.owner m with e | ⟨h2, h3, r', h4, h5⟩
        · rw [hm1] at e
          split at e
          · subst m
            exact Or.inr ⟨hn, e, r, if_pos rfl, List.mem_cons_self ..⟩
          · exact Or.inl e
        · rw [hm1] at h2
          split at h2
          · cases h2
          · exact Or.inr ⟨h2, h3, r', (if_neg fun e => ‹¬m = mp› e.symm).trans h4, List.mem_cons_of_mem _ h5⟩
      · rcases List.mem_cons.mp hcm with rfl | hcm
        · exact ⟨mp, r, true, rfl, hn, List.mem_cons_self ..⟩
        · obtain ⟨m, r', ok, h2, h3, h4⟩ := I.calls c hcm
          rw [hm1] at h3
          split at h3
          · cases h3
          · exact ⟨m, r', ok, h2, h3, List.mem_cons_of_mem _ h4⟩
      · rcases List.mem_cons.mp hm with hm | hm
        · rw [(Prod.mk.inj hm).1, I.mono mp f ((hm1 mp).trans (if_pos rfl))]; simp
        · exact I.onok hok' m r' hm
    · -- fs.Mount failed: restore stops here
      rw [heq]
      obtain rfl : f = f' := Option.some.inj (hc.symm.trans hc')
      refine RestoreSpec.stop h _ fun c hcm => ?_
      rw [List.mem_singleton.mp hcm, ← hok]
      exact ⟨mp, r, _, rfl, hn, List.mem_cons_self ..⟩

theorem inv_finish {s : St} {r : Resp} {calls : List Call} (h : Inv s) (hst : s.status ≠ .ready)
    (hr : s.closed = false → r = .ok → ∀ mp, aget mp s.store ≠ none → aget mp s.fsMap ≠ none) :
    Inv (finishInit false s r calls).st := by
  refine { h with
    ready_fs := fun hrdy => ⟨fun hn => hst ?_, by simp [finishInit]⟩
    sup := fun hcl hli => hr hcl (Option.some.inj hli) }
  simpa [finishInit, show s.curFs = none from hn] using hrdy

theorem inv_installed (s : St) (cfg : Cfg) (h : Inv s) : Inv (s.installed cfg) :=
  { h with
    ready_fs := by simp [St.installed]
    fs_cfg := by simp [St.installed]
    map_lt := fun m g hm => Nat.lt_succ_of_lt (h.map_lt m g hm)
    cur_lt := fun g hg => Option.some.inj hg ▸ Nat.lt_succ_self _
    map_cur := by simp [St.installed] }

theorem initWith_fail (buggy : Bool) (s : St) (cfg : Cfg) (stage : Stage) (failMp : Mp → Bool)
    (hst : stage ≠ .ok) :
    ∃ c cs, (c = s.cfg ∨ c = some cfg) ∧ (∀ x ∈ cs, (∃ b, x = .cfgFunc cfg b) ∨ x = .newFsFail cfg) ∧
      initWith buggy s cfg stage failMp = finishInit buggy { s with status := .waitInit, cfg := c } .err cs := by
  cases stage with
  | ok => exact absurd rfl hst
  | parse => exact ⟨s.cfg, [], Or.inl rfl, by simp, rfl⟩
  | cfgfunc => exact ⟨some cfg, _, Or.inr rfl, by simp, rfl⟩
  | construct => exact ⟨some cfg, _, Or.inr rfl, by simp, rfl⟩

theorem initWith_lastInit (buggy : Bool) (s : St) (cfg : Cfg) (stage : Stage) (failMp : Mp → Bool) :
    (initWith buggy s cfg stage failMp).st.lastInit = some (initWith buggy s cfg stage failMp).resp := by
  unfold initWith
  split
  · rfl
  · rfl
  · rfl
  · simp only; split <;> rfl

theorem initWith_ok_curFs (buggy : Bool) (s : St) (cfg : Cfg) (failMp : Mp → Bool) :
    (initWith buggy s cfg .ok failMp).st.curFs = some s.nextFs := by
  unfold initWith
  simp only
  split
  · rfl
  · obtain ⟨_, _, e⟩ := restore_st failMp s.store (s.installed cfg)
    rw [e]; rfl

theorem init_ok {s : St} (cfg : Cfg) (failMp : Mp → Bool) (h : Inv s) :
    ∃ ro, RestoreSpec s.nextFs s.store (s.installed cfg) ro ∧
      (∃ m l, ro.st = { s.installed cfg with fsMap := m, live := l }) ∧ (ro.resp = .ok → s.closed = false) ∧
      init s cfg .ok failMp =
        finishInit false ro.st ro.resp ([.cfgFunc cfg true, .newFs s.nextFs cfg] ++ ro.calls) := by
  have hi := inv_installed s cfg h
  unfold init initWith
  simp only
  split
  · -- database closed (`ms.View` fails): a restore that stops before its first record
    exact ⟨⟨s.installed cfg, .err, []⟩, RestoreSpec.stop hi [] (by simp), ⟨_, _, rfl⟩, by simp, rfl⟩
  · rename_i hcl
    exact ⟨_, restore_spec failMp s.nextFs s.store _ hi rfl fun _ m r hm => aget_of_mem m r s.store hm,
      restore_st .., fun _ => by simpa using hcl, rfl⟩

/-- What one `Init` does from the state `s`: `o` is its outcome, `stage` how far it gets before the
restore. -/
structure InitSpec (s : St) (cfg : Cfg) (stage : Stage) (o : Out) : Prop where
  nopanic : o.resp ≠ .panic
  lastInit : o.st.lastInit = some o.resp
  closed : o.st.closed = s.closed
  store : o.st.store = s.store
  status : o.st.status = if o.st.curFs.isSome then .ready else .waitInit
  cur_ok : stage = .ok → o.st.curFs = some s.nextFs ∧ aget s.nextFs o.st.fsCfg = some cfg ∧
    o.st.nextFs = s.nextFs + 1 ∧ Call.newFs s.nextFs cfg ∈ o.calls
  cur_fail : stage ≠ .ok → o.st.curFs = s.curFs ∧ o.st.fsMap = s.fsMap ∧ o.st.live = s.live ∧
    o.st.nextFs = s.nextFs ∧ o.resp = .err
  mono : ∀ mp g, aget mp s.fsMap = some g → aget mp o.st.fsMap = some g
  fresh : ∀ mp g, aget mp o.st.fsMap = some g → aget mp s.fsMap = some g ∨
    (aget mp s.fsMap = none ∧ g = s.nextFs ∧
      ∃ r, aget mp s.store = some r ∧ Call.mount s.nextFs mp r.labels true ∈ o.calls)
  mounts : ∀ g mp lab ok, Call.mount g mp lab ok ∈ o.calls →
    stage = .ok ∧ g = s.nextFs ∧ aget mp s.fsMap = none ∧ aget mp s.store ≠ none
  others : ∀ c ∈ o.calls, (∀ g mp lab ok, c ≠ Call.check g mp lab ok) ∧ (∀ g mp ok, c ≠ Call.unmount g mp ok)
  onok : o.resp = .ok → stage = .ok ∧ s.closed = false ∧ ∀ mp r, aget mp s.store = some r →
    aget mp o.st.fsMap ≠ none ∧
    (aget mp s.fsMap = none → Call.mount s.nextFs mp r.labels true ∈ o.calls ∧
      aget mp o.st.fsMap = some s.nextFs)

section
variable {s : St} {cfg : Cfg} {stage : Stage} {o : Out} (I : InitSpec s cfg stage o)
include I

theorem InitSpec.new_cur (h : stage = .ok) : o.st.curFs = some s.nextFs := (I.cur_ok h).1

theorem InitSpec.new_cfg (h : stage = .ok) : aget s.nextFs o.st.fsCfg = some cfg := (I.cur_ok h).2.1

theorem InitSpec.mount_unowned {g : FsId} {mp : Mp} {lab : Lab} {ok : Bool}
    (h : Call.mount g mp lab ok ∈ o.calls) : aget mp s.fsMap = none := (I.mounts g mp lab ok h).2.2.1

theorem InitSpec.ok_stage (h : o.resp = .ok) : stage = .ok := (I.onok h).1

theorem InitSpec.ok_open (h : o.resp = .ok) : s.closed = false := (I.onok h).2.1

theorem InitSpec.remounted (h : o.resp = .ok) {mp : Mp} {r : Rec} (hr : aget mp s.store = some r)
    (hn : aget mp s.fsMap = none) :
    Call.mount s.nextFs mp r.labels true ∈ o.calls ∧ aget mp o.st.fsMap = some s.nextFs :=
  ((I.onok h).2.2 mp r hr).2 hn

end

theorem init_spec {s : St} (cfg : Cfg) (stage : Stage) (failMp : Mp → Bool) (h : Inv s) :
    InitSpec s cfg stage (init s cfg stage failMp) ∧ Inv (init s cfg stage failMp).st := by
  by_cases hst : stage = .ok
  · subst hst
    obtain ⟨⟨_, rr, rcs⟩, I, ⟨m, l, rfl⟩, hcl, heq⟩ := init_ok cfg failMp h
    rw [heq]
    have hall : rr = .ok → ∀ mp, aget mp s.store ≠ none → aget mp m ≠ none := fun hok mp hm => by
      cases hr : aget mp s.store with
      | none => exact absurd hr hm
      | some r => exact I.onok hok mp r (mem_of_aget mp r _ hr)
    refine ⟨{
        nopanic := I.nopanic, lastInit := rfl, closed := rfl, store := rfl, status := rfl
        cur_ok := fun _ => ⟨rfl, ?_, rfl, by simp [finishInit]⟩, cur_fail := fun hne => absurd rfl hne
        mono := I.mono, fresh := ?_, mounts := ?_, others := ?_, onok := ?_ },
      inv_finish I.inv (by simp [St.installed]) fun _ => hall⟩
    · exact (aget_ains s.nextFs s.nextFs cfg s.fsCfg).trans (if_pos rfl)
    · intro mp g hm
      refine (I.owner mp).imp (fun e => e.symm.trans hm) fun ⟨h1, h2, r, h3, h4⟩ => ?_
      exact ⟨h1, Option.some.inj (hm.symm.trans h2), r, h3, List.mem_append_right _ h4⟩
    · intro g mp lab ok hc
      obtain ⟨mp', r, ok', h1, h2, h3⟩ := I.calls _ (by simpa [finishInit] using hc)
      cases h1
      exact ⟨rfl, rfl, h2, aget_of_mem mp r s.store h3⟩
    · intro c hc
      rcases List.mem_append.mp hc with hc | hc
      · simp only [List.mem_cons, List.not_mem_nil, or_false] at hc
        rcases hc with rfl | rfl <;> simp
      · obtain ⟨mp', r, ok', rfl, _⟩ := I.calls _ hc
        simp
    · intro hok
      refine ⟨rfl, hcl hok, fun mp r hr => ?_⟩
      have hs := hall hok mp (by rw [hr]; exact nofun)
      refine ⟨hs, fun hn => ?_⟩
      rcases I.owner mp with e | ⟨_, h2, r', h3, h4⟩
      · exact absurd (e.trans hn) hs
      · cases h3.symm.trans hr
        exact ⟨List.mem_append_right _ h4, h2⟩
  · obtain ⟨c, cs, hc, hcs, heq⟩ := initWith_fail false s cfg stage failMp hst
    rw [init, heq]
    refine ⟨{
        nopanic := (by simp [finishInit]), lastInit := rfl, closed := rfl, store := rfl, status := rfl
        cur_ok := fun e => absurd e hst, cur_fail := fun _ => ⟨rfl, rfl, rfl, rfl, rfl⟩
        mono := fun _ _ h => h, fresh := fun _ _ h => Or.inl h, mounts := ?_, others := ?_
        onok := by simp [finishInit] },
      inv_finish { h with ready_fs := by simp, fs_cfg := fun hf => ?_ } (by simp) (by simp)⟩
    · intro g mp lab ok hm
      rcases hcs _ hm with ⟨b, hb⟩ | hb <;> cases hb
    · intro x hx
      rcases hcs _ hx with ⟨b, rfl⟩ | rfl <;> simp
    · rcases hc with rfl | rfl
      · exact h.fs_cfg hf
      · simp

theorem inv_putRec {s : St} {mp : Mp} {r : Rec} (h : Inv s) (hm : aget mp s.fsMap ≠ none) :
    Inv (putRec s mp r) := by
  unfold putRec
  split
  · exact h
  · refine { h with sub := ?_, sup := ?_, sorted := sorted_ains h.sorted }
    · -- recording `mp` only enlarges the store
      intro hc m hmm
      rw [aget_ains]
      split
      · exact Option.some_ne_none r
      · exact h.sub hc m hmm
    · -- and `mp` is served, so the store still has no unserved key
      intro hc hli m hr
      rw [aget_ains] at hr
      split at hr
      · subst m; exact hm
      · exact h.sup hc hli m hr

/-- `fs.Mount` + `fsMap.Store` + `storeFuseInfo` as done by the `Mount` RPC. -/
theorem inv_mounted_put {s : St} {mp : Mp} {f : FsId} {r : Rec} (h : Inv s)
    (hn : aget mp s.fsMap = none) (hc : s.curFs = some f) : Inv (putRec (s.mounted mp f) mp r) := by
  rw [putRec_eq]
  refine inv_mounted h hn hc ?_ fun hcl m => ?_
  · split
    · exact h.sorted
    · exact sorted_ains h.sorted
  · rw [show (s.mounted mp f).closed = false from hcl, if_neg Bool.false_ne_true]
    show aget m (ains mp r s.store) ≠ none ↔ _
    rw [aget_ains]
    split <;> simp [*]

theorem check_cases (s : St) (mp : Mp) (lab : Lab) (ok : Bool) :
    step s (.check mp lab ok) = ⟨s, .err, []⟩ ∨
    ∃ f, aget mp s.fsMap = some f ∧
      step s (.check mp lab ok) = ⟨s, if ok then .ok else .err, [.check f mp lab ok]⟩ := by
  simp only [step, stepWith]
  generalize ho : check s mp lab ok = o
  unfold check at ho
  split at ho
  · exact Or.inl ho.symm
  · split at ho
    · exact Or.inl ho.symm
    · exact Or.inr ⟨_, ‹_›, ho.symm⟩

/-- A successful `fs.Unmount` + `fsMap.Delete` (+ `removeFuseInfo` unless the store is closed). -/
theorem inv_unmounted {s : St} {mp : Mp} {f : FsId} {st' : List (Mp × Rec)} (h : Inv s)
    (hf : aget mp s.fsMap = some f) (hsorted : Sorted st')
    (hst : s.closed = false → ∀ m, aget m st' = if m = mp then none else aget m s.store) :
    Inv { s with fsMap := adel mp s.fsMap, live := s.live.filter (fun e => e != (f, mp)), store := st' } := by
  have hm : ∀ m, aget m (adel mp s.fsMap) = if m = mp then none else aget m s.fsMap :=
    fun m => aget_adel mp m s.fsMap
  have hsome : ∀ m g, aget m (adel mp s.fsMap) = some g → m ≠ mp ∧ aget m s.fsMap = some g := fun m g hg => by
    rw [hm] at hg
    split at hg
    · cases hg
    · exact ⟨‹_›, hg⟩
  refine { h with
    live_iff := fun g m => ?_
    live_nodup := List.Nodup.sublist (List.Sublist.map _ List.filter_sublist) h.live_nodup
    map_lt := fun m g hg => h.map_lt m g (hsome m g hg).2
    map_cur := fun m g hg => h.map_cur m g (hsome m g hg).2
    sub := fun hcl m hs => ?_, sup := fun hcl hli m hr => ?_, sorted := hsorted }
  · show (g, m) ∈ s.live.filter (fun e => e != (f, mp)) ↔ aget m (adel mp s.fsMap) = some g
    rw [List.mem_filter, hm, h.live_iff g m]
    split
    · subst m; simp [hf]; exact Eq.symm
    · simp [*]
  · -- `sub`, `sup`: map and store lose the same key `mp` and agree with the old ones elsewhere
    have hs' : aget m (adel mp s.fsMap) ≠ none := hs
    rw [hm] at hs'
    show aget m st' ≠ none
    rw [hst hcl m]
    split at hs'
    · exact absurd rfl hs'
    · rw [if_neg ‹_›]; exact h.sub hcl m hs'
  · have hr' : aget m st' ≠ none := hr
    rw [hst hcl m] at hr'
    show aget m (adel mp s.fsMap) ≠ none
    rw [hm]
    split at hr'
    · exact absurd rfl hr'
    · rw [if_neg ‹_›]; exact h.sup hcl hli m hr'

theorem unmount_cases (s : St) (mp : Mp) (ok isOs : Bool) :
    (∃ r, r ≠ .panic ∧ step s (.unmount mp ok isOs) = ⟨s, r, []⟩) ∨
    (∃ f, aget mp s.fsMap = some f ∧ step s (.unmount mp ok isOs) = ⟨s, .err, [.unmount f mp false]⟩) ∨
    (∃ f, aget mp s.fsMap = some f ∧ ok = true ∧ step s (.unmount mp ok isOs) =
      ⟨delRec { s with fsMap := adel mp s.fsMap, live := s.live.filter (fun e => e != (f, mp)) } mp,
        .ok, [.unmount f mp true]⟩) := by
  simp only [step, stepWith]
  generalize ho : unmount s mp ok isOs = o
  unfold unmount at ho
  split at ho
  · exact Or.inl ⟨_, by simp, ho.symm⟩
  · split at ho
    · exact Or.inl ⟨_, by cases isOs <;> simp, ho.symm⟩
    · cases ok
      · exact Or.inr (Or.inl ⟨_, ‹_›, ho.symm⟩)
      · exact Or.inr (Or.inr ⟨_, ‹_›, rfl, ho.symm⟩)

theorem close_eq (s : St) :
    step s .close = ⟨{ s with status := .notReady, closed := true, store := if s.closed then s.store else [] },
      if s.closed then .err else .ok, []⟩ := by
  show close s = _
  unfold close
  cases h : s.closed <;> simp

theorem step_frame {s : St} {op : Op} {P : St → Prop} (h1 : ∀ c st fm, op ≠ .init c st fm)
    (h2 : op ≠ .restart)
    (hP : ∀ st m l r c, P { s with status := st, fsMap := m, live := l, store := r, closed := c }) :
    P (step s op).st := by
  cases op with
  | init c st fm => exact absurd rfl (h1 c st fm)
  | restart => exact absurd rfl h2
  | mount mp lab ok =>
    obtain ⟨m, l, h⟩ := mountCore_st s mp lab ok
    simp only [step, stepWith]
    unfold mount
    split
    · exact hP _ _ _ _ _
    · simp only
      split
      · split
        · rw [h]; exact hP _ _ _ _ _
        · rw [putRec_eq, h]; exact hP _ _ _ _ _
      · rw [h]; exact hP _ _ _ _ _
  | check mp lab ok =>
    rcases check_cases s mp lab ok with e | ⟨_, _, e⟩ <;> rw [e] <;> exact hP _ _ _ _ _
  | unmount mp ok os =>
    rcases unmount_cases s mp ok os with ⟨_, _, e⟩ | ⟨_, _, e⟩ | ⟨_, _, _, e⟩ <;> rw [e]
    · exact hP _ _ _ _ _
    · exact hP _ _ _ _ _
    · rw [delRec_eq]; exact hP _ _ _ _ _
  | close => rw [close_eq]; exact hP _ _ _ _ _

/-- One operation from a quiescent state: every backend call goes to the right filesystem (`calls`), and
the owner of a mountpoint changes only by a successful `fs.Mount` / `fs.Unmount` or with the process
(`owner`). -/
structure StepSpec (s : St) (op : Op) (o : Out) : Prop where
  inv : Inv o.st
  nopanic : o.resp ≠ .panic
  calls : ∀ c ∈ o.calls, match c with
    | .mount g mp _ _ => aget mp s.fsMap = none ∧
        ((∃ l k, op = .mount mp l k ∧ s.curFs = some g) ∨ (∃ cfg fm, op = .init cfg .ok fm ∧ g = s.nextFs))
    | .check g mp _ _ | .unmount g mp _ => aget mp s.fsMap = some g
    | _ => True
  owner : ∀ mp, aget mp o.st.fsMap = aget mp s.fsMap ∨
    (∃ f lab, aget mp s.fsMap = none ∧ aget mp o.st.fsMap = some f ∧ Call.mount f mp lab true ∈ o.calls) ∨
    (aget mp o.st.fsMap = none ∧
      (op = .restart ∨ ∃ f os, aget mp s.fsMap = some f ∧ op = .unmount mp true os ∧
        o.calls = [.unmount f mp true]))

theorem step_spec {s : St} (h : Inv s) (op : Op) : StepSpec s op (step s op) := by
  cases op with
  | init cfg st fm =>
    obtain ⟨I, hinv⟩ := init_spec cfg st fm h
    refine ⟨hinv, I.nopanic, fun c hc => ?_, fun mp => ?_⟩
    · cases c with
      | mount g mp lab ok =>
        obtain ⟨rfl, rfl, hn, _⟩ := I.mounts g mp lab ok hc
        exact ⟨hn, Or.inr ⟨cfg, fm, rfl, rfl⟩⟩
      | check g mp lab ok => exact absurd rfl ((I.others _ hc).1 g mp lab ok)
      | unmount g mp ok => exact absurd rfl ((I.others _ hc).2 g mp ok)
      | _ => trivial
    · cases hv : aget mp (step s (.init cfg st fm)).st.fsMap with
      | none =>
        cases hs : aget mp s.fsMap with
        | none => exact Or.inl rfl
        | some g => cases (I.mono mp g hs).symm.trans hv
      | some g =>
        rcases I.fresh mp g hv with h1 | ⟨h1, rfl, r, _, hcall⟩
        · exact Or.inl h1.symm
        · exact Or.inr (Or.inl ⟨_, r.labels, h1, rfl, hcall⟩)
  | mount m l k =>
    simp only [step, stepWith]
    by_cases hst : s.status ≠ .ready
    · rw [mount, if_pos hst]
      exact ⟨h, nofun, fun _ hc => (nomatch hc), fun _ => Or.inl rfl⟩
    · have hcur := (h.ready_fs (Decidable.not_not.mp hst)).1
      cases hcfg : s.cfg with
      | none => exact absurd hcfg (h.fs_cfg hcur)
      | some c =>
        -- `fm.config` is set: a successful `mountCore` is followed by `storeFuseInfo`
        have hm : ∀ o, mountCore s m l k = o → o.resp = .ok → o.st.cfg = s.cfg →
            mount s m l k = ⟨putRec o.st m ⟨l, c⟩, .ok, o.calls⟩ := by
          intro o ho hr hc
          rw [mount, if_neg hst, ho]
          simp only [hr, hc, hcfg]
        rcases mountCore_cases s m l k with
          ⟨g, hg, heq⟩ | ⟨_, hcn, _⟩ | ⟨f, hn, hf, rfl, heq⟩ | ⟨f, hn, hf, rfl, heq⟩
        · -- already served: only the record is rewritten
          rw [hm _ heq rfl rfl]
          exact ⟨inv_putRec h (by simp [hg]), nofun, fun _ hc => (nomatch hc),
            fun _ => Or.inl (by rw [putRec_fsMap])⟩
        · exact absurd hcn hcur
        · -- mounted on the current filesystem and recorded
          rw [hm _ heq rfl rfl]
          refine ⟨inv_mounted_put h hn hf, nofun, fun c hc => ?_, fun mp => ?_⟩
          · cases List.mem_singleton.mp hc
            exact ⟨hn, Or.inl ⟨l, true, rfl, hf⟩⟩
          · simp only [putRec_fsMap, St.mounted, aget_ains]
            split
            · subst mp
              exact Or.inr (Or.inl ⟨f, l, hn, rfl, List.mem_singleton.mpr rfl⟩)
            · exact Or.inl rfl
        · -- `fs.Mount` failed
          rw [mount, if_neg hst, heq]
          refine ⟨h, nofun, fun c hc => ?_, fun _ => Or.inl rfl⟩
          cases List.mem_singleton.mp hc
          exact ⟨hn, Or.inl ⟨l, false, rfl, hf⟩⟩
  | check m l k =>
    rcases check_cases s m l k with e | ⟨f, hf, e⟩ <;> rw [e]
    · exact ⟨h, nofun, fun _ hc => (nomatch hc), fun _ => Or.inl rfl⟩
    · refine ⟨h, by cases k <;> simp, fun c hc => ?_, fun _ => Or.inl rfl⟩
      cases List.mem_singleton.mp hc
      exact hf
  | unmount m k os =>
    rcases unmount_cases s m k os with ⟨_, hr, e⟩ | ⟨f, hf, e⟩ | ⟨f, hf, rfl, e⟩ <;> rw [e]
    · exact ⟨h, hr, fun _ hc => (nomatch hc), fun _ => Or.inl rfl⟩
    · refine ⟨h, nofun, fun c hc => ?_, fun _ => Or.inl rfl⟩
      cases List.mem_singleton.mp hc
      exact hf
    · refine ⟨?_, nofun, fun c hc => ?_, fun mp => ?_⟩
      · rw [delRec_eq]
        refine inv_unmounted h hf ?_ fun hcl m' => ?_
        · split
          · exact h.sorted
          · exact sorted_adel h.sorted
        · show aget m' (if s.closed = true then s.store else adel m s.store) = _
          rw [hcl, if_neg Bool.false_ne_true, aget_adel]
      · cases List.mem_singleton.mp hc
        exact hf
      · simp only [delRec_fsMap, aget_adel]
        split
        · subst mp
          exact Or.inr (Or.inr ⟨rfl, Or.inr ⟨f, os, hf, rfl, rfl⟩⟩)
        · exact Or.inl rfl
  | close =>
    rw [close_eq]
    refine ⟨{ h with ready_fs := by simp, sub := by simp, sup := by simp, sorted := ?_ },
      by split <;> simp, fun _ hc => (nomatch hc), fun _ => Or.inl rfl⟩
    show Sorted (if s.closed = true then s.store else [])
    split
    · exact h.sorted
    · exact List.Pairwise.nil
  | restart =>
    exact ⟨inv_started h.sorted, by simp [step, stepWith, restartManager], fun _ hc => (nomatch hc),
      fun _ => Or.inr (Or.inr ⟨rfl, Or.inl rfl⟩)⟩

theorem inv_reachable {s : St} (h : Reachable s) : Inv s := by
  obtain ⟨ops, rfl⟩ := h
  exact ops.foldlRecOn _ (inv_started List.Pairwise.nil) fun _ h op _ => (step_spec h op).inv

theorem reachable_run {s : St} (hs : Reachable s) (ops : List Op) : Reachable (run s ops) := by
  obtain ⟨ops0, rfl⟩ := hs
  exact ⟨ops0 ++ ops, by simp [run, runWith]⟩

/-- Requests that arrive before the next successful construction: failed `Init`s and
Mount/Check/Unmount (all rejected). -/
def Harmless : Op → Prop
  | .init _ st _ => st ≠ .ok
  | .mount .. | .check .. | .unmount .. => True
  | .close | .restart => False

/-- no `Init` that gets as far as constructing a filesystem. -/
def NoConstruct : Op → Prop
  | .init _ st _ => st ≠ .ok
  | _ => True

theorem rejects_of_no_fs (s : St) (hst : s.status ≠ .ready) :
    (∀ mp lab ok, step s (.mount mp lab ok) = ⟨s, .err, []⟩) ∧
    (∀ mp lab ok, step s (.check mp lab ok) = ⟨s, .err, []⟩) ∧
    (∀ mp ok os, step s (.unmount mp ok os) = ⟨s, .err, []⟩) :=
  ⟨fun _ _ _ => if_pos hst, fun _ _ _ => if_pos hst, fun _ _ _ => if_pos hst⟩

theorem noconstruct_step {s : St} {op : Op} (hop : NoConstruct op) (hc : s.curFs = none)
    (hst : s.status ≠ .ready) :
    ((step s op).st.curFs = none ∧ (step s op).st.status ≠ .ready) ∧
    (Harmless op → ∃ st c li, (step s op).st = { s with status := st, cfg := c, lastInit := li }) := by
  obtain ⟨hm, hk, hu⟩ := rejects_of_no_fs s hst
  cases op with
  | init c st fm =>
    obtain ⟨c', cs, _, _, heq⟩ := initWith_fail false s c st fm hop
    rw [show step s (.init c st fm) = _ from heq]
    exact ⟨⟨hc, by simp [finishInit, hc]⟩, fun _ => ⟨_, _, _, rfl⟩⟩
  | mount m l ok => rw [hm m l ok]; exact ⟨⟨hc, hst⟩, fun _ => ⟨_, _, _, rfl⟩⟩
  | check m l ok => rw [hk m l ok]; exact ⟨⟨hc, hst⟩, fun _ => ⟨_, _, _, rfl⟩⟩
  | unmount m ok os =>
    rw [hu m ok os]; exact ⟨⟨hc, hst⟩, fun _ => ⟨_, _, _, rfl⟩⟩
  | close => rw [close_eq]; exact ⟨⟨hc, by simp⟩, False.elim⟩
  | restart => exact ⟨⟨rfl, by simp [step, stepWith, restartManager]⟩, False.elim⟩

theorem harmless_noConstruct {op : Op} (h : Harmless op) : NoConstruct op := by
  cases op <;> trivial

theorem noconstruct_run (ops : List Op) (s : St) (hops : ∀ op ∈ ops, NoConstruct op) (hc : s.curFs = none)
    (hst : s.status ≠ .ready) : (run s ops).curFs = none ∧ (run s ops).status ≠ .ready :=
  ops.foldlRecOn (motive := fun t : St => t.curFs = none ∧ t.status ≠ .ready) _ ⟨hc, hst⟩
    fun _ h op hop => (noconstruct_step (hops op hop) h.1 h.2).1

theorem harmless_run (ops : List Op) (s : St) (hops : ∀ op ∈ ops, Harmless op) (hc : s.curFs = none)
    (hst : s.status ≠ .ready) :
    ∃ st c li, run s ops = { s with status := st, cfg := c, lastInit := li } :=
  (ops.foldlRecOn (motive := fun t : St => (t.curFs = none ∧ t.status ≠ .ready) ∧
      ∃ st c li, t = { s with status := st, cfg := c, lastInit := li }) _ ⟨⟨hc, hst⟩, _, _, _, rfl⟩
    fun t ⟨h, _, _, _, e⟩ op hop => by
      obtain ⟨h', g⟩ := noconstruct_step (harmless_noConstruct (hops op hop)) h.1 h.2
      obtain ⟨_, _, _, e'⟩ := g (hops op hop)
      exact ⟨h', _, _, _, e'.trans (by rw [e])⟩).2

end SV.FuseMgr
