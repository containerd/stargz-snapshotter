import SV.Model.CacheDir

/-! Invariant `Gone` of a released handle (repository order): closed, directory gone, every wip file gone,
nothing committed, and no writer between its closed-check and its `MkdirAll` (`NoWindow`).  Every step keeps
it (`gone_step`), and `Close` establishes it from `NoWindow` (`close_gone`).  Namespace: the model's, `SV.Model.CacheDir`. -/

namespace SV.Model.CacheDir

/-- no writer has passed the closed-check without having done its `MkdirAll` yet -/
def NoWindow (s : State) : Prop := ∀ p ∈ s.pcs, p ≠ Pc.checked

structure Gone (s : State) : Prop where
  closed : s.closed = true
  dir : s.dir = false
  wip : ∀ b ∈ s.wip, b = false
  files : s.files = 0
  win : NoWindow s

theorem forall_mem_set {α} {P : α → Prop} {l : List α} (h : ∀ a ∈ l, P a) (w : Nat) {x : α} (hx : P x) :
    ∀ a ∈ l.set w x, P a := by
  intro a ha
  rcases List.mem_or_eq_of_mem_set ha with h1 | h1
  · exact h a h1
  · exact h1 ▸ hx

theorem gone_no_mkdir {s : State} (g : Gone s) (w : Nat) : s.pcs[w]? ≠ some (atMkdir true) :=
  fun h => g.win _ (List.mem_of_getElem? h) rfl

theorem gone_step {s : State} (g : Gone s) (op : Op) : Gone (step true s op).1 := by
  cases op with
  | add => simp only [step, g.closed, Bool.true_or, if_true]; exact g
  | check w =>
      simp only [step]
      split
      · rw [if_pos g.closed]
        exact ⟨g.closed, g.dir, g.wip, g.files, forall_mem_set g.win w (by decide)⟩
      · exact g
  | mkdir w =>
      simp only [step]
      split
      · rename_i h; exact absurd h (gone_no_mkdir g w)
      · exact g
  | rename w =>
      simp only [step]
      split
      · have : (s.wip[w]? = some true && s.dir) = false := by simp [g.dir]
        simp only [this]
        exact ⟨g.closed, g.dir, g.wip, g.files, forall_mem_set g.win w (by decide)⟩
      · exact g
  | abort w =>
      simp only [step]
      split
      · exact ⟨g.closed, g.dir, forall_mem_set g.wip w rfl, g.files, forall_mem_set g.win w (by decide)⟩
      · exact g
  | close => simp only [step, g.closed, if_true]; exact g

theorem gone_run {s : State} (g : Gone s) (ops : List Op) : Gone (runFrom true s ops) :=
  List.foldlRecOn ops _ g fun _ g o _ => gone_step g o

theorem close_gone {s : State} (ho : s.closed = false) (h : NoWindow s) : Gone (step true s .close).1 := by
  simp only [step, ho]
  exact ⟨rfl, rfl, by simp, rfl, h⟩

theorem run_append_close (cf : Bool) (pre ops : List Op) :
    run cf (pre ++ Op.close :: ops) = runFrom cf (step cf (run cf pre) .close).1 ops := by
  simp [run, runFrom, List.foldl_append]

end SV.Model.CacheDir
