/-
Facts about the parts of the TOC model that stand alone: name cleaning, `sort.Search` and contiguous chunk tables,
the db encoding of attributes (`readAttr_writeAttr_eq`), bolt buckets, the bits of `os.FileMode` (`goFileMode_digits`).
-/
import SV.Model.Toc

namespace SV.Toc

/-! ## Name cleaning -/

/-- a component `path.Clean` keeps -/
def Plain (c : List Char) : Prop := c ≠ [] ∧ c ≠ ['.'] ∧ c ≠ ['.', '.'] ∧ '/' ∉ c

theorem splitSlash_ne_nil (cs : List Char) : splitSlash cs ≠ [] := by
  induction cs with
  | nil => simp [splitSlash]
  | cons c cs ih =>
    unfold splitSlash
    split
    · simp
    · split <;> simp

theorem splitSlash_noSlash (cs : List Char) : ∀ c ∈ splitSlash cs, '/' ∉ c := by
  induction cs with
  | nil => simp [splitSlash]
  | cons c cs ih =>
    rw [splitSlash]
    split
    · simpa using ih
    · rename_i hc
      split
      · simpa using Ne.symm hc
      · rename_i y ys heq
        rw [heq] at ih
        simp only [List.mem_cons, forall_eq_or_imp, not_or] at ih ⊢
        exact ⟨⟨Ne.symm hc, ih.1⟩, ih.2⟩

theorem splitSlash_single (x : List Char) (h : '/' ∉ x) : splitSlash x = [x] := by
  induction x with
  | nil => simp [splitSlash]
  | cons c x ih =>
    have hc : c ≠ '/' := fun e => h (by simp [e])
    have hx : '/' ∉ x := fun e => h (by simp [e])
    unfold splitSlash
    simp [hc, ih hx]

theorem splitSlash_append (x r : List Char) (h : '/' ∉ x) :
    splitSlash (x ++ '/' :: r) = x :: splitSlash r := by
  induction x with
  | nil => simp [splitSlash]
  | cons c x ih =>
    have hc : c ≠ '/' := fun e => h (by simp [e])
    have hx : '/' ∉ x := fun e => h (by simp [e])
    have := ih hx
    simp only [List.cons_append]
    rw [splitSlash]
    simp [hc, this]

theorem splitSlash_joinSlash (ps : List (List Char)) (hne : ps ≠ []) (h : ∀ c ∈ ps, '/' ∉ c) :
    splitSlash (joinSlash ps) = ps := by
  induction ps with
  | nil => exact absurd rfl hne
  | cons x rest ih =>
    cases rest with
    | nil => simp [joinSlash]; exact splitSlash_single x (h x (by simp))
    | cons y rest =>
      simp only [joinSlash]
      rw [splitSlash_append x _ (h x (by simp))]
      rw [ih (by simp) (fun c hc => h c (List.mem_cons_of_mem _ hc))]

theorem cleanComps_plain : ∀ (cs acc : List (List Char)), (∀ c ∈ cs, '/' ∉ c) → (∀ c ∈ acc, Plain c) →
    ∀ c ∈ cleanComps cs acc, Plain c
  | [], acc, _, hacc => by simpa [cleanComps] using hacc
  | x :: cs, acc, hcs, hacc => by
    have hcs' : ∀ c ∈ cs, '/' ∉ c := fun c hc => hcs c (List.mem_cons_of_mem _ hc)
    unfold cleanComps
    split
    · exact cleanComps_plain cs acc hcs' hacc
    · rename_i h1
      split
      · exact cleanComps_plain cs acc.tail hcs' fun c hc => hacc c (List.mem_of_mem_tail hc)
      · rename_i h2
        refine cleanComps_plain cs (x :: acc) hcs' fun c hc => ?_
        rcases List.mem_cons.mp hc with rfl | e
        · exact ⟨fun e => h1 (Or.inl e), fun e => h1 (Or.inr e), h2, hcs _ List.mem_cons_self⟩
        · exact hacc c e

theorem cleanComps_of_plain (ps acc : List (List Char)) (h : ∀ c ∈ ps, Plain c) :
    cleanComps ps acc = acc.reverse ++ ps := by
  induction ps generalizing acc with
  | nil => simp [cleanComps]
  | cons x ps ih =>
    have hx := h x (by simp)
    unfold cleanComps
    rw [if_neg (by intro e; rcases e with e | e; exact hx.1 e; exact hx.2.1 e), if_neg hx.2.2.1]
    rw [ih (x :: acc) (fun c hc => h c (List.mem_cons_of_mem _ hc))]
    simp

theorem cleanChars_plain (cs : List Char) : ∀ c ∈ cleanChars cs, Plain c :=
  cleanComps_plain _ [] (splitSlash_noSlash cs) (by simp)

theorem cleanChars_joinSlash (ps : List (List Char)) (hp : ∀ c ∈ ps, Plain c) :
    cleanChars (joinSlash ps) = ps := by
  by_cases hne : ps = []
  · subst hne; rfl
  · rw [cleanChars, splitSlash_joinSlash ps hne (fun c hc => (hp c hc).2.2.2), cleanComps_of_plain ps [] hp]
    rfl

theorem cleanName_renderPath (p : Path) (h : ∀ c ∈ p, Plain c.toList) : cleanName (renderPath p) = p := by
  unfold cleanName renderPath
  rw [String.toList_ofList, cleanChars_joinSlash _ (by simpa using h), List.map_map]
  exact (List.map_congr_left fun s _ => String.ofList_toList).trans (List.map_id p)

theorem cleanName_render (s : String) : cleanName (renderPath (cleanName s)) = cleanName s :=
  cleanName_renderPath _ fun c hc => by
    obtain ⟨x, hx, rfl⟩ := List.mem_map.mp hc
    simpa using cleanChars_plain _ x hx

/-! ## `sort.Search` (`SV.LazyRead` models the same Go function over `Nat` with fuel; the two models share no code) -/

theorem searchLoop_range (f : Nat → Bool) (i j : Nat) (hij : i ≤ j) :
    i ≤ searchLoop f i j ∧ searchLoop f i j ≤ j := by
  fun_induction searchLoop f i j with
  | case1 i j h m hf ih => have := ih (by omega); omega
  | case2 i j h m hf ih => have := ih (by omega); omega
  | case3 i j h => omega

theorem searchLoop_first (f : Nat → Bool) (hm : ∀ a b, a ≤ b → f a = true → f b = true) (i j : Nat)
    (hij : i ≤ j) (hlo : ∀ k, k < i → f k = false) (hhi : ∀ k, j ≤ k → f k = true) :
    (∀ k, k < searchLoop f i j → f k = false) ∧ (∀ k, searchLoop f i j ≤ k → f k = true) := by
  fun_induction searchLoop f i j with
  | case1 i j h m hf ih => exact ih (by omega) hlo (fun k hk => hm _ _ hk hf)
  | case2 i j h m hf ih =>
    refine ih (by omega) (fun k hk => ?_) hhi
    cases hfk : f k with
    | false => rfl
    | true => exact absurd (hm k m (by omega) hfk) hf
  | case3 i j h =>
    have : i = j := by omega
    subst this
    exact ⟨hlo, hhi⟩

theorem searchFirst_le (n : Nat) (f : Nat → Bool) : searchFirst n f ≤ n :=
  (searchLoop_range f 0 n (Nat.zero_le _)).2

theorem find?_eq_getElem?_first {α : Type} (p : α → Bool) :
    ∀ (l : List α) (r : Nat), (∀ k y, k < r → l[k]? = some y → p y = false) →
      (∀ y, l[r]? = some y → p y = true) → r ≤ l.length → l.find? p = l[r]?
  | [], r, _, _, hr => by rw [Nat.le_zero.mp hr]; rfl
  | x :: xs, 0, _, h2, _ => by rw [List.find?_cons, h2 x rfl]; rfl
  | x :: xs, r + 1, h1, h2, hr => by
    rw [List.find?_cons, h1 0 x (Nat.zero_lt_succ r) rfl, List.getElem?_cons_succ]
    exact find?_eq_getElem?_first p xs r (fun k y hk hy => h1 (k + 1) y (Nat.succ_lt_succ hk) hy) h2
      (Nat.le_of_succ_le_succ hr)

theorem getElem?_searchFirst {α : Type} (l : List α) (p : α → Bool) (f : Nat → Bool)
    (h1 : ∀ i e, l[i]? = some e → f i = p e) (h2 : ∀ i, l.length ≤ i → f i = true)
    (hp : l.Pairwise fun a b => p a = true → p b = true) :
    l[searchFirst l.length f]? = l.find? p := by
  have hmono : ∀ a b, a ≤ b → f a = true → f b = true := by
    intro a b hab ha
    rcases Nat.lt_or_ge b l.length with hb | hb
    · rcases Nat.lt_or_eq_of_le hab with hlt | rfl
      · rw [h1 a l[a] (List.getElem?_eq_getElem (by omega))] at ha
        rw [h1 b l[b] (List.getElem?_eq_getElem hb)]
        exact List.pairwise_iff_getElem.mp hp a b (by omega) hb hlt ha
      · exact ha
    · exact h2 b hb
  obtain ⟨hlo, hhi⟩ := searchLoop_first f hmono 0 l.length (Nat.zero_le _) (fun k hk => absurd hk (Nat.not_lt_zero k)) h2
  symm
  apply find?_eq_getElem?_first p l _ _ _ (searchFirst_le l.length f)
  · intro k y hk hy; rw [← h1 k y hy]; exact hlo k hk
  · intro y hy; rw [← h1 _ y hy]; exact hhi _ (Nat.le_refl _)

/-! ## Chunk tables -/

/-- what both stores' search predicates come to on a contiguous table: the row ends beyond `x` -/
def covers (x : Int) (r : Chunk) : Bool := decide (x < r.chunkOffset + r.chunkSize)

def Contig : Int → Int → List Chunk → Prop
  | s, t, [] => s = t
  | s, t, r :: rs => r.chunkOffset = s ∧ r.chunkSize > 0 ∧ Contig (s + r.chunkSize) t rs

theorem Contig.le : ∀ {rows : List Chunk} {s t : Int}, Contig s t rows → s ≤ t
  | [], _, _, h => Int.le_of_eq h
  | _ :: _, _, _, ⟨_, h2, h3⟩ => by have := Contig.le h3; omega

theorem Contig.rows : ∀ {rows : List Chunk} {s t : Int}, Contig s t rows →
    (∀ r ∈ rows, s ≤ r.chunkOffset ∧ 0 < r.chunkSize) ∧
      rows.Pairwise fun a b => a.chunkOffset + a.chunkSize ≤ b.chunkOffset
  | [], _, _, _ => ⟨nofun, .nil⟩
  | r :: rs, s, t, ⟨h1, h2, h3⟩ => by
    obtain ⟨hall, hp⟩ := Contig.rows h3
    refine ⟨fun b hb => ?_, .cons (fun b hb => h1 ▸ (hall b hb).1) hp⟩
    rcases List.mem_cons.mp hb with rfl | hb
    · exact ⟨Int.le_of_eq h1.symm, h2⟩
    · exact ⟨by have := (hall b hb).1; omega, (hall b hb).2⟩

theorem searchChunk_contig (rows : List Chunk) (s t : Int) (hc : Contig s t rows) (x : Int) :
    searchChunk rows x = (rows.find? (covers x)).map fun e => (e.chunkOffset, e.chunkSize, e.digest) := by
  obtain ⟨hall, hp⟩ := hc.rows
  have h := getElem?_searchFirst rows (covers x) (chunkPred rows x)
    (fun i e he => by
      have := (hall e (List.mem_of_getElem? he)).2
      simp only [chunkPred, he, covers, decide_eq_decide]
      omega)
    (fun i hi => by simp only [chunkPred, List.getElem?_eq_none hi])
    (hp.imp_of_mem fun {a b} _ hb hab => by
      have := (hall b hb).2
      simp only [covers, decide_eq_true_eq]
      omega)
  unfold searchChunk
  rw [h]
  cases rows.find? (covers x) <;> rfl

/-- a row as the db store keeps it: without its size, which `readChunks` recomputes -/
def eraseSize (r : Chunk) : Chunk := { r with chunkSize := 0 }

/-- the order `readChunks` sorts into; keys of `chunksExtra` are then distinct -/
def StrictOff (l : List Chunk) : Prop := l.Pairwise fun a b => a.chunkOffset < b.chunkOffset

theorem Contig.strictOff {rows : List Chunk} {s t : Int} (h : Contig s t rows) : StrictOff rows :=
  h.rows.2.imp_of_mem fun {a _} ha _ hab => by have := (h.rows.1 a ha).2; omega

theorem strictOff_of_eraseSize {a b : List Chunk} (h : a.map eraseSize = b.map eraseSize)
    (hb : StrictOff b) : StrictOff a := by
  have ho : a.map (·.chunkOffset) = b.map (·.chunkOffset) := by
    simpa [List.map_map, Function.comp_def, eraseSize] using congrArg (List.map (·.chunkOffset)) h
  exact List.pairwise_map.mp (ho ▸ List.pairwise_map.mpr hb)

/-- how `chunksExtra` and `xattrsExtra` are filled: every key is new (`R` to all before it), so each `put` appends -/
theorem foldl_put_append {α : Type} (put : α → List α → List α) (R : α → α → Prop)
    (hput : ∀ c acc, (∀ x ∈ acc, R x c) → put c acc = acc ++ [c]) :
    ∀ rest acc : List α, (acc ++ rest).Pairwise R → rest.foldl (fun acc c => put c acc) acc = acc ++ rest
  | [], acc, _ => (List.append_nil acc).symm
  | c :: cs, acc, h => by
    rw [List.foldl_cons, hput c acc fun x hx => (List.pairwise_append.mp h).2.2 x hx c List.mem_cons_self,
      foldl_put_append put R hput cs (acc ++ [c]) (by rwa [List.append_assoc]), List.append_assoc]
    rfl

theorem putChunk_fresh (c : Chunk) (acc : List Chunk) (h : ∀ x ∈ acc, x.chunkOffset < c.chunkOffset) :
    putChunk c acc = acc ++ [c] := by
  induction acc with
  | nil => rfl
  | cons x xs ih =>
    rw [putChunk, if_neg (Int.ne_of_lt (h x List.mem_cons_self)), ih fun y hy => h y (List.mem_cons_of_mem _ hy)]
    rfl

theorem sortChunks_sorted (l : List Chunk) (h : StrictOff l) : sortChunks l = l := by
  induction l with
  | nil => rfl
  | cons x xs ih =>
    have hx := List.pairwise_cons.mp h
    show insertChunk x (sortChunks xs) = x :: xs
    rw [ih hx.2]
    cases xs with
    | nil => rfl
    | cons y ys =>
      unfold insertChunk
      rw [if_pos (hx.1 y (by simp))]

theorem resize_contig : ∀ (d m : List Chunk) (s t : Int), Contig s t m →
    d.map eraseSize = m.map eraseSize → resize t d = (m, s) := by
  intro d
  induction d with
  | nil =>
    intro m s t hc he
    cases m with
    | nil => simp [Contig] at hc; simp [resize, hc]
    | cons _ _ => simp at he
  | cons x xs ih =>
    intro m s t hc he
    cases m with
    | nil => simp at he
    | cons y ys =>
      simp only [List.map_cons, List.cons.injEq] at he
      obtain ⟨h1, h2, h3⟩ := hc
      have hrec := ih ys (s + y.chunkSize) t h3 he.2
      simp only [resize, hrec]
      have hxy := he.1
      cases x; cases y
      simp only [eraseSize, Chunk.mk.injEq] at hxy
      simp only at h1 h2
      simp only [Prod.mk.injEq, List.cons.injEq, Chunk.mk.injEq]
      refine ⟨⟨⟨hxy.1, ?_, hxy.2.2.1, hxy.2.2.2⟩, trivial⟩, ?_⟩ <;> omega

theorem readChunks_contig (d m : List Chunk) (t : Int) (hc : Contig 0 t m)
    (he : d.map eraseSize = m.map eraseSize) : readChunks d t = m := by
  have hs : StrictOff d := strictOff_of_eraseSize he hc.strictOff
  cases d with
  | nil =>
    cases m with
    | nil => rfl
    | cons _ _ => simp at he
  | cons first rest =>
    unfold readChunks
    have hrest : StrictOff rest := (List.pairwise_cons.mp hs).2
    have hfold : rest.foldl (fun acc c => putChunk c acc) [] = rest :=
      foldl_put_append putChunk _ putChunk_fresh rest [] hrest
    simp only [hfold]
    have hall : (if rest.isEmpty = true then [first] else sortChunks (first :: sortChunks rest)) = first :: rest := by
      cases rest with
      | nil => rfl
      | cons r rs =>
        simp only [List.isEmpty_cons, Bool.false_eq_true, ↓reduceIte]
        rw [sortChunks_sorted _ hrest, sortChunks_sorted _ hs]
    rw [hall, resize_contig (first :: rest) m 0 t hc he]

/-! ## The db encoding of attributes -/

theorem bucketPut_fresh (c : String × String) (acc : List (String × String)) (h : ∀ x ∈ acc, x.1 ≠ c.1) :
    bucketPut c acc = acc ++ [c] := by
  induction acc with
  | nil => rfl
  | cons x xs ih =>
    rw [bucketPut, if_neg (h x List.mem_cons_self), ih fun y hy => h y (List.mem_cons_of_mem _ hy)]
    rfl

theorem normNlink_one_zero : normNlink 0 = normNlink 1 := by decide

/-- what `writeAttr` leaves under `xattrKey`/`xattrValue`: the first xattr, if there is one -/
def xFirstOf (old : Option (String × String)) : List (String × String) → Option (String × String)
  | [] => old
  | f :: _ => some f

/-- …and in `xattrsExtra`: the other xattrs, in a bucket that is reset only if there is one -/
def xExtraOf (old : Option (List (String × String))) : List (String × String) → Option (List (String × String))
  | _ :: r :: rs => some ((r :: rs).foldl (fun acc kv => bucketPut kv acc) [])
  | _ => old

theorem writeAttr_eq (b : DbAttr) (a : Attr) : writeAttr b a =
    { size := putNZ b.size a.size, uid := putNZ b.uid a.uid, gid := putNZ b.gid a.gid,
      devMajor := putNZ b.devMajor a.devMajor, devMinor := putNZ b.devMinor a.devMinor,
      numLink := putNZ b.numLink (a.numLink - 1), mtime := match a.mtime with | some t => some t | none => b.mtime,
      linkName := if a.linkName ≠ "" then some a.linkName else b.linkName,
      mode := if a.mode ≠ 0 then some a.mode else b.mode,
      xFirst := xFirstOf b.xFirst a.xattrs, xExtra := xExtraOf b.xExtra a.xattrs } := by
  unfold writeAttr
  rcases a.xattrs with _ | ⟨f, _ | ⟨r, rs⟩⟩ <;> rfl

theorem putNZ_getD (v : Int) : (putNZ none v).getD 0 = v := by
  unfold putNZ
  split
  · rfl
  · rename_i h; exact (Decidable.not_not.mp h).symm

theorem readAttr_writeAttr_xattrs (a : Attr) (hx : (a.xattrs.map Prod.fst).Nodup) :
    (readAttr (writeAttr {} a)).xattrs = a.xattrs := by
  rw [writeAttr_eq]
  rcases hxa : a.xattrs with _ | ⟨first, _ | ⟨r, rs⟩⟩
  · rfl
  · rfl
  · rw [hxa, List.map_cons, List.nodup_cons] at hx
    exact congrArg (first :: ·)
      (foldl_put_append bucketPut (fun a b => a.1 ≠ b.1) bucketPut_fresh (r :: rs) [] (List.pairwise_map.mp hx.2))

/-- a fresh bucket gives back what was written, except that `NumLink` 1 is stored as "absent" and read back
as 0 -/
theorem readAttr_writeAttr_eq (a : Attr) (hm : a.mode < 4294967296) (hx : (a.xattrs.map Prod.fst).Nodup) :
    readAttr (writeAttr {} a) = { a with numLink := if a.numLink = 1 then 0 else a.numLink } := by
  have hxs := readAttr_writeAttr_xattrs a hx
  rw [writeAttr_eq] at hxs ⊢
  obtain ⟨size, mtime, linkName, mode, uid, gid, dj, dn, xattrs, numLink⟩ := a
  simp only [readAttr, putNZ_getD, Attr.mk.injEq] at hxs ⊢
  refine ⟨trivial, ?_, ?_, ?_, trivial, trivial, trivial, trivial, hxs, ?_⟩
  · cases mtime <;> rfl
  · by_cases hl : linkName = "" <;> simp [hl]
  · by_cases h0 : mode = 0
    · simp [h0]
    · simp only [ne_eq, h0, not_false_eq_true, if_true, Option.getD_some]; exact Nat.mod_eq_of_lt hm
  · unfold putNZ
    by_cases h1 : numLink = 1
    · simp [h1]
    · have : numLink - 1 ≠ 0 := by omega
      simp only [this, ne_eq, not_false_eq_true, if_true, h1, if_false]; omega

/-- the `NumLink` 1 that is read back as 0 is shown by FUSE as 1 again -/
theorem readAttr_writeAttr (a : Attr) (hm : a.mode < 4294967296)
    (hx : (a.xattrs.map Prod.fst).Nodup) :
    normalise (readAttr (writeAttr {} a)) = normalise a := by
  rw [readAttr_writeAttr_eq a hm hx]
  unfold normalise
  congr 1
  show normNlink (if a.numLink = 1 then 0 else a.numLink) = normNlink a.numLink
  split
  · rename_i h; rw [h]; exact normNlink_one_zero
  · rfl

/-! ## Bolt buckets -/

theorem get_filter_ne (b : Bolt) (a c : Nat) (h : c ≠ a) :
    Bolt.get (b.filter (·.1 ≠ a)) c = Bolt.get b c := by
  induction b with
  | nil => rfl
  | cons x xs ih =>
    by_cases hx : x.1 = a
    · simp only [List.filter, hx, ne_eq, not_true_eq_false, decide_false]
      rw [ih]
      obtain ⟨i, t⟩ := x
      simp only at hx
      simp [Bolt.get, hx, Ne.symm h]
    · obtain ⟨i, t⟩ := x
      simp only at hx
      simp only [List.filter, ne_eq, hx, not_false_eq_true, decide_true, Bolt.get]
      rw [ih]

theorem get_filter_self (b : Bolt) (a : Nat) : Bolt.get (b.filter (·.1 ≠ a)) a = none := by
  induction b with
  | nil => rfl
  | cons x xs ih =>
    obtain ⟨i, t⟩ := x
    by_cases hx : i = a
    · simpa [List.filter, hx] using ih
    · simpa [List.filter, hx, Bolt.get] using ih

theorem get_openFs_self (s : Bolt) (a : Nat) (t : Tree) : Bolt.get (s.openFs a t) a = some t := by
  simp [Bolt.openFs, Bolt.get]

theorem get_applyOp_ne (s : Bolt) (op : BoltOp) (b : Nat) (h : op.target ≠ b) :
    Bolt.get (applyOp s op) b = Bolt.get s b := by
  cases op with
  | openFs fs t =>
    simp only [BoltOp.target] at h
    simp only [applyOp, Bolt.openFs, Bolt.get, h, ↓reduceIte]
    exact get_filter_ne s fs b (Ne.symm h)
  | closeFs fs => exact get_filter_ne s fs b (Ne.symm h)
  | query fs => rfl

/-! ## The bits of `os.FileMode` -/

theorem ite_eq_mul_toNat (b : Bool) (k : Nat) : (if b = true then k else 0) = k * b.toNat := by
  cases b <;> simp

/-- the number with the given binary digits, least significant first -/
def ofBits : List Bool → Nat
  | [] => 0
  | b :: bs => b.toNat + 2 * ofBits bs

theorem bit_ofBits : ∀ (bs : List Bool) (k : Nat), bit (ofBits bs) k = bs.getD k false
  | [], k => by simp [ofBits, bit]
  | b :: bs, 0 => by
    rw [List.getD_cons_zero, bit, ofBits, Nat.pow_zero, Nat.div_one, Nat.add_mul_mod_self_left]
    cases b <;> rfl
  | b :: bs, k + 1 => by
    have : (b.toNat + 2 * ofBits bs) / 2 ^ (k + 1) = ofBits bs / 2 ^ k := by
      rw [Nat.pow_succ', ← Nat.div_div_eq_div_mul]; congr 1; have := b.toNat_le; omega
    rw [List.getD_cons_succ, ← bit_ofBits bs k]
    simp only [bit, ofBits, this]

theorem ofBits_lt : ∀ bs : List Bool, ofBits bs < 2 ^ bs.length
  | [] => Nat.one_pos
  | b :: bs => by
    have := ofBits_lt bs
    have := b.toNat_le
    rw [ofBits, List.length_cons, Nat.pow_succ]
    omega

theorem bit_shift (lo m a k : Nat) (h : lo < 2 ^ a) : bit (lo + 2 ^ a * m) (k + a) = bit m k := by
  unfold bit
  rw [Nat.pow_add, Nat.mul_comm (2 ^ k), ← Nat.div_div_eq_div_mul, Nat.add_mul_div_left _ _ (Nat.two_pow_pos a),
    Nat.div_eq_of_lt h, Nat.zero_add]

theorem modeTypeBits_ofBits (lo : Nat) (i s c g u k p d l r : Bool) (hlo : lo < 2 ^ 19) :
    modeTypeBits (lo + 2 ^ 19 * ofBits [i, s, c, g, u, k, p, d, l, false, false, false, r]) =
      modeDir * r.toNat + modeSymlink * l.toNat + modeDevice * d.toNat + modeNamedPipe * p.toNat
        + modeSocket * k.toNat + modeCharDevice * c.toNat + modeIrregular * i.toNat := by
  have e := fun j => (bit_shift lo (ofBits [i, s, c, g, u, k, p, d, l, false, false, false, r]) 19 j hlo).trans
    (bit_ofBits _ j)
  unfold modeTypeBits
  rw [e 12, e 8, e 7, e 6, e 5, e 2, e 0]
  simp only [ite_eq_mul_toNat, List.getD_cons_zero, List.getD_cons_succ]

def typeBitsOf (t : String) : Nat :=
  if t = "dir" then modeDir else if t = "symlink" then modeSymlink
  else if t = "char" then modeDevice + modeCharDevice else if t = "block" then modeDevice
  else if t = "fifo" then modeNamedPipe else 0

/-- `goFileMode` by its binary digits: permissions below, then sticky (20), char device (21), setgid (22),
setuid (23), fifo (25), device (26), symlink (27), dir (31) -/
theorem goFileMode_digits (t : String) (m : Int) : ∃ (lo : Nat) (s c g u p d l r : Bool), lo < 2 ^ 19 ∧
    (t ≠ "dir" → r = false) ∧
    typeBitsOf t = modeDir * r.toNat + modeSymlink * l.toNat + modeDevice * d.toNat + modeNamedPipe * p.toNat
      + modeCharDevice * c.toNat ∧
    goFileMode t m = lo + 2 ^ 19 * ofBits [false, s, c, g, u, false, p, d, l, false, false, false, r] := by
  have hty : ∃ r l d p c : Bool, (t ≠ "dir" → r = false) ∧
      typeBitsOf t = modeDir * r.toNat + modeSymlink * l.toNat + modeDevice * d.toNat + modeNamedPipe * p.toNat
        + modeCharDevice * c.toNat := by
    unfold typeBitsOf
    by_cases h1 : t = "dir"
    · exact ⟨true, false, false, false, false, fun h => absurd h1 h, by rw [if_pos h1]; rfl⟩
    rw [if_neg h1]
    by_cases h2 : t = "symlink"
    · exact ⟨false, true, false, false, false, fun _ => rfl, by rw [if_pos h2]; rfl⟩
    rw [if_neg h2]
    by_cases h3 : t = "char"
    · exact ⟨false, false, true, false, true, fun _ => rfl, by rw [if_pos h3]; rfl⟩
    rw [if_neg h3]
    by_cases h4 : t = "block"
    · exact ⟨false, false, true, false, false, fun _ => rfl, by rw [if_pos h4]; rfl⟩
    rw [if_neg h4]
    by_cases h5 : t = "fifo"
    · exact ⟨false, false, false, true, false, fun _ => rfl, by rw [if_pos h5]; rfl⟩
    · exact ⟨false, false, false, false, false, fun _ => rfl, by rw [if_neg h5]; rfl⟩
  obtain ⟨r, l, d, p, c, hr, ht⟩ := hty
  refine ⟨(m % 4096).toNat % 512, bit (m % 4096).toNat 9, c, bit (m % 4096).toNat 10, bit (m % 4096).toNat 11,
    p, d, l, r, Nat.lt_of_lt_of_le (Nat.mod_lt _ (by decide)) (by decide), hr, ht, ?_⟩
  have : goFileMode t m = (m % 4096).toNat % 512 + (modeSetuid * (bit (m % 4096).toNat 11).toNat
      + modeSetgid * (bit (m % 4096).toNat 10).toNat + modeSticky * (bit (m % 4096).toNat 9).toNat)
      + typeBitsOf t := by
    simp only [goFileMode, typeBitsOf, ite_eq_mul_toNat]
  rw [this, ht]
  simp only [ofBits, modeDir, modeSymlink, modeDevice, modeNamedPipe, modeSetuid, modeSetgid, modeCharDevice,
    modeSticky, Bool.toNat_false, Nat.mul_add, ← Nat.mul_assoc, Nat.mul_zero, Nat.zero_add, Nat.add_zero,
    Nat.reducePow, Nat.reduceMul]
  ac_rfl

theorem goFileMode_lt (t : String) (m : Int) : goFileMode t m < 4294967296 := by
  obtain ⟨lo, s, c, g, u, p, d, l, r, hlo, -, -, h⟩ := goFileMode_digits t m
  have := ofBits_lt [false, s, c, g, u, false, p, d, l, false, false, false, r]
  simp only [List.length_cons, List.length_nil] at this
  omega

theorem modeTypeBits_go (t : String) (m : Int) : modeTypeBits (goFileMode t m) = typeBitsOf t := by
  obtain ⟨lo, s, c, g, u, p, d, l, r, hlo, -, ht, h⟩ := goFileMode_digits t m
  rw [h, ht, modeTypeBits_ofBits _ _ _ _ _ _ _ _ _ _ _ hlo, Bool.toNat_false, Nat.mul_zero, Nat.mul_zero,
    Nat.add_zero, Nat.add_zero]

theorem fmIsRegular_go (t : String) (m : Int) :
    fmIsRegular (goFileMode t m) = decide (typeBitsOf t = 0) := by
  unfold fmIsRegular; rw [modeTypeBits_go]

theorem fmIsDir_go_false (t : String) (m : Int) (h : t ≠ "dir") : fmIsDir (goFileMode t m) = false := by
  obtain ⟨lo, s, c, g, u, p, d, l, r, hlo, hr, -, hn⟩ := goFileMode_digits t m
  rw [fmIsDir, hn, bit_shift lo _ 19 12 hlo, bit_ofBits]
  exact hr h

end SV.Toc
