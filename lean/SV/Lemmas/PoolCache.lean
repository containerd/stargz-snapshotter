/-
The ownership invariant `Inv` of the buffer-pool model (C02x) and `Free s b` (buffer `b` is in nobody's hands but the
caller's).  `take`, writing, `publish`, `putBuffer` keep `Inv` for a free buffer; hence so do `evict` and a `store` by a
caller that calls exactly one of Commit / Abort (`abortOnFail = false`; with `true` it fails, `Props/C02x.lean`).
-/
import SV.Model.PoolCache

namespace SV.PoolCache

structure Inv (content : Nat → Bytes) (s : St) : Prop where
  val : ∀ e ∈ s.lru, s.bufs[e.2]? = some (content e.1)
  sep : ∀ b ∈ s.pool, b < s.bufs.length ∧ ∀ e ∈ s.lru, e.2 ≠ b
  nd : (s.lru.map (·.2)).Nodup
  pnd : s.pool.Nodup

theorem Inv.init (content : Nat → Bytes) : Inv content init :=
  ⟨fun _ h => (List.not_mem_nil h).elim, fun _ h => (List.not_mem_nil h).elim, List.nodup_nil, List.nodup_nil⟩

theorem eraseIdx_ne {l : List (Nat × Nat)} (h : (l.map (·.2)).Nodup) {i : Nat} {e : Nat × Nat}
    (he : l[i]? = some e) : ∀ e' ∈ l.eraseIdx i, e'.2 ≠ e.2 := by
  induction l generalizing i with
  | nil => simp at he
  | cons a t ih =>
    simp only [List.map_cons, List.nodup_cons, List.mem_map, not_exists, not_and] at h
    cases i with
    | zero =>
      simp only [List.getElem?_cons_zero, Option.some.injEq] at he
      subst he
      intro e' he'
      simp only [List.eraseIdx_cons_zero] at he'
      exact fun hc => h.1 e' he' hc
    | succ j =>
      simp only [List.getElem?_cons_succ] at he
      intro e' he'
      simp only [List.eraseIdx_cons_succ, List.mem_cons] at he'
      rcases he' with rfl | he'
      · exact fun hc => h.1 e (List.mem_of_getElem? he) hc.symm
      · exact ih h.2 he e' he'

/-- Buffer `b` exists and is neither an LRU value nor in the pool: it belongs to whoever holds it (a writer
between `take` and `publish`, or `OnEvicted` for the entry it has just removed). -/
structure Free (s : St) (b : Nat) : Prop where
  lt : b < s.bufs.length
  lru : ∀ e ∈ s.lru, e.2 ≠ b
  pool : b ∉ s.pool

theorem Inv.set {content : Nat → Bytes} {s : St} {b : Nat} (h : Inv content s) (hf : Free s b) (v : Bytes) :
    Inv content { s with bufs := s.bufs.set b v } ∧ Free { s with bufs := s.bufs.set b v } b := by
  refine ⟨⟨fun e he => ?_, fun x hx => ?_, h.nd, h.pnd⟩, ⟨?_, hf.lru, hf.pool⟩⟩
  · show (s.bufs.set b v)[e.2]? = _
    rw [List.getElem?_set_ne (fun hc => hf.lru e he hc.symm)]
    exact h.val e he
  · show x < (s.bufs.set b v).length ∧ _
    rw [List.length_set]
    exact h.sep x hx
  · show b < (s.bufs.set b v).length
    rw [List.length_set]
    exact hf.lt

theorem Inv.putBuffer {content : Nat → Bytes} {s : St} {b : Nat} (h : Inv content s) (hf : Free s b) :
    Inv content (putBuffer s b) := by
  obtain ⟨h1, h2⟩ := Inv.set h hf []
  refine ⟨h1.val, fun x hx => ?_, h1.nd, List.nodup_cons.mpr ⟨hf.pool, h.pnd⟩⟩
  rcases List.mem_cons.mp hx with rfl | hx
  · exact ⟨h2.lt, hf.lru⟩
  · exact h1.sep x hx

theorem Inv.evict {content : Nat → Bytes} {s : St} (h : Inv content s) (i : Nat) :
    Inv content (evict s i) := by
  unfold PoolCache.evict
  split
  · rename_i e he
    have hm : e ∈ s.lru := List.mem_of_getElem? he
    have hsub : ∀ x ∈ s.lru.eraseIdx i, x ∈ s.lru := fun x hx => (List.eraseIdx_sublist _ _).subset hx
    have h' : Inv content { s with lru := s.lru.eraseIdx i } :=
      ⟨fun x hx => h.val x (hsub x hx), fun b hb => ⟨(h.sep b hb).1, fun x hx => (h.sep b hb).2 x (hsub x hx)⟩,
       ((List.eraseIdx_sublist _ _).map _).nodup h.nd, h.pnd⟩
    exact Inv.putBuffer h' ⟨(List.getElem?_eq_some_iff.1 (h.val e hm)).1, eraseIdx_ne h.nd he,
      fun hc => (h.sep e.2 hc).2 e hm rfl⟩
  · exact h

theorem Inv.take {content : Nat → Bytes} {s : St} (h : Inv content s) (pick : Option Nat) :
    Inv content (take s pick).1 ∧ Free (take s pick).1 (take s pick).2 := by
  unfold PoolCache.take
  split
  · rename_i b hb
    have hmem : b ∈ s.pool := by
      cases pick with
      | none => cases hb
      | some i => exact List.mem_of_getElem? hb
    exact ⟨⟨h.val, fun x hx => h.sep x (List.mem_of_mem_erase hx), h.nd, h.pnd.erase b⟩,
      ⟨(h.sep b hmem).1, (h.sep b hmem).2, h.pnd.not_mem_erase⟩⟩
  · have hlt : ∀ {j : Nat}, j < s.bufs.length → j < (s.bufs ++ [[]]).length := fun hj => by
      rw [List.length_append]; exact Nat.lt_add_right _ hj
    refine ⟨⟨fun e he => ?_, fun x hx => ⟨hlt (h.sep x hx).1, (h.sep x hx).2⟩, h.nd, h.pnd⟩,
      ⟨by simp, fun e he hc => ?_, fun hc => Nat.lt_irrefl _ (h.sep _ hc).1⟩⟩
    · have := h.val e he
      show (s.bufs ++ [[]])[e.2]? = _
      rw [List.getElem?_append_left (List.getElem?_eq_some_iff.1 this).1]
      exact this
    · exact Nat.lt_irrefl _ (hc ▸ (List.getElem?_eq_some_iff.1 (h.val e he)).1)

theorem Inv.publish {content : Nat → Bytes} {s : St} {k b : Nat} (h : Inv content s) (hf : Free s b)
    (hv : s.bufs[b]? = some (content k)) : Inv content (publish s k b) := by
  unfold PoolCache.publish
  split
  · exact Inv.putBuffer h hf
  · refine ⟨fun e he => ?_, fun x hx => ⟨(h.sep x hx).1, fun e he => ?_⟩, ?_, h.pnd⟩
    · rcases List.mem_cons.mp he with rfl | he
      · exact hv
      · exact h.val e he
    · rcases List.mem_cons.mp he with rfl | he
      · exact fun hc => hf.pool ((show b = x from hc) ▸ hx)
      · exact (h.sep x hx).2 e he
    · exact List.nodup_cons.mpr ⟨fun hm => (List.mem_map.mp hm).elim fun e he => hf.lru e he.1 he.2, h.nd⟩

theorem Inv.store {content : Nat → Bytes} {s : St} (h : Inv content s) (k : Nat) (pick : Option Nat)
    (fail : Bool) : Inv content (store content s k pick fail false) := by
  obtain ⟨h1, f1⟩ := Inv.take h pick
  obtain ⟨h2, f2⟩ := Inv.set h1 f1 (content k)
  simp only [PoolCache.store, Bool.and_false, Bool.false_eq_true, if_false]
  exact Inv.publish h2 f2 (List.getElem?_set_self f1.lt)

theorem Inv.run {content : Nat → Bytes} (ops : List Op) {s : St} (h : Inv content s) :
    Inv content (run content false s ops) := by
  refine List.foldlRecOn (motive := Inv content) ops _ h (fun t ih op _ => ?_)
  cases op with
  | store k pick fail => exact Inv.store ih k pick fail
  | evict i => exact Inv.evict ih i

theorem Inv.get {content : Nat → Bytes} {s : St} (h : Inv content s) {k : Nat} {v : Bytes}
    (hg : get s k = some v) : v = content k := by
  unfold PoolCache.get at hg
  split at hg
  · rename_i e he
    have hm := List.mem_of_find?_eq_some he
    have hk : e.1 = k := by simpa using List.find?_some he
    rw [h.val e hm, hk] at hg
    exact (Option.some.inj hg).symm
  · simp at hg

end SV.PoolCache
