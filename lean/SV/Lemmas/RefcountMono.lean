import SV.Lemmas.Refcount
/-
What no operation of the TTL cache undoes.  `Mono`, `TTL.step_mono`: no operation un-fires a `finalizeOnce` or
forgets a refCounter, so a value that has left the cache stays out for the rest of every history.
`TTL.step_tokRc`: no operation forgets a closure or moves it to another refCounter.
-/
namespace SV.Refcount

/-- Weaker than `ViewEq` (`Mono.of_viewEq`): `finalize` and appending refCounters are allowed. -/
def Mono (l l' : List RC) : Prop :=
  ∀ (j : Nat) (r : RC), l[j]? = some r →
    ∃ r' : RC, l'[j]? = some r' ∧ r'.key = r.key ∧ r'.val = r.val ∧ (r.finDone = true → r'.finDone = true)

theorem Mono.refl (l : List RC) : Mono l l := fun _ r h => ⟨r, h, rfl, rfl, id⟩

theorem Mono.trans {a b c : List RC} (h1 : Mono a b) (h2 : Mono b c) : Mono a c := by
  intro j r hr
  obtain ⟨r1, e1, k1, v1, f1⟩ := h1 j r hr
  obtain ⟨r2, e2, k2, v2, f2⟩ := h2 j r1 e1
  exact ⟨r2, e2, k2.trans k1, v2.trans v1, fun h => f2 (f1 h)⟩

theorem Mono.of_viewEq {l l' : List RC} (h : ViewEq l l') : Mono l l' := by
  intro j r hr
  obtain ⟨r', e, k, v, f⟩ := h.get hr
  exact ⟨r', e, k, v, fun h => f.trans h⟩

theorem Mono.append (l : List RC) (x : RC) : Mono l (l ++ [x]) :=
  fun _ r hr => ⟨r, getElem?_concat_of hr x, rfl, rfl, id⟩

theorem Mono.fin (c : Core) (id : Nat) : Mono c.rcs (c.fin id).rcs := by
  intro j r hr
  refine ⟨if id = j then r.finalize else r, by simp [fin_lookup, hr], ?_, ?_, ?_⟩
  · split <;> simp
  · split <;> simp
  · intro h; split <;> simp [h]

theorem Mono.newTok (c : Core) (id : Nat) : Mono c.rcs (c.newTok id).rcs :=
  Mono.of_viewEq (viewEq_newTok c id)

theorem Mono.release (c : Core) (tok : Nat) : Mono c.rcs (c.release tok).rcs :=
  Mono.of_viewEq (viewEq_release c tok)

theorem Mono.newRc (c : Core) (k v : Nat) : Mono c.rcs (c.newRc k v).rcs := Mono.append _ _

theorem TTL.evictLocked_mono (s : TTL) (k : Nat) : Mono s.core.rcs (s.evictLocked k).core.rcs := by
  cases hm : s.m k with
  | none => rw [TTL.evictLocked_vacant hm]; exact Mono.refl _
  | some id => rw [TTL.evictLocked_of_mem hm]; exact Mono.fin _ _

theorem TTL.step_mono (s : TTL) (op : TOp) : Mono s.core.rcs (s.step op).1.core.rcs := by
  cases op with
  | add k v =>
    show Mono s.core.rcs (s.add k v).1.core.rcs
    cases hm : s.m k with
    | some id => rw [TTL.add_cached v hm]; exact Mono.newTok _ _
    | none => rw [TTL.add_vacant v hm]; exact (Mono.newRc _ _ _).trans (Mono.newTok _ _)
  | get k =>
    show Mono s.core.rcs (s.get k).1.core.rcs
    cases hm : s.m k with
    | some id => rw [TTL.get_cached hm]; exact Mono.newTok _ _
    | none => rw [TTL.get_vacant hm]; exact Mono.refl _
  | remove k => exact TTL.evictLocked_mono s k
  | expire k => exact TTL.evictLocked_mono s k
  | done tok e =>
    show Mono s.core.rcs (s.done tok e).1.core.rcs
    cases ht : s.core.toks[tok]? with
    | none => rw [TTL.done_none ht]; exact Mono.refl _
    | some t =>
      cases e with
      | false => rw [TTL.done_false_eq]; exact Mono.release _ _
      | true => rw [TTL.done_true_core ht]; exact (Mono.release _ _).trans (Mono.fin _ _)

theorem TTL.step_tokRc (t : TTL) (op : TOp) {tok : Nat} {tk : Tok} (h : t.core.toks[tok]? = some tk) :
    ∃ tk', (t.step op).1.core.toks[tok]? = some tk' ∧ tk'.rc = tk.rc := by
  have app : ∀ id, ∃ tk', (t.core.toks ++ [{ rc := id }])[tok]? = some tk' ∧ tk'.rc = tk.rc :=
    fun _ => ⟨tk, getElem?_concat_of h _, rfl⟩
  cases op with
  | add k v =>
    show ∃ tk', (t.add k v).1.core.toks[tok]? = _ ∧ _
    cases hm : t.m k with
    | some id => rw [TTL.add_cached v hm]; exact app id
    | none => rw [TTL.add_vacant v hm]; exact app _
  | get k =>
    show ∃ tk', (t.get k).1.core.toks[tok]? = _ ∧ _
    cases hm : t.m k with
    | some id => rw [TTL.get_cached hm]; exact app id
    | none => rw [TTL.get_vacant hm]; exact ⟨tk, h, rfl⟩
  | remove k => exact ⟨tk, (TTL.evictLocked_toks t k).symm ▸ h, rfl⟩
  | expire k => exact ⟨tk, (TTL.evictLocked_toks t k).symm ▸ h, rfl⟩
  | done tok' e =>
    show ∃ tk', (t.done tok' e).1.core.toks[tok]? = _ ∧ _
    cases ht : t.core.toks[tok']? with
    | none => rw [TTL.done_none ht]; exact ⟨tk, h, rfl⟩
    | some t' =>
      rw [TTL.done_toks e ht]
      by_cases e' : tok' = tok
      · subst e'
        rw [ht] at h; cases h
        exact ⟨_, List.getElem?_set_self (List.getElem_of_getElem? ht).1, rfl⟩
      · exact ⟨tk, by rw [List.getElem?_set_ne e']; exact h, rfl⟩

theorem TTL.foldl_mono (ops : List TOp) :
    ∀ s : TTL, Mono s.core.rcs (ops.foldl (fun s o => (s.step o).1) s).core.rcs := fun s =>
  List.foldlRecOn (motive := fun s' => Mono s.core.rcs s'.core.rcs) ops _ (Mono.refl _)
    fun s' h o _ => h.trans (TTL.step_mono s' o)

end SV.Refcount
