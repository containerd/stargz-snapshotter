/-
Lemmas about the label-protocol model (`SV/Model/Labels.lean`).  Two equations carry the file, `default_pull_read`
and `extra_pull_read`: what `readSource` returns on the labels a pull leaves for a layer child, each the writer's
description (`Fixed`, `labelByPosition` / `labelByDigest`) composed with `readSource_of_layers`.  `readSource_some`
is the reader's inversion; the `*_valid` lemmas prove `AddsValid` through the same loops.
-/
import SV.Model.Labels

namespace SV.Labels

/-! ### Label maps -/

theorem get_set (m : Labels) (k v k' : Str) :
    get (set m k v) k' = if k' = k then some v else get m k' := by
  simp [set, get]

theorem get_setAbsent (a : Labels) (k v k' : Str) :
    get (if (get a k).isNone = true then set a k v else a) k' =
      if k' = k then some ((get a k).getD v) else get a k' := by
  cases h : get a k with
  | none => simp only [Option.isNone_none, if_true, get_set, Option.getD_none]
  | some x =>
    rw [if_neg (by simp)]
    split
    · rename_i e; rw [e, h]; rfl
    · rfl

def AddsValid (a b : Labels) : Prop :=
  ∀ k v, get b k = some v → get a k = some v ∨ validate k v = true

theorem addsValid_refl (a : Labels) : AddsValid a a := fun _ _ h => Or.inl h

theorem addsValid_set {a b : Labels} {k v : Str} (h : AddsValid a b) (hv : validate k v = true) :
    AddsValid a (set b k v) := by
  intro k' v' hk
  rw [get_set] at hk
  split at hk
  · rename_i e
    rw [e, ← Option.some.inj hk]
    exact Or.inr hv
  · exact h k' v' hk

theorem addsValid_setAbsent {a b : Labels} {k v : Str} (h : AddsValid a b) (hv : validate k v = true) :
    AddsValid a (if (get b k).isNone = true then set b k v else b) := by
  split
  · exact addsValid_set h hv
  · exact h

/-! ### Comma-separated strings -/

theorem splitComma_ne_nil (s : Str) : splitComma s ≠ [] := by
  induction s with
  | nil => simp [splitComma]
  | cons c cs ih =>
    simp only [splitComma]
    split
    · simp
    · split <;> simp

theorem splitComma_noComma (x : Str) (h : ',' ∉ x) : splitComma x = [x] := by
  induction x with
  | nil => rfl
  | cons c cs ih =>
    have hc : c ≠ ',' := fun e => h (by simp [e])
    have hcs : ',' ∉ cs := fun e => h (by simp [e])
    simp [splitComma, hc, ih hcs]

theorem splitComma_append_comma (x r : Str) : splitComma (x ++ ',' :: r) = splitComma x ++ splitComma r := by
  induction x with
  | nil => rfl
  | cons c cs ih =>
    simp only [List.cons_append, splitComma, ih]
    split
    · rfl
    · cases h : splitComma cs with
      | nil => exact absurd h (splitComma_ne_nil cs)
      | cons p ps => rfl

theorem splitComma_length_le : ∀ (s : Str), (splitComma s).length ≤ s.length + 1
  | [] => by simp [splitComma]
  | c :: cs => by
    have ih := splitComma_length_le cs
    simp only [splitComma]
    split
    · simp; omega
    · split
      · simp
      · rename_i h t heq; rw [heq] at ih; simp at ih ⊢; omega

theorem trimSuffixComma_length_le (s : Str) : (trimSuffixComma s).length ≤ s.length := by
  induction s with
  | nil => simp [trimSuffixComma]
  | cons c cs ih =>
    cases cs with
    | nil => simp only [trimSuffixComma]; split <;> simp
    | cons d r => simp only [trimSuffixComma, List.length_cons] at *; omega

theorem trimSuffixComma_append (a b : Str) (hb : b ≠ []) :
    trimSuffixComma (a ++ b) = a ++ trimSuffixComma b := by
  induction a with
  | nil => rfl
  | cons c cs ih =>
    cases h : cs ++ b with
    | nil => simp at h; exact absurd h.2 hb
    | cons d r =>
      simp only [List.cons_append, h, trimSuffixComma]
      rw [← h, ih]

theorem trimSuffixComma_single_comma : trimSuffixComma [','] = [] := by simp [trimSuffixComma]

theorem catComma_ne_nil (x : Str) (xs : List Str) : catComma (x :: xs) ≠ [] := by
  simp [catComma]

theorem trim_catComma : ∀ (x : Str) (xs : List Str),
    trimSuffixComma (catComma (x :: xs)) = joinComma (x :: xs)
  | x, [] => by
    simp only [catComma, joinComma]
    rw [trimSuffixComma_append x [','] (by simp)]; simp [trimSuffixComma]
  | x, y :: r => by
    have ih := trim_catComma y r
    simp only [catComma, joinComma] at *
    rw [show x ++ ',' :: (y ++ ',' :: catComma r) = (x ++ [',']) ++ (y ++ ',' :: catComma r) by simp]
    rw [trimSuffixComma_append _ _ (by simp), ih]; simp

theorem trim_catComma_nil : trimSuffixComma (catComma []) = [] := rfl

def preComma : List Str → Str
  | [] => []
  | x :: xs => ',' :: x ++ preComma xs

theorem joinComma_cons (x : Str) : ∀ (xs : List Str), joinComma (x :: xs) = x ++ preComma xs
  | [] => by simp [joinComma, preComma]
  | y :: r => by
    simp only [joinComma, preComma]; rw [joinComma_cons y r]; simp

theorem split_joinComma : ∀ (x : Str) (xs : List Str),
    splitComma (joinComma (x :: xs)) = (x :: xs).flatMap splitComma
  | x, [] => by simp [joinComma]
  | x, y :: r => by
    simp only [joinComma]
    rw [splitComma_append_comma, split_joinComma y r]; rfl

theorem flatMap_splitComma (xs : List Str) (h : ∀ y ∈ xs, ',' ∉ y) : xs.flatMap splitComma = xs := by
  induction xs with
  | nil => rfl
  | cons x xs ih =>
    rw [List.flatMap_cons, splitComma_noComma x (h x (by simp)), ih fun y hy => h y (by simp [hy])]; rfl

theorem drop_eq_cons_of_getElem? {α : Type} (l : List α) (i : Nat) (c : α) (h : l[i]? = some c) :
    l.drop i = c :: l.drop (i + 1) := by
  obtain ⟨hi, rfl⟩ := List.getElem?_eq_some_iff.mp h
  exact List.drop_eq_getElem_cons hi

theorem getElem?_take_some {α : Type} {l : List α} {k m : Nat} {x : α} (h : (l.take k)[m]? = some x) :
    m < k ∧ l[m]? = some x := by
  rw [List.getElem?_take] at h
  split at h
  · exact ⟨‹_›, h⟩
  · exact absurd h (by simp)

/-! ### URL labels -/

/-- Number of leading values that the loop of `appendWithValidation` accepts when the
accumulator already holds `len` bytes. -/
def fitCount (key : Str) : Nat → List Str → Nat
  | _, [] => 0
  | len, u :: us =>
    if key.length + (len + (u.length + 1)) ≤ maxSize then fitCount key (len + (u.length + 1)) us + 1 else 0

theorem fitCount_le (key : Str) : ∀ (len : Nat) (us : List Str), fitCount key len us ≤ us.length
  | _, [] => by simp [fitCount]
  | len, u :: us => by
    simp only [fitCount]; split
    · have := fitCount_le key (len + (u.length + 1)) us; simp; omega
    · simp

theorem fitCount_all (key : Str) : ∀ (len : Nat) (us : List Str),
    key.length + (len + (catComma us).length) ≤ maxSize → fitCount key len us = us.length
  | _, [], _ => by simp [fitCount]
  | len, u :: us, h => by
    simp only [catComma, List.length_append, List.length_cons] at h
    simp only [fitCount]
    rw [if_pos (by omega), fitCount_all key _ us (by omega)]; simp

theorem appendLoop_eq (key : Str) : ∀ (v : Str) (us : List Str),
    appendLoop key v us = v ++ catComma (us.take (fitCount key v.length us))
  | v, [] => by simp [appendLoop, fitCount, catComma]
  | v, u :: us => by
    simp only [appendLoop, fitCount, validate, decide_eq_true_eq, List.length_append, List.length_cons,
      List.length_nil, Nat.zero_add]
    split
    · rw [appendLoop_eq key _ us]; simp [catComma, List.length_append]
    · simp [catComma]

theorem appendLoop_valid (key : Str) : ∀ (v : Str) (us : List Str),
    validate key v = true → validate key (appendLoop key v us) = true
  | v, [], h => by simpa [appendLoop] using h
  | v, u :: us, h => by
    simp only [appendLoop]
    split
    · rename_i h'; exact appendLoop_valid key _ us h'
    · exact h

theorem validate_trim (key v : Str) (h : validate key v = true) :
    validate key (trimSuffixComma v) = true := by
  have := trimSuffixComma_length_le v
  simp only [validate, decide_eq_true_eq] at *; omega

theorem validate_appendWithValidation (key : Str) (us : List Str) (hk : key.length ≤ maxSize) :
    validate key (appendWithValidation key us) = true := by
  unfold appendWithValidation
  exact validate_trim _ _ (appendLoop_valid key [] us (by simpa [validate] using hk))

theorem appendWithValidation_eq (key : Str) (us : List Str) :
    appendWithValidation key us = trimSuffixComma (catComma (us.take (fitCount key 0 us))) := by
  unfold appendWithValidation; rw [appendLoop_eq]; simp

def readURLs (key : Str) (us : List Str) : List Str := splitComma (appendWithValidation key us)

theorem readURLs_eq (key : Str) (us : List Str) :
    readURLs key us =
      if fitCount key 0 us = 0 then [[]] else (us.take (fitCount key 0 us)).flatMap splitComma := by
  unfold readURLs; rw [appendWithValidation_eq]
  split
  · rename_i h; rw [h]; rfl
  · rename_i h
    cases hx : us.take (fitCount key 0 us) with
    | nil =>
      have := fitCount_le key 0 us
      have : (us.take (fitCount key 0 us)).length = 0 := by rw [hx]; rfl
      rw [List.length_take] at this; omega
    | cons x xs => rw [trim_catComma, split_joinComma]

theorem readURLs_spec (key : Str) (us : List Str) (hc : ∀ u ∈ us, ',' ∉ u) :
    readURLs key us = if fitCount key 0 us = 0 then [[]] else us.take (fitCount key 0 us) := by
  rw [readURLs_eq, flatMap_splitComma _ fun y hy => hc y (List.mem_of_mem_take hy)]

/-! ### Keys and numbers -/

theorem natDec_inj {a b : Nat} (h : natDec a = natDec b) : a = b := by
  have ha := @Nat.ofDigitChars_ten_toDigits a
  have hb := @Nat.ofDigitChars_ten_toDigits b
  unfold natDec at h
  rw [h] at ha; omega

theorem urlsKey_inj {a b : Nat} (h : urlsKey a = urlsKey b) : a = b :=
  natDec_inj (List.append_cancel_left h)

theorem natDec_length_le (n k : Nat) (hk : 0 < k) (h : n < 10 ^ k) : (natDec n).length ≤ k :=
  (Nat.length_toDigits_le_iff (by decide) hk).mpr h

theorem natDec_length_pos (n : Nat) : 0 < (natDec n).length := Nat.length_toDigits_pos

-- `35 = kURLsPrefix.length`
theorem urlsKey_length (j : Nat) : (urlsKey j).length = 35 + (natDec j).length := by
  unfold urlsKey; rw [List.length_append]; rfl

theorem urlsKey_length_le (m : Nat) (h : m < 2 ^ 63) : (urlsKey m).length ≤ maxSize := by
  rw [urlsKey_length]; have := natDec_length_le m 19 (by omega) (by omega); simp [maxSize]; omega

theorem urlsKey_ne (k : Str) (h : ¬ kURLsPrefix <+: k) (j : Nat) : urlsKey j ≠ k := by
  intro e; apply h; rw [← e]; exact List.prefix_append _ _

theorem urlsKey_ne_fixed : ∀ k ∈ [kRef, kDigest, kLayers, kURLs, kPrefetch, kCriRef, kCriDigest, kCriLayers,
    kCriManifest], ∀ j, urlsKey j ≠ k := by
  have h : ∀ k ∈ [kRef, kDigest, kLayers, kURLs, kPrefetch, kCriRef, kCriDigest, kCriLayers, kCriManifest],
      ¬ kURLsPrefix <+: k := by decide +kernel
  exact fun k hk => urlsKey_ne k (h k hk)

theorem kPrefetch_ne_kURLs : kPrefetch ≠ kURLs := by decide +kernel

theorem defaultKeys_ne :
    kRef ≠ kURLs ∧ kRef ≠ kPrefetch ∧ kRef ≠ kLayers ∧ kRef ≠ kDigest ∧ kDigest ≠ kURLs ∧
    kDigest ≠ kPrefetch ∧ kDigest ≠ kLayers ∧ kLayers ≠ kURLs ∧ kLayers ≠ kPrefetch := by
  decide +kernel

theorem criKeys_ne :
    kCriRef ≠ kCriManifest ∧ kCriRef ≠ kCriLayers ∧ kCriRef ≠ kCriDigest ∧ kCriDigest ≠ kCriManifest ∧
    kCriDigest ≠ kCriLayers ∧ kCriLayers ≠ kCriManifest := by
  decide +kernel

theorem criKeys_ne_extra : ∀ k ∈ [kCriRef, kCriDigest, kCriLayers, kCriManifest], k ≠ kURLs ∧ k ≠ kPrefetch := by
  decide +kernel

theorem kRef_length : kRef.length = 46 := by decide
theorem kDigest_length : kDigest.length = 43 := by decide
theorem kURLs_length : kURLs.length = 34 := by decide
theorem kPrefetch_length : kPrefetch.length = 45 := by decide
theorem kCriRef_length : kCriRef.length = 36 := by decide
theorem kCriDigest_length : kCriDigest.length = 39 := by decide
theorem kCriManifest_length : kCriManifest.length = 42 := by decide

theorem intDec_valid (pf : Int) (hpf : -(2 ^ 63) ≤ pf ∧ pf < 2 ^ 63) :
    validate kPrefetch (intDec pf) = true := by
  -- at most 19 digits, since `2 ^ 63 < 10 ^ 19`
  have := natDec_length_le pf.natAbs 19 (by omega) (by omega)
  simp only [validate, decide_eq_true_eq, kPrefetch_length, maxSize, intDec]
  split <;> simp <;> omega

theorem parseUint_natDec (m : Nat) : parseUint (natDec m) = some m := by
  unfold parseUint natDec
  rw [if_neg Nat.toDigits_ne_nil]
  rw [if_pos (by
    rw [List.all_eq_true]
    intro c hc
    exact Nat.isDigit_of_mem_toDigits (by omega) (by omega) hc)]
  simp

theorem parseInt64_natDec (m : Nat) :
    parseInt64 (natDec m) = if m < 2 ^ 63 then some (m : Int) else none := by
  have hu := parseUint_natDec m
  cases h : natDec m with
  | nil => exact absurd h Nat.toDigits_ne_nil
  | cons c r =>
    -- the first character is a digit, so neither sign branch is taken
    have hc : c.isDigit = true := Nat.isDigit_of_mem_toDigits (b := 10) (n := m) (by omega) (by omega)
      (by unfold natDec at h; rw [h]; simp)
    rw [h] at hu
    unfold parseInt64
    split
    · rename_i heq; exact absurd heq (by simp)
    · rename_i heq; rw [(List.cons.inj heq).1] at hc; exact absurd hc (by decide)
    · rename_i heq; rw [(List.cons.inj heq).1] at hc; exact absurd hc (by decide)
    · rw [hu]; rfl

theorem parseInt64_intDec (n : Int) (h : -(2 ^ 63) ≤ n ∧ n < 2 ^ 63) : parseInt64 (intDec n) = some n := by
  unfold intDec
  split
  · show parseInt64 ('-' :: natDec n.natAbs) = some n
    unfold parseInt64
    simp only [parseUint_natDec, Option.bind_some]
    rw [if_pos (by omega)]
    congr 1; omega
  · rw [parseInt64_natDec, if_pos (by omega)]
    congr 1; omega

/-! ### Digests -/

theorem takeWhile_append_dropWhile' (p : Char → Bool) (s : Str) : s.takeWhile p ++ s.dropWhile p = s :=
  List.takeWhile_append_dropWhile

theorem alg_of_algHexLen_ne_zero (alg : Str) (h : algHexLen alg ≠ 0) :
    alg.length = 6 ∧ ',' ∉ alg ∧ algHexLen alg ≤ 128 := by
  unfold algHexLen at h ⊢
  split at h
  · rename_i e; subst e; decide
  · split at h
    · rename_i e; subst e; decide
    · split at h
      · rename_i e; subst e; decide
      · exact absurd rfl h

theorem digestValid_shape (s : Str) (h : digestValid s = true) :
    ∃ alg enc, s = alg ++ ':' :: enc ∧ alg.length = 6 ∧ ',' ∉ alg ∧
      enc.length ≤ 128 ∧ ∀ c ∈ enc, isLowerHex c = true := by
  unfold digestValid at h
  split at h
  · exact absurd h (by simp)
  · rename_i c enc hd
    simp only [Bool.and_eq_true, bne_iff_ne, ne_eq, beq_iff_eq, List.all_eq_true] at h
    obtain ⟨⟨h1, h2⟩, h3⟩ := h
    have hc := List.head?_dropWhile_not (· ≠ ':') s
    rw [hd] at hc
    have hc : c = ':' := by simpa using hc
    subst hc
    obtain ⟨a1, a2, a3⟩ := alg_of_algHexLen_ne_zero _ h1
    refine ⟨s.takeWhile (· ≠ ':'), enc, ?_, a1, a2, h2 ▸ a3, h3⟩
    rw [← hd]; exact (List.takeWhile_append_dropWhile).symm

theorem digestValid_noComma (s : Str) (h : digestValid s = true) : ',' ∉ s := by
  obtain ⟨alg, enc, rfl, _, halg, _, henc⟩ := digestValid_shape s h
  intro hm
  rw [List.mem_append, List.mem_cons] at hm
  rcases hm with hm | hm | hm
  · exact halg hm
  · exact absurd hm (by decide)
  · exact absurd (henc _ hm) (by decide)

theorem split_join_digests (c : Desc) (L : List Desc) (k : Nat)
    (hd : ∀ l ∈ c :: L, digestValid l.digest = true) :
    splitComma (joinComma (c.digest :: (L.take k).map (·.digest))) = (c :: L.take k).map (·.digest) := by
  refine (split_joinComma _ _).trans (flatMap_splitComma _ fun y hy => ?_)
  obtain ⟨l, hl, rfl⟩ := List.mem_map.mp (show y ∈ (c :: L.take k).map (·.digest) from hy)
  exact digestValid_noComma _ (hd l (List.cons_subset_cons c (List.take_subset k L) hl))

theorem digestValid_length (s : Str) (h : digestValid s = true) : 0 < s.length ∧ s.length ≤ 135 := by
  obtain ⟨alg, enc, rfl, halg, _, hl, _⟩ := digestValid_shape s h
  simp only [List.length_append, List.length_cons]; omega

theorem digest_fits {d : Str} (h : digestValid d = true) {key : Str} (hk : key.length ≤ 46) :
    key.length + (d.length + 1) ≤ maxSize := by
  have := (digestValid_length d h).2
  simp only [maxSize]; omega

/-! ### Reader -/

def readLabel (o : Option Str) : List Str :=
  match o with
  | some u => splitComma u
  | none => []

theorem urlsAt_eq (labels : Labels) (j : Nat) : urlsAt labels j = readLabel (get labels (urlsKey j)) := rfl

/-- The reader's neighbour list for the layers `ls` when `urlsOf j l` is what is read under index `j`.
`j` is the label index of the head of the list; a copy of the target is dropped from the result but still
takes an index. -/
def nbSpec (target : Str) (urlsOf : Nat → Desc → List Str) : Nat → List Desc → List (Str × List Str)
  | _, [] => []
  | j, l :: ls =>
    if l.digest ≠ target then (l.digest, urlsOf j l) :: nbSpec target urlsOf (j + 1) ls
    else nbSpec target urlsOf (j + 1) ls

theorem nbSpec_congr (target : Str) (f g : Nat → Desc → List Str) : ∀ (ls : List Desc) (j : Nat),
    (∀ m l, ls[m]? = some l → f (j + m) l = g (j + m) l) → nbSpec target f j ls = nbSpec target g j ls
  | [], _, _ => rfl
  | l :: ls, j, h => by
    simp only [nbSpec]
    rw [nbSpec_congr target f g ls (j + 1) (fun m x hx => by
      rw [Nat.add_right_comm, Nat.add_assoc]; exact h (m + 1) x hx), show f j l = g j l from h 0 l rfl]

theorem nbSpec_digests (target : Str) (f : Nat → Desc → List Str) : ∀ (ls : List Desc) (j : Nat),
    (nbSpec target f j ls).map (·.1) = (ls.map (·.digest)).filter (· ≠ target)
  | [], _ => rfl
  | l :: ls, j => by
    simp only [nbSpec, List.map_cons, List.filter_cons]
    split <;> simp_all [nbSpec_digests target f ls (j + 1)]

theorem nbSpec_mem (target : Str) (f : Nat → Desc → List Str) : ∀ (ls : List Desc) (j : Nat) (p : Str × List Str),
    p ∈ nbSpec target f j ls → ∃ m l, ls[m]? = some l ∧ l.digest ≠ target ∧ p = (l.digest, f (j + m) l)
  | [], _, _, h => by simp [nbSpec] at h
  | l :: ls, j, p, h => by
    simp only [nbSpec] at h
    have tl : p ∈ nbSpec target f (j + 1) ls →
        ∃ m x, (l :: ls)[m]? = some x ∧ x.digest ≠ target ∧ p = (x.digest, f (j + m) x) := by
      intro h
      obtain ⟨m, x, h1, h2, h3⟩ := nbSpec_mem target f ls (j + 1) p h
      exact ⟨m + 1, x, by simpa using h1, h2, by rw [h3]; congr 2; omega⟩
    split at h
    · rename_i hne
      rcases List.mem_cons.mp h with e | e
      · exact ⟨0, l, by simp, hne, by simpa using e⟩
      · exact tl e
    · exact tl h

theorem neighboursLoop_spec (labels : Labels) (target : Str) (f : Nat → Desc → List Str) :
    ∀ (ls : List Desc) (j : Nat), (∀ l ∈ ls, digestValid l.digest = true) →
    (∀ m l, ls[m]? = some l → urlsAt labels (j + m) = f (j + m) l) →
    neighboursLoop labels target j (ls.map (·.digest)) = some (nbSpec target f j ls)
  | [], _, _, _ => rfl
  | l :: ls, j, h, hf => by
    simp only [List.map_cons, neighboursLoop, h l (by simp), if_true]
    rw [neighboursLoop_spec labels target f ls (j + 1) (fun x hx => h x (by simp [hx]))
      (fun m x hx => by rw [Nat.add_right_comm, Nat.add_assoc]; exact hf (m + 1) x hx),
      show urlsAt labels j = f j l from hf 0 l rfl]
    simp only [nbSpec]
    split <;> rfl

theorem neighboursLoop_some (labels : Labels) (target : Str) : ∀ (ds : List Str) (j : Nat)
    (nb : List (Str × List Str)), neighboursLoop labels target j ds = some nb →
    (∀ d ∈ ds, digestValid d = true) ∧ ∀ p ∈ nb, p.1 ≠ target
  | [], _, nb, h => by
    simp only [neighboursLoop, Option.some.injEq] at h; subst h; simp
  | d :: ds, j, nb, h => by
    simp only [neighboursLoop] at h
    split at h
    · rename_i hv
      split at h
      · exact absurd h (by simp)
      · rename_i rest hrest
        obtain ⟨ih1, ih2⟩ := neighboursLoop_some labels target ds (j + 1) rest hrest
        refine ⟨fun x hx => (List.mem_cons.mp hx).elim (fun e => e ▸ hv) (ih1 x), ?_⟩
        split at h <;> (simp only [Option.some.injEq] at h; subst h)
        · rename_i hne
          exact fun p hp => (List.mem_cons.mp hp).elim (fun e => e ▸ hne) (ih2 p)
        · exact ih2
    · exact absurd h (by simp)

/-- The five labels with fixed keys as a writer leaves them in `a` (the fields are not in the order of the
parameters). -/
structure Fixed (ks : ReaderKeys) (a : Labels) (ref digest layers urls prefetch : Str) : Prop where
  ref : get a ks.ref = some ref
  digest : get a ks.digest = some digest
  prefetch : get a kPrefetch = some prefetch
  urls : get a kURLs = some urls
  layers : get a ks.layers = some layers

theorem readSource_of_layers {R : Type} (parseRef : Str → Option R) {ks : ReaderKeys} {labels : Labels}
    {ref nl : Str} {u : List Str} {r : R} {c : Desc} {L : List Desc} {f : Nat → Desc → List Str}
    (hd : ∀ l ∈ c :: L, digestValid l.digest = true) (hr : parseRef ref = some r)
    (g1 : get labels ks.ref = some ref) (g2 : get labels ks.digest = some c.digest)
    (g3 : get labels ks.layers = some nl) (hs : splitComma nl = (c :: L).map (·.digest))
    (hu : readLabel (get labels kURLs) = u)
    (hf : ∀ m l, L[m]? = some l → urlsAt labels (1 + m) = f (1 + m) l) :
    readSource parseRef ks labels =
      some { name := r, target := c.digest, urls := u, neighbours := nbSpec c.digest f 1 L } := by
  subst hu
  unfold readSource
  simp only [g1, hr, g2, hd c (by simp), if_true, g3, hs, List.map_cons, neighboursLoop, ne_eq,
    not_true_eq_false, if_false, Nat.zero_add]
  rw [neighboursLoop_spec labels c.digest f L 1 (fun l hl => hd l (List.mem_cons_of_mem c hl)) hf]
  rfl

structure Accepted {R : Type} (parseRef : Str → Option R) (ks : ReaderKeys) (labels : Labels) (s : Source R) :
    Prop where
  ref : ∃ refStr, get labels ks.ref = some refStr ∧ parseRef refStr = some s.name
  digest : get labels ks.digest = some s.target
  valid : digestValid s.target = true
  layers : ∀ l, get labels ks.layers = some l → ∀ d ∈ splitComma l, digestValid d = true
  neighbours : ∀ p ∈ s.neighbours, p.1 ≠ s.target

theorem readSource_some {R : Type} (parseRef : Str → Option R) (ks : ReaderKeys) (labels : Labels)
    (s : Source R) (h : readSource parseRef ks labels = some s) : Accepted parseRef ks labels s := by
  unfold readSource at h
  split at h
  · exact absurd h (by simp)
  · rename_i refStr hrefs
    split at h
    · exact absurd h (by simp)
    · rename_i name hname
      split at h
      · exact absurd h (by simp)
      · rename_i d hd
        split at h
        · rename_i hv
          split at h
          · exact absurd h (by simp)
          · rename_i nb hnb
            simp only [Option.some.injEq] at h
            subst h
            suffices hn : (∀ l, get labels ks.layers = some l → ∀ d ∈ splitComma l, digestValid d = true) ∧
                ∀ p ∈ nb, p.1 ≠ d from ⟨⟨refStr, hrefs, hname⟩, hd, hv, hn.1, hn.2⟩
            split at hnb
            · rename_i l hl
              obtain ⟨h1, h2⟩ := neighboursLoop_some labels d _ 0 nb hnb
              exact ⟨fun l' hl' => Option.some.inj (hl.symm.trans hl') ▸ h1, h2⟩
            · rename_i hl
              simp only [Option.some.injEq] at hnb; subst hnb
              exact ⟨fun l hl' => absurd (hl.symm.trans hl') (by simp), by simp⟩
        · exact absurd h (by simp)

theorem bind_readSource_eq {R : Type} {parseRef : Str → Option R} {ks : ReaderKeys} {o : Option Labels}
    {labels : Labels} {r : R} {t : Str} {u u' : List Str} {nb nb' : List (Str × List Str)}
    (ho : o = some labels) (hread : readSource parseRef ks labels = some ⟨r, t, u, nb⟩)
    (hu : u = u') (hnb : nb = nb') : o.bind (readSource parseRef ks) = some ⟨r, t, u', nb'⟩ := by
  rw [ho, Option.bind_some, hread, hu, hnb]

/-! ### Default writer -/

def layersOf (l : List Desc) : List Desc := l.filter (·.isLayer)

theorem mem_layersOf {l : Desc} {cs : List Desc} : l ∈ layersOf cs ↔ l ∈ cs ∧ l.isLayer = true := by
  simp [layersOf]

theorem defaultInner_get_other (key : Str) : ∀ (tail : List Desc) (j : Nat) (layers : Str) (ann : Labels),
    (∀ m, j ≤ m → key ≠ urlsKey m) → get (defaultInner j tail layers ann).2 key = get ann key
  | [], _, _, _, _ => rfl
  | l :: ls, j, layers, ann, hk => by
    have ih := fun layers ann =>
      defaultInner_get_other key ls (j + 1) layers ann (fun m hm => hk m (by omega))
    simp only [defaultInner]
    split
    · split
      · rw [ih, get_set, if_neg (hk j (Nat.le_refl j))]
      · rfl
    · exact ih _ _

theorem defaultInner_valid (a : Labels) : ∀ (tail : List Desc) (j : Nat) (layers : Str) (ann : Labels),
    (∀ m, m < j + tail.length → (urlsKey m).length ≤ maxSize) →
    validate kLayers layers = true → AddsValid a ann →
    validate kLayers (defaultInner j tail layers ann).1 = true ∧
      AddsValid a (defaultInner j tail layers ann).2
  | [], _, _, _, _, hl, ha => ⟨hl, ha⟩
  | l :: ls, j, layers, ann, hj, hl, ha => by
    have hj' : ∀ m, m < j + 1 + ls.length → (urlsKey m).length ≤ maxSize :=
      fun m hm => hj m (by rw [List.length_cons]; omega)
    simp only [defaultInner]
    split
    · split
      · rename_i hv
        exact defaultInner_valid a ls (j + 1) _ _ hj' hv
          (addsValid_set ha (validate_appendWithValidation _ _ (hj j (by rw [List.length_cons]; omega))))
      · exact ⟨hl, ha⟩
    · exact defaultInner_valid a ls (j + 1) layers ann hj' hl ha

/-- The URL label the default handler leaves under index `i` when `x` is the child at that POSITION of the
tail and `ann` are the annotations it started from: the child's URLs if it is a layer, else what `ann` held. -/
def labelByPosition (ann : Labels) (x : Option Desc) (i : Nat) : Option Str :=
  ((x.filter (·.isLayer)).map fun l => appendWithValidation (urlsKey i) l.urls).or (get ann (urlsKey i))

/-- The URL labels are indexed by POSITION among all children of the tail, the layers label lists its LAYERS.
The guard `m < fitCount ..` bounds a position by the number `k` of layers that fit: the first `m` positions hold
at most `m < k` layers, so the loop reaches position `m` before it breaks. -/
theorem defaultInner_spec : ∀ (tail : List Desc) (j : Nat) (layers : Str) (ann : Labels),
    (defaultInner j tail layers ann).1 = layers ++ catComma (((layersOf tail).take
        (fitCount kLayers layers.length ((layersOf tail).map (·.digest)))).map (·.digest)) ∧
    ∀ m, m < fitCount kLayers layers.length ((layersOf tail).map (·.digest)) →
        get (defaultInner j tail layers ann).2 (urlsKey (j + m)) = labelByPosition ann tail[m]? (j + m)
  | [], _, _, _ => by simp [defaultInner, layersOf, fitCount, catComma]
  | l :: ls, j, layers, ann => by
    have frame : ∀ layers ann, get (defaultInner (j + 1) ls layers ann).2 (urlsKey j) = get ann (urlsKey j) :=
      fun layers ann => defaultInner_get_other _ ls (j + 1) _ _ (fun m hm e => by have := urlsKey_inj e; omega)
    cases hl : l.isLayer with
    | false =>
      obtain ⟨h1, h2⟩ := defaultInner_spec ls (j + 1) layers ann
      simp only [defaultInner, layersOf, List.filter_cons, hl, Bool.false_eq_true, if_false] at h1 h2 ⊢
      refine ⟨h1, fun m hm => ?_⟩
      cases m with
      | zero => rw [show j + 0 = j from rfl, frame]; simp [labelByPosition, Option.filter, hl]
      | succ m => rw [← Nat.add_assoc, Nat.add_right_comm, h2 m (by omega)]; simp
    | true =>
      simp only [defaultInner, layersOf, List.filter_cons, hl, if_true, List.map_cons, fitCount, validate,
        decide_eq_true_eq, List.length_append, List.length_cons, List.length_nil, Nat.zero_add]
      split
      · obtain ⟨h1, h2⟩ := defaultInner_spec ls (j + 1) (layers ++ (l.digest ++ [',']))
          (set ann (urlsKey j) (appendWithValidation (urlsKey j) l.urls))
        simp only [layersOf, List.length_append, List.length_cons, List.length_nil, Nat.zero_add] at h1 h2
        refine ⟨by rw [h1]; simp [catComma], fun m hm => ?_⟩
        cases m with
        | zero => rw [show j + 0 = j from rfl, frame, get_set]; simp [labelByPosition, Option.filter, hl]
        | succ m =>
          rw [← Nat.add_assoc, Nat.add_right_comm, h2 m (by omega)]
          unfold labelByPosition
          rw [get_set, if_neg (fun e => by have := urlsKey_inj e; omega)]
          simp
      · simp [catComma]

theorem defaultLayers_split (c : Desc) (rest : List Desc) (ann : Labels) (hc : c.isLayer = true)
    (hd : ∀ l ∈ c :: layersOf rest, digestValid l.digest = true) :
    splitComma (trimSuffixComma (defaultInner 0 (c :: rest) [] ann).1) =
      (c :: (layersOf rest).take
        (fitCount kLayers (c.digest.length + 1) ((layersOf rest).map (·.digest)))).map (·.digest) ∧
    ∀ m, m ≤ fitCount kLayers (c.digest.length + 1) ((layersOf rest).map (·.digest)) →
      get (defaultInner 0 (c :: rest) [] ann).2 (urlsKey m) = labelByPosition ann (c :: rest)[m]? m := by
  obtain ⟨s1, s2⟩ := defaultInner_spec (c :: rest) 0 [] ann
  have hk : fitCount kLayers 0 ((layersOf (c :: rest)).map (·.digest)) =
      fitCount kLayers (c.digest.length + 1) ((layersOf rest).map (·.digest)) + 1 := by
    simp only [layersOf, List.filter_cons, hc, if_true, List.map_cons, fitCount]
    rw [Nat.zero_add, if_pos (digest_fits (hd c (by simp)) (key := kLayers) (by decide))]
  rw [List.length_nil, hk] at s1 s2
  refine ⟨?_, fun m hm => by simpa only [Nat.zero_add] using s2 m (by omega)⟩
  rw [s1, show layersOf (c :: rest) = c :: layersOf rest by simp [layersOf, hc], List.nil_append,
    List.take_succ_cons, List.map_cons, trim_catComma]
  exact split_join_digests c _ _ hd

theorem defaultLabels_fixed (ref : Str) (pf : Int) (c : Desc) (tail : List Desc) :
    Fixed defaultKeys (defaultLabels ref pf c tail) ref c.digest
      (trimSuffixComma (defaultInner 0 tail [] (set (set (c.ann.getD []) kRef ref) kDigest c.digest)).1)
      (appendWithValidation kURLs c.urls) (intDec pf) ∧
    ∀ m, get (defaultLabels ref pf c tail) (urlsKey m) = get (defaultInner 0 tail []
      (set (set (c.ann.getD []) kRef ref) kDigest c.digest)).2 (urlsKey m) := by
  obtain ⟨hRU, hRP, hRL, hRD, hDU, hDP, hDL, hLU, hLP⟩ := defaultKeys_ne
  have hk := urlsKey_ne_fixed
  unfold defaultLabels
  refine ⟨⟨?_, ?_, ?_, ?_, ?_⟩, fun m => ?_⟩ <;> dsimp only [defaultKeys]
  · simp only [get_set, if_neg hRU, if_neg hRP, if_neg hRL]
    rw [defaultInner_get_other kRef _ 0 _ _ (fun m _ => (hk kRef (by simp) m).symm)]
    simp [get_set, hRD]
  · simp only [get_set, if_neg hDU, if_neg hDP, if_neg hDL]
    rw [defaultInner_get_other kDigest _ 0 _ _ (fun m _ => (hk kDigest (by simp) m).symm)]
    simp [get_set]
  · simp [get_set, kPrefetch_ne_kURLs]
  · simp [get_set]
  · simp [get_set, hLU, hLP]
  · simp only [get_set, if_neg (hk kURLs (by simp) m), if_neg (hk kPrefetch (by simp) m),
      if_neg (hk kLayers (by simp) m)]

theorem defaultLabels_valid (ref : Str) (pf : Int) (c : Desc) (tail : List Desc)
    (hn : tail.length < 2 ^ 63) (href : kRef.length + ref.length ≤ maxSize)
    (hdig : kDigest.length + c.digest.length ≤ maxSize) (hpf : -(2 ^ 63) ≤ pf ∧ pf < 2 ^ 63) :
    AddsValid (c.ann.getD []) (defaultLabels ref pf c tail) := by
  obtain ⟨hl, hrest⟩ := defaultInner_valid (c.ann.getD []) tail 0 [] _
    (fun m hm => urlsKey_length_le m (by omega)) (by decide)
    (addsValid_set (addsValid_set (addsValid_refl _) (decide_eq_true href)) (decide_eq_true hdig))
  exact addsValid_set (addsValid_set (addsValid_set hrest (validate_trim _ _ hl)) (intDec_valid pf hpf))
    (validate_appendWithValidation _ _ (by decide))

theorem defaultChildren_getElem (ref : Str) (pf : Int) : ∀ (cs : List Desc) (i : Nat) (c : Desc), cs[i]? = some c →
    (defaultChildren ref pf cs)[i]? =
      some (if c.isLayer then { c with ann := some (defaultLabels ref pf c (cs.drop i)) } else c)
  | [], _, _, h => by simp at h
  | x :: cs, 0, c, h => by rw [← Option.some.inj h]; rfl
  | x :: cs, i + 1, c, h => defaultChildren_getElem ref pf cs i c h

theorem defaultWriter_true (ref : Str) (pf : Int) (children : List Desc) :
    defaultWriter true ref pf children = defaultChildren ref pf children := rfl

theorem defaultWriter_false (ref : Str) (pf : Int) (children : List Desc) :
    defaultWriter false ref pf children = children := rfl

theorem defaultWriter_ann (ref : Str) (pf : Int) (children : List Desc) (i : Nat) (c : Desc)
    (hi : children[i]? = some c) (hl : c.isLayer = true) :
    ((defaultWriter true ref pf children)[i]?).bind (·.ann) =
      some (defaultLabels ref pf c (children.drop i)) := by
  rw [defaultWriter_true, defaultChildren_getElem ref pf children i c hi, if_pos hl]; rfl

theorem nbSpec_labelByPosition (ann : Labels) (c : Desc) (rest : List Desc) (hall : ∀ l ∈ rest, l.isLayer = true)
    (k : Nat) :
    nbSpec c.digest (fun m _ => readLabel (labelByPosition ann (c :: rest)[m]? m)) 1 (rest.take k) =
      nbSpec c.digest (fun m l => readURLs (urlsKey m) l.urls) 1 (rest.take k) := by
  refine nbSpec_congr _ _ _ _ 1 fun m l hml => ?_
  have hl := (getElem?_take_some hml).2
  rw [Nat.add_comm 1 m, List.getElem?_cons_succ, hl]
  simp [labelByPosition, Option.filter, hall l (List.mem_of_getElem? hl), readLabel, readURLs]

theorem default_pull_read {R : Type} (parseRef : Str → Option R) (ref : Str) (pf : Int)
    (children : List Desc) (i : Nat) (c : Desc) (r : R) (hi : children[i]? = some c) (hcl : c.isLayer = true)
    (hd : ∀ l ∈ layersOf (children.drop i), digestValid l.digest = true) (hr : parseRef ref = some r) :
    ((defaultWriter true ref pf children)[i]?).bind (·.ann) = some (defaultLabels ref pf c (children.drop i)) ∧
      readSource parseRef defaultKeys (defaultLabels ref pf c (children.drop i)) =
        some { name := r, target := c.digest, urls := readURLs kURLs c.urls,
               neighbours := nbSpec c.digest
                 (fun m _ => readLabel (labelByPosition (c.ann.getD []) (children.drop i)[m]? m)) 1
                 ((layersOf (children.drop (i + 1))).take
                   (fitCount kLayers (c.digest.length + 1) ((layersOf (children.drop (i + 1))).map (·.digest)))) } := by
  refine ⟨defaultWriter_ann ref pf children i c hi hcl, ?_⟩
  rw [drop_eq_cons_of_getElem? children i c hi] at hd ⊢
  generalize children.drop (i + 1) = rest at hd ⊢
  obtain ⟨g, g6⟩ := defaultLabels_fixed ref pf c (c :: rest)
  rw [show layersOf (c :: rest) = c :: layersOf rest by simp [layersOf, hcl]] at hd
  obtain ⟨hs, hu⟩ := defaultLayers_split c rest (set (set (c.ann.getD []) kRef ref) kDigest c.digest) hcl hd
  refine readSource_of_layers parseRef
    (fun l hl => hd l (List.cons_subset_cons c (List.take_subset _ _) hl)) hr g.ref g.digest g.layers hs
    (congrArg readLabel g.urls) (fun m l hml => ?_)
  have h := hu (1 + m) (by have := (getElem?_take_some hml).1; omega)
  unfold labelByPosition at h
  rw [get_set, if_neg (urlsKey_ne_fixed kDigest (by simp) _), get_set,
    if_neg (urlsKey_ne_fixed kRef (by simp) _)] at h
  rw [urlsAt_eq, g6, h]
  rfl

/-! ### CRI writer -/

/-- With a non-empty accumulator every further layer digest is charged one separator: same count as
`fitCount`. -/
theorem criGetLayers_acc (key : Str) : ∀ (tail : List Desc) (acc : Str), acc ≠ [] →
    criGetLayers key tail acc = acc ++ preComma (((layersOf tail).take
      (fitCount key acc.length ((layersOf tail).map (·.digest)))).map (·.digest))
  | [], acc, _ => by simp [criGetLayers, layersOf, fitCount, preComma]
  | l :: ls, acc, hacc => by
    cases hl : l.isLayer with
    | false =>
      simp only [criGetLayers, layersOf, List.filter_cons, hl, Bool.false_eq_true, if_false]
      exact criGetLayers_acc key ls acc hacc
    | true =>
      simp only [criGetLayers, layersOf, List.filter_cons, hl, if_true, hacc, ne_eq, not_false_eq_true,
        List.map_cons, fitCount, validate, decide_eq_true_eq, List.length_append, List.length_cons]
      split
      · rw [criGetLayers_acc key ls _ (by simp)]
        simp [preComma, layersOf, List.length_append]
      · simp [preComma]

theorem criGetLayers_valid (key : Str) : ∀ (tail : List Desc) (acc : Str),
    validate key acc = true → validate key (criGetLayers key tail acc) = true
  | [], _, h => by simpa [criGetLayers] using h
  | l :: ls, acc, h => by
    simp only [criGetLayers]
    split
    · generalize (if acc ≠ [] then ',' :: l.digest else l.digest) = item
      split
      · rename_i hv; exact criGetLayers_valid key ls _ hv
      · exact h
    · exact criGetLayers_valid key ls acc h

theorem criLabels_get (ref md : Str) (c : Desc) (tail : List Desc) :
    get (criLabels ref md c tail) kCriRef = some ref ∧
    get (criLabels ref md c tail) kCriDigest = some c.digest ∧
    get (criLabels ref md c tail) kCriLayers = some (criGetLayers kCriLayers tail []) ∧
    get (criLabels ref md c tail) kCriManifest = some md ∧
    (∀ key, key ≠ kCriRef → key ≠ kCriDigest → key ≠ kCriLayers → key ≠ kCriManifest →
      get (criLabels ref md c tail) key = get (c.ann.getD []) key) := by
  obtain ⟨hRM, hRL, hRD, hDM, hDL, hLM⟩ := criKeys_ne
  unfold criLabels
  refine ⟨by simp [get_set, hRM, hRL, hRD], by simp [get_set, hDM, hDL], by simp [get_set, hLM],
    by simp [get_set], ?_⟩
  intro key h1 h2 h3 h4
  simp [get_set, h1, h2, h3, h4]

theorem criLabels_valid (ref md : Str) (c : Desc) (tail : List Desc)
    (href : kCriRef.length + ref.length ≤ maxSize) (hdig : kCriDigest.length + c.digest.length ≤ maxSize)
    (hmd : kCriManifest.length + md.length ≤ maxSize) :
    AddsValid (c.ann.getD []) (criLabels ref md c tail) :=
  addsValid_set (addsValid_set (addsValid_set (addsValid_set (addsValid_refl _) (decide_eq_true href))
    (decide_eq_true hdig)) (criGetLayers_valid _ _ _ (by decide))) (decide_eq_true hmd)

theorem criLayers_split (c : Desc) (rest : List Desc) (hc : c.isLayer = true)
    (hd : ∀ l ∈ c :: layersOf rest, digestValid l.digest = true) :
    splitComma (criGetLayers kCriLayers (c :: rest) []) =
      (c :: (layersOf rest).take
        (fitCount kCriLayers c.digest.length ((layersOf rest).map (·.digest)))).map (·.digest) := by
  have hcd := hd c (by simp)
  simp only [criGetLayers, hc, if_true, ne_eq, not_true_eq_false, if_false, List.nil_append, validate,
    decide_eq_true_eq]
  rw [if_pos (show kCriLayers.length + c.digest.length ≤ maxSize from
      Nat.le_of_succ_le (digest_fits hcd (by decide))),
    criGetLayers_acc _ _ _ (List.ne_nil_of_length_pos (digestValid_length _ hcd).1), ← joinComma_cons]
  exact split_join_digests c _ _ hd

theorem criChildren_getElem (ref md : Str) : ∀ (cs : List Desc) (i : Nat) (c : Desc), cs[i]? = some c →
    (criChildren ref md cs)[i]? =
      some (if c.isLayer then { c with ann := some (criLabels ref md c (cs.drop i)) } else c)
  | [], _, _, h => by simp at h
  | x :: cs, 0, c, h => by rw [← Option.some.inj h]; rfl
  | x :: cs, i + 1, c, h => criChildren_getElem ref md cs i c h

/-! ### Extra writer -/

theorem layerFromDigest_cri {α : Type} (g : List Str → α) (ref md d : Str) : ∀ (cs : List Desc),
    (layerFromDigest (criChildren ref md cs) d).map (fun l => g l.urls) =
      (layerFromDigest cs d).map (fun l => g l.urls)
  | [] => rfl
  | c :: cs => by
    have ih := layerFromDigest_cri g ref md d cs
    simp only [criChildren, layerFromDigest]
    cases hc : c.isLayer
    · simp only [Bool.false_eq_true, if_false, hc]
      split
      · rfl
      · exact ih
    · simp only [if_true]
      split
      · rfl
      · exact ih

theorem layerFromDigest_consistent : ∀ (children : List Desc) (l : Desc), l ∈ children → l.isLayer = true →
    (∀ x ∈ children, x.digest = l.digest → x.isLayer = true ∧ x.urls = l.urls) →
    ∃ x, layerFromDigest children l.digest = some x ∧ x.urls = l.urls
  | [], _, h, _, _ => by simp at h
  | y :: ys, l, hmem, hl, hcons => by
    simp only [layerFromDigest]
    split
    · rename_i e
      obtain ⟨h1, h2⟩ := hcons y (by simp) e
      exact ⟨y, by simp [h1], h2⟩
    · rename_i ne
      rcases List.mem_cons.mp hmem with e | e
      · subst e; exact absurd rfl ne
      · exact layerFromDigest_consistent ys l e hl (fun x hx => hcons x (by simp [hx]))

/-- The URL label the extra handler leaves under index `i` for the entry `d` of the layers label: what `a` already
held ("nop if this key is already set"), else the URLs of the FIRST child with that digest, if it is a layer. -/
def labelByDigest (a : Labels) (children : List Desc) (d : Str) (i : Nat) : Option Str :=
  (get a (urlsKey i)).or ((layerFromDigest children d).map fun l => appendWithValidation (urlsKey i) l.urls)

theorem labelByDigest_cri (a : Labels) (ref md : Str) (cs : List Desc) (d : Str) (i : Nat) :
    labelByDigest a (criChildren ref md cs) d i = labelByDigest a cs d i := by
  unfold labelByDigest
  rw [layerFromDigest_cri]

def urlsByDigest (children : List Desc) (m : Nat) (d : Str) : List Str :=
  match layerFromDigest children d with
  | some x => readURLs (urlsKey m) x.urls
  | none => []

theorem readLabel_labelByDigest (a : Labels) (children : List Desc) (d : Str) (i : Nat) :
    readLabel (labelByDigest a children d i) =
      ((get a (urlsKey i)).map splitComma).getD (urlsByDigest children i d) := by
  unfold labelByDigest urlsByDigest
  cases get a (urlsKey i) <;> cases layerFromDigest children d <;> rfl

theorem extraInner_spec (children : List Desc) : ∀ (ds : List Str) (j : Nat) (a : Labels),
    (∀ d ∈ ds, digestValid d = true) →
    ∃ a', extraInner children j ds a = some a' ∧
      (∀ m d, ds[m]? = some d → get a' (urlsKey (j + m)) = labelByDigest a children d (j + m)) ∧
      (∀ key, (∀ m, j ≤ m → key ≠ urlsKey m) → get a' key = get a key)
  | [], _, a, _ => ⟨a, rfl, by simp, fun _ _ => rfl⟩
  | d :: ds, j, a, hv => by
    let a1 : Labels := match layerFromDigest children d with
      | none => a
      | some l => if (get a (urlsKey j)).isNone then set a (urlsKey j) (appendWithValidation (urlsKey j) l.urls) else a
    have hstep : extraInner children j (d :: ds) a = extraInner children (j + 1) ds a1 := by
      simp only [extraInner, hv d (by simp), if_true, a1]
      cases layerFromDigest children d <;> rfl
    have ha1 : ∀ key, get a1 key = if key = urlsKey j then labelByDigest a children d j else get a key := by
      intro key
      simp only [a1, labelByDigest]
      cases layerFromDigest children d with
      | none => split <;> simp_all
      | some l => rw [get_setAbsent]; simp
    obtain ⟨a', h1, h2, h3⟩ := extraInner_spec children ds (j + 1) a1 (fun x hx => hv x (by simp [hx]))
    refine ⟨a', by rw [hstep, h1], ?_, ?_⟩
    · intro m x hm
      cases m with
      | zero =>
        simp only [List.getElem?_cons_zero, Option.some.injEq] at hm; subst hm
        rw [Nat.add_zero, h3 _ (fun m _ e => by have := urlsKey_inj e; omega), ha1, if_pos rfl]
      | succ m =>
        rw [← Nat.add_assoc, Nat.add_right_comm, h2 m x (by simpa using hm)]
        unfold labelByDigest
        rw [ha1, if_neg (fun e => by have := urlsKey_inj e; omega)]
    · intro key hkey
      rw [h3 key (fun m hm => hkey m (by omega)), ha1, if_neg (hkey j (Nat.le_refl j))]

theorem extraInner_valid (children : List Desc) (a0 : Labels) :
    ∀ (ds : List Str) (j : Nat) (a a' : Labels),
    (∀ m, m < j + ds.length → (urlsKey m).length ≤ maxSize) → AddsValid a0 a →
    extraInner children j ds a = some a' → AddsValid a0 a'
  | [], _, a, a', _, ha, h => by
    simp only [extraInner, Option.some.injEq] at h; exact h ▸ ha
  | d :: ds, j, a, a', hj, ha, h => by
    have hj' : ∀ m, m < j + 1 + ds.length → (urlsKey m).length ≤ maxSize :=
      fun m hm => hj m (by rw [List.length_cons]; omega)
    simp only [extraInner] at h
    split at h
    · split at h
      · exact extraInner_valid children a0 ds (j + 1) a a' hj' ha h
      · exact extraInner_valid children a0 ds (j + 1) _ a' hj'
          (addsValid_setAbsent ha (validate_appendWithValidation _ _ (hj j (by rw [List.length_cons]; omega)))) h
    · exact absurd h (by simp)

theorem extraChild_nonlayer (all : List Desc) (pf : Int) (c : Desc) (h : c.isLayer = false) :
    extraChild all pf c = .ok c := by
  simp [extraChild, h]

def extraBase (pf : Int) (c : Desc) (a : Labels) : Labels :=
  let a := if (get a kURLs).isNone then set a kURLs (appendWithValidation kURLs c.urls) else a
  if (get a kPrefetch).isNone then set a kPrefetch (intDec pf) else a

theorem get_extraBase (pf : Int) (c : Desc) (a : Labels) (key : Str) :
    get (extraBase pf c a) key = if key = kPrefetch then some ((get a kPrefetch).getD (intDec pf))
      else if key = kURLs then some ((get a kURLs).getD (appendWithValidation kURLs c.urls)) else get a key := by
  unfold extraBase
  rw [get_setAbsent, get_setAbsent, if_neg kPrefetch_ne_kURLs, get_setAbsent]

theorem extraChild_layer (all : List Desc) (pf : Int) (c : Desc) (a : Labels) (hc : c.isLayer = true)
    (ha : c.ann = some a) :
    extraChild all pf c =
      match get (extraBase pf c a) kCriLayers with
      | none => .ok { c with ann := some (extraBase pf c a) }
      | some nl =>
        match extraInner all 0 (splitComma nl) (extraBase pf c a) with
        | none => .err
        | some a' => .ok { c with ann := some a' } := by
  unfold extraChild
  rw [if_neg (by rw [hc]; decide), ha]
  rfl

theorem extraChild_spec (all : List Desc) (pf : Int) (c : Desc) (a : Labels) (nl : Str)
    (hc : c.isLayer = true) (ha : c.ann = some a) (hnl : get a kCriLayers = some nl)
    (hds : ∀ d ∈ splitComma nl, digestValid d = true) :
    ∃ a', extraChild all pf c = .ok { c with ann := some a' } ∧
      get a' kURLs = some ((get a kURLs).getD (appendWithValidation kURLs c.urls)) ∧
      get a' kPrefetch = some ((get a kPrefetch).getD (intDec pf)) ∧
      (∀ m d, (splitComma nl)[m]? = some d → get a' (urlsKey m) = labelByDigest a all d m) ∧
      (∀ key, key ≠ kURLs → key ≠ kPrefetch → (∀ m, key ≠ urlsKey m) → get a' key = get a key) := by
  have hPU := kPrefetch_ne_kURLs
  obtain ⟨hLU, hLP⟩ := criKeys_ne_extra kCriLayers (by simp)
  have h2 := get_extraBase pf c a
  obtain ⟨a', i1, i2, i3⟩ := extraInner_spec all (splitComma nl) 0 (extraBase pf c a) hds
  refine ⟨a', ?_, ?_, ?_, ?_, ?_⟩
  · rw [extraChild_layer all pf c a hc ha, h2, if_neg hLP, if_neg hLU, hnl]
    dsimp only
    rw [i1]
  · rw [i3 _ (fun m _ => (urlsKey_ne_fixed kURLs (by simp) _).symm), h2, if_neg hPU.symm, if_pos rfl]
  · rw [i3 _ (fun m _ => (urlsKey_ne_fixed kPrefetch (by simp) _).symm), h2, if_pos rfl]
  · intro m d hm
    have := i2 m d hm
    rw [Nat.zero_add] at this
    rw [this]
    unfold labelByDigest
    rw [h2, if_neg (urlsKey_ne_fixed kPrefetch (by simp) m), if_neg (urlsKey_ne_fixed kURLs (by simp) m)]
  · intro key k1 k2 k3
    rw [i3 key (fun m _ => k3 _), h2, if_neg k2, if_neg k1]

theorem extraChild_cri_spec (all : List Desc) (ref md : Str) (pf : Int) (c : Desc) (rest : List Desc)
    (hc : c.isLayer = true) (hd : ∀ l ∈ c :: layersOf rest, digestValid l.digest = true) :
    ∃ a', extraChild all pf { c with ann := some (criLabels ref md c (c :: rest)) } =
        .ok { c with ann := some a' } ∧
      Fixed criKeys a' ref c.digest (criGetLayers kCriLayers (c :: rest) [])
        ((get (c.ann.getD []) kURLs).getD (appendWithValidation kURLs c.urls))
        ((get (c.ann.getD []) kPrefetch).getD (intDec pf)) ∧
      ∀ (m : Nat) (l : Desc), (c :: (layersOf rest).take
          (fitCount kCriLayers c.digest.length ((layersOf rest).map (·.digest))))[m]? = some l →
        get a' (urlsKey m) = labelByDigest (c.ann.getD []) all l.digest m := by
  obtain ⟨c1, c2, c3, _, c5⟩ := criLabels_get ref md c (c :: rest)
  have hs := criLayers_split c rest hc hd
  obtain ⟨a', ha', gU, gP, gI, gF⟩ := extraChild_spec all pf
    { c with ann := some (criLabels ref md c (c :: rest)) } _ _ hc rfl c3 (by
      rw [hs]
      intro d hd'
      obtain ⟨l, hl, rfl⟩ := List.mem_map.mp hd'
      exact hd l (List.cons_subset_cons c (List.take_subset _ _) hl))
  obtain ⟨rU, rP⟩ := criKeys_ne_extra kCriRef (by simp)
  obtain ⟨dU, dP⟩ := criKeys_ne_extra kCriDigest (by simp)
  obtain ⟨lU, lP⟩ := criKeys_ne_extra kCriLayers (by simp)
  obtain ⟨mU, mP⟩ := criKeys_ne_extra kCriManifest (by simp)
  have hk := urlsKey_ne_fixed
  refine ⟨a', ha', ⟨?_, ?_, ?_, ?_, ?_⟩, fun m l hml => ?_⟩
  · exact (gF _ rU rP (fun m => (hk kCriRef (by simp) m).symm)).trans c1
  · exact (gF _ dU dP (fun m => (hk kCriDigest (by simp) m).symm)).trans c2
  · rw [gP, c5 kPrefetch rP.symm dP.symm lP.symm mP.symm]
  · rw [gU, c5 kURLs rU.symm dU.symm lU.symm mU.symm]
  · exact (gF _ lU lP (fun m => (hk kCriLayers (by simp) m).symm)).trans c3
  · rw [gI m l.digest (by rw [hs, List.getElem?_map, hml]; rfl)]
    unfold labelByDigest
    rw [c5 _ (hk kCriRef (by simp) m) (hk kCriDigest (by simp) m) (hk kCriLayers (by simp) m)
      (hk kCriManifest (by simp) m)]

/-- The wrapper's layers label is itself validated, which bounds the number of its entries, hence the
URL indices, to the range where `urlsKey` fits under the limit. -/
theorem extraChild_cri_valid (all : List Desc) (ref md : Str) (pf : Int) (c c' : Desc) (tail : List Desc)
    (href : kCriRef.length + ref.length ≤ maxSize) (hdig : kCriDigest.length + c.digest.length ≤ maxSize)
    (hmd : kCriManifest.length + md.length ≤ maxSize) (hpf : -(2 ^ 63) ≤ pf ∧ pf < 2 ^ 63)
    (hl : c.isLayer = true)
    (h : extraChild all pf { c with ann := some (criLabels ref md c tail) } = .ok c') :
    ∃ a', c'.ann = some a' ∧ AddsValid (c.ann.getD []) a' := by
  obtain ⟨_, _, hcl, _⟩ := criLabels_get ref md c tail
  have hlv := criGetLayers_valid kCriLayers tail [] (by decide)
  have v2 : AddsValid (c.ann.getD []) (extraBase pf c (criLabels ref md c tail)) :=
    addsValid_setAbsent (addsValid_setAbsent (criLabels_valid ref md c tail href hdig hmd)
      (validate_appendWithValidation _ _ (by decide))) (intDec_valid pf hpf)
  obtain ⟨hLU, hLP⟩ := criKeys_ne_extra kCriLayers (by simp)
  rw [extraChild_layer all pf { c with ann := some (criLabels ref md c tail) } _ hl rfl, get_extraBase, if_neg hLP,
    if_neg hLU, hcl] at h
  dsimp only at h
  split at h
  · exact absurd h (by simp)
  · rename_i a3 h3
    refine ⟨a3, by rw [← Outcome.ok.inj h], extraInner_valid all _ _ 0 _ a3 (fun m hm => ?_) v2 h3⟩
    have hsl := splitComma_length_le (criGetLayers kCriLayers tail [])
    simp only [validate, decide_eq_true_eq] at hlv
    exact urlsKey_length_le m (by simp only [maxSize] at hlv; omega)

theorem extraChild_panic (all : List Desc) (pf : Int) (c : Desc) (h : extraChild all pf c = .panic) :
    c.isLayer = true ∧ c.ann = none := by
  cases hl : c.isLayer with
  | false => rw [extraChild_nonlayer all pf c hl] at h; exact absurd h nofun
  | true =>
    cases ha : c.ann with
    | none => exact ⟨rfl, rfl⟩
    | some a =>
      rw [extraChild_layer all pf c a hl ha] at h
      split at h
      · exact absurd h (by simp)
      · split at h <;> exact absurd h (by simp)

theorem extraChildren_ok (all : List Desc) (pf : Int) : ∀ (cs out : List Desc),
    extraChildren all pf cs = .ok out →
    ∀ (i : Nat) (c : Desc), cs[i]? = some c → ∃ c', extraChild all pf c = .ok c' ∧ out[i]? = some c'
  | [], _, _, _, _, hx => by simp at hx
  | c :: cs, out, h, i, x, hx => by
    simp only [extraChildren] at h
    split at h
    · rename_i c' hc'
      split at h
      · rename_i r hr
        simp only [Outcome.ok.injEq] at h; subst h
        cases i with
        | zero => exact ⟨c', by rw [← Option.some.inj hx]; exact hc', rfl⟩
        | succ i => exact extraChildren_ok all pf cs r hr i x hx
      · exact absurd h (by simp)
      · exact absurd h (by simp)
    · exact absurd h (by simp)
    · exact absurd h (by simp)

theorem extraChildren_cri_ok (all : List Desc) (ref md : Str) (pf : Int) : ∀ (cs : List Desc),
    (∀ (j : Nat) (y : Desc), cs[j]? = some y → ∃ y', extraChild all pf
      (if y.isLayer then { y with ann := some (criLabels ref md y (cs.drop j)) } else y) = .ok y') →
    ∃ out, extraChildren all pf (criChildren ref md cs) = .ok out
  | [], _ => ⟨[], rfl⟩
  | c :: cs, h => by
    obtain ⟨c', hc'⟩ := h 0 c rfl
    rw [List.drop_zero] at hc'
    obtain ⟨r, hr⟩ := extraChildren_cri_ok all ref md pf cs (fun j y hy => h (j + 1) y hy)
    exact ⟨c' :: r, by simp only [criChildren, extraChildren]; rw [hc', hr]⟩

theorem extraChildren_cri_ne_panic (all : List Desc) (ref md : Str) (pf : Int) : ∀ (cs : List Desc),
    extraChildren all pf (criChildren ref md cs) ≠ .panic
  | [] => by simp [criChildren, extraChildren]
  | c :: cs => by
    have hc : extraChild all pf
        (if c.isLayer then { c with ann := some (criLabels ref md c (c :: cs)) } else c) ≠ .panic := by
      intro h
      by_cases hl : c.isLayer = true
      · rw [if_pos hl] at h; exact absurd (extraChild_panic _ _ _ h).2 (by simp)
      · rw [if_neg hl] at h; exact hl (extraChild_panic _ _ _ h).1
    simp only [criChildren, extraChildren]
    split
    · split
      · simp
      · simp
      · rename_i hp; exact absurd hp (extraChildren_cri_ne_panic all ref md pf cs)
    · simp
    · rename_i hp; exact absurd hp hc

theorem extraOnCri_true (ref md : Str) (pf : Int) (children : List Desc) :
    extraOnCri true ref md pf children =
      extraChildren (criChildren ref md children) pf (criChildren ref md children) := rfl

theorem extraOnCri_false (ref md : Str) (pf : Int) (children : List Desc) :
    extraOnCri false ref md pf children = .ok children := rfl

theorem extra_pull_read {R : Type} (parseRef : Str → Option R) (ref md : Str) (pf : Int)
    (children : List Desc) (i : Nat) (c : Desc) (r : R) (hi : children[i]? = some c)
    (hcl : c.isLayer = true) (hdig : ∀ x ∈ children, x.isLayer = true → digestValid x.digest = true)
    (hr : parseRef ref = some r) :
    ∃ out labels, extraOnCri true ref md pf children = .ok out ∧ (out[i]?).bind (·.ann) = some labels ∧
      readSource parseRef criKeys labels =
        some { name := r, target := c.digest,
               urls := splitComma ((get (c.ann.getD []) kURLs).getD (appendWithValidation kURLs c.urls)),
               neighbours := nbSpec c.digest (fun m l => ((get (c.ann.getD []) (urlsKey m)).map splitComma).getD
                   (urlsByDigest children m l.digest)) 1
                 ((layersOf (children.drop (i + 1))).take (fitCount kCriLayers c.digest.length
                   ((layersOf (children.drop (i + 1))).map (·.digest)))) } ∧
      get labels kPrefetch = some ((get (c.ann.getD []) kPrefetch).getD (intDec pf)) := by
  have hd : ∀ (j : Nat) (y : Desc), children[j]? = some y → y.isLayer = true →
      ∀ l ∈ y :: layersOf (children.drop (j + 1)), digestValid l.digest = true := by
    intro j y hy hyl l hl
    rcases List.mem_cons.mp hl with e | e
    · subst e; exact hdig _ (List.mem_of_getElem? hy) hyl
    · obtain ⟨h1, h2⟩ := mem_layersOf.mp e
      exact hdig l (List.mem_of_mem_drop h1) h2
  obtain ⟨out, hout⟩ := extraChildren_cri_ok (criChildren ref md children) ref md pf children (by
    intro j y hy
    rcases Bool.eq_false_or_eq_true y.isLayer with hyl | hyl
    · obtain ⟨a', ha', _⟩ := extraChild_cri_spec (criChildren ref md children) ref md pf y _ hyl (hd j y hy hyl)
      rw [if_pos hyl, drop_eq_cons_of_getElem? children j y hy]
      exact ⟨_, ha'⟩
    · exact ⟨y, by rw [if_neg (by simp [hyl]), extraChild_nonlayer _ pf y hyl]⟩)
  obtain ⟨c', hc', houti⟩ := extraChildren_ok _ pf _ out hout i _ (criChildren_getElem ref md children i c hi)
  obtain ⟨a', ha', g, gI⟩ :=
    extraChild_cri_spec (criChildren ref md children) ref md pf c _ hcl (hd i c hi hcl)
  rw [if_pos hcl, drop_eq_cons_of_getElem? children i c hi, ha'] at hc'
  simp only [Outcome.ok.injEq] at hc'; subst hc'
  refine ⟨out, a', (extraOnCri_true ref md pf children).trans hout, by rw [houti]; rfl, ?_, g.prefetch⟩
  refine readSource_of_layers parseRef
    (fun l hl => hd i c hi hcl l (List.cons_subset_cons c (List.take_subset _ _) hl)) hr g.ref g.digest g.layers
    (criLayers_split c _ hcl (hd i c hi hcl)) (congrArg readLabel g.urls) (fun m l hml => ?_)
  rw [urlsAt_eq, gI (1 + m) l (by rw [Nat.add_comm 1 m, List.getElem?_cons_succ, hml]), labelByDigest_cri,
    readLabel_labelByDigest]

/-- The manifest's own annotations do not already carry the keys the extra handler fills in
("nop if this key is already set"). -/
def NoPreset (a : Labels) : Prop :=
  get a kURLs = none ∧ get a kPrefetch = none ∧ ∀ j, get a (urlsKey j) = none

end SV.Labels
