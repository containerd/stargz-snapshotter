/-
The invariant `CInvar` of the interleaved semantics (`SV/Model/SnapConc.lean`) is kept by every transition
(`cinvar_step`).  Rely/guarantee style, with the rely `TOk`: `cinvar_update` says what a thread owes when it moves on,
and the frames (`tok_dirs_mounts`, `tok_metaStep`, `tok_tx`) what a step of one thread leaves of another thread's `TOk`.
-/
import SV.Lemmas.Snap
import SV.Model.SnapConc

namespace SV.Snap.Conc
open SV.Snap

/-- no live snapshot owns the directory, and none ever will (ids are not reused) -/
def DeadDir (s : State) : Dir → Prop
  | .id n => n ≤ s.seq ∧ ∀ a ∈ s.snaps, a.id ≠ n
  | .temp _ => True

/-- the record created for `sn` is still there (its labels may have been updated) -/
def LiveRec (s : State) (sn : Snap) : Prop := ∃ a ∈ s.snaps, a.id = sn.id ∧ a.key = sn.key

/-- `storage.CreateSnapshot(sn)` passed its checks in the transaction that is still open;
the same proposition as `StepOk s (.txCreate sn)` -/
def NewRec (s : State) (sn : Snap) : Prop :=
  sn.key ≠ "" ∧ hasKey s.snaps sn.key = false ∧ sn.id = s.seq + 1 ∧
  (sn.parent ≠ "" → ∃ p ∈ s.snaps, p.key = sn.parent ∧ p.kind = .committed)

/-- what a thread at program point `pc` relies on, whatever the other threads do -/
def TOk (s : State) : PC → Prop
  | .crRename _ _ sn => NewRec s sn
  | .crCommit _ sn => NewRec s sn ∧ Dir.id sn.id ∈ s.dirs
  | .prepMount _ sn => LiveRec s sn ∧ sn.id ∉ s.mounts
  | .prepCommit _ sn => LiveRec s sn ∧ sn.id ∈ s.mounts
  | .clean ds u => (∀ d ∈ ds, DeadDir s d) ∧
      (u = true → ∀ d r, ds = d :: r → ∀ n, d = Dir.id n → n ∉ s.mounts)
  | _ => True

/-- the snapshot record a Prepare/View in flight has created or is creating -/
def PC.owned : PC → Option Snap
  | .crRename _ _ sn => some sn
  | .crCommit _ sn => some sn
  | .prepMount _ sn => some sn
  | .prepCommit _ sn => some sn
  | _ => none

structure CInvar (c : CState) : Prop where
  inv : Inv c.s
  /-- every live snapshot has its directory -/
  allDirs : AllDirs c.s
  oneHolder : ∀ i j, (c.th i).holds = true → (c.th j).holds = true → i = j
  /-- id-named directories are below the sequence, except the one renamed by the lock holder -/
  dirBound : ∀ n, Dir.id n ∈ c.s.dirs → n ≤ c.s.seq ∨ ∃ i tgt sn, c.th i = .crCommit tgt sn ∧ sn.id = n
  tok : ∀ i, TOk c.s (c.th i)
  ownDistinct : ∀ i j a b, i ≠ j → (c.th i).owned = some a → (c.th j).owned = some b → a.key ≠ b.key
  noConflict : ∀ i j k, (c.th i).ownKey = some k → (c.th j).consumes ≠ some k

/-- `CInvar.dirBound` as a predicate of state and thread map -/
def DirBound (s : State) (th : Nat → PC) : Prop :=
  ∀ n, Dir.id n ∈ s.dirs → n ≤ s.seq ∨ ∃ j tgt sn, th j = .crCommit tgt sn ∧ sn.id = n

theorem newRec_iff {s : State} {sn : Snap} : NewRec s sn ↔ StepOk s (.txCreate sn) := Iff.rfl

theorem commitOk_iff {s : State} {name key : String} {lb : Labels} :
    commitOk s name key ↔ StepOk s (.txCommitActive key name lb) := Iff.rfl

theorem NewRec.id_eq {s : State} {sn : Snap} (h : NewRec s sn) : sn.id = s.seq + 1 := (newRec_iff.mp h).id_eq

theorem TOk.headUnmounted {s : State} {d : Dir} {r : List Dir} (h : TOk s (.clean (d :: r) true)) :
    ∀ n, d = Dir.id n → n ∉ s.mounts := h.2 rfl d r rfl

theorem setPc_same (th : Nat → PC) (i : Nat) (pc : PC) : setPc th i pc i = pc := by simp [setPc]

theorem setPc_other (th : Nat → PC) {i j : Nat} (pc : PC) (h : j ≠ i) : setPc th i pc j = th j := by
  simp [setPc, h]

/-- its two hypotheses are what `Snap.ids_applyStep` gives for a step -/
theorem deadDir_mono {s s' : State} {d : Dir} (h : DeadDir s d) (hseq : s.seq ≤ s'.seq)
    (hsn : ∀ a ∈ s'.snaps, (∃ b ∈ s.snaps, b.id = a.id) ∨ s.seq < a.id) : DeadDir s' d := by
  cases d with
  | temp t => trivial
  | id n =>
    refine ⟨Nat.le_trans h.1 hseq, ?_⟩
    intro a ha e
    rcases hsn a ha with ⟨b, hb, hbe⟩ | hlt
    · exact h.2 b hb (hbe.trans e)
    · have := h.1; omega

/-- `TOk` survives a step that leaves records and sequence alone.  `hd`: the only directory any `TOk` speaks of is the
one `crCommit` has renamed, whose id is `seq + 1`.  `hm`: a mount that is new is on the id of a live record which `pc`
is not waiting to mount.  `hkm`: mounts on ids of live records stay. -/
theorem tok_dirs_mounts {s s' : State} {pc : PC} (h : TOk s pc)
    (hsn : s'.snaps = s.snaps) (hseq : s'.seq = s.seq)
    (hd : ∀ n, n = s.seq + 1 → Dir.id n ∈ s.dirs → Dir.id n ∈ s'.dirs)
    (hm : ∀ n, n ∈ s'.mounts → n ∈ s.mounts ∨ ((∃ a ∈ s.snaps, a.id = n) ∧ ∀ T sn, pc = .prepMount T sn → sn.id ≠ n))
    (hkm : ∀ n, n ∈ s.mounts → (∃ a ∈ s.snaps, a.id = n) → n ∈ s'.mounts) :
    TOk s' pc := by
  have hnew : ∀ sn, NewRec s sn → NewRec s' sn := fun sn h => by
    unfold NewRec at h ⊢; rw [hsn, hseq]; exact h
  have hlive : ∀ sn, LiveRec s sn → LiveRec s' sn := fun sn h => by
    unfold LiveRec at h ⊢; rw [hsn]; exact h
  cases pc with
  | crRename tgt t sn => exact hnew sn h
  | crCommit tgt sn => exact ⟨hnew sn h.1, hd _ h.1.id_eq h.2⟩
  | prepMount T sn =>
    obtain ⟨h1, h2⟩ := h
    refine ⟨hlive sn h1, ?_⟩
    intro hmem
    rcases hm _ hmem with h' | ⟨_, h'⟩
    · exact h2 h'
    · exact h' T sn rfl rfl
  | prepCommit T sn =>
    obtain ⟨h1, h2⟩ := h
    refine ⟨hlive sn h1, ?_⟩
    obtain ⟨a, ha, hai, _⟩ := h1
    exact hkm _ h2 ⟨a, ha, hai⟩
  | clean ds u =>
    obtain ⟨h1, h2⟩ := h
    refine ⟨?_, ?_⟩
    · intro d hd'
      exact deadDir_mono (h1 d hd') (by rw [hseq]; exact Nat.le_refl _) (by
        intro a ha; rw [hsn] at ha; exact Or.inl ⟨a, ha, rfl⟩)
    · intro hu d r hds n hn hmem
      rcases hm _ hmem with h' | ⟨⟨a, ha, hae⟩, _⟩
      · exact h2 hu d r hds n hn h'
      · have hdead := h1 d (by rw [hds]; exact List.mem_cons_self ..)
        rw [hn] at hdead
        exact hdead.2 a ha hae
  | idle op => trivial
  | done => trivial

theorem tok_dirs {s s' : State} {pc : PC} (h : TOk s pc) (hsn : s'.snaps = s.snaps) (hseq : s'.seq = s.seq)
    (hm : s'.mounts = s.mounts) (hd : ∀ n, n = s.seq + 1 → Dir.id n ∈ s.dirs → Dir.id n ∈ s'.dirs) : TOk s' pc :=
  tok_dirs_mounts h hsn hseq hd (fun _ hn => Or.inl (hm ▸ hn)) (fun _ hn _ => hm ▸ hn)

/-- a metadata step by another thread: the record a thread owns survives unless the step consumes its key -/
theorem tok_metaStep {s : State} {st : Step} {pc : PC} (h : TOk s pc) (hh : pc.holds = false)
    (hm : (applyStep s st).mounts = s.mounts) (hok : StepOk s st)
    (hkeep : ∀ sn, pc.owned = some sn → sn.key ∉ st.touches ∨ ∃ k lb, st = .txUpdate k lb) :
    TOk (applyStep s st) pc := by
  have hlive : ∀ sn, pc.owned = some sn → LiveRec s sn → LiveRec (applyStep s st) sn := by
    rintro sn ho ⟨a, ha, h1, h2⟩
    rcases hkeep sn ho with hk | ⟨k, lb, rfl⟩
    · exact ⟨a, mem_applyStep_of_untouched ha (h2 ▸ hk), h1, h2⟩
    · exact ⟨_, mem_updateLabels.mpr ⟨a, ha, rfl⟩, by simpa using h1, by simpa using h2⟩
  cases pc with
  | crRename tgt t sn => cases hh
  | crCommit tgt sn => cases hh
  | prepMount T sn => exact ⟨hlive sn rfl h.1, by rw [hm]; exact h.2⟩
  | prepCommit T sn => exact ⟨hlive sn rfl h.1, by rw [hm]; exact h.2⟩
  | clean ds u =>
    exact ⟨fun d hd' => deadDir_mono (h.1 d hd') (ids_applyStep hok).1 (ids_applyStep hok).2, by rw [hm]; exact h.2⟩
  | _ => trivial

theorem ownKey_consumes {pc : PC} {k k' : String} (hk : pc.ownKey = some k) (hc : pc.consumes = some k') : False := by
  cases pc with
  | idle op =>
    cases op with
    | prepare _ _ _ => cases hc
    | view _ _ _ => cases hc
    | _ => cases hk
  | _ => cases hc

theorem setPc_rel {R : PC → PC → Prop} {th : Nat → PC} {i : Nat} {pc' : PC} (hold : ∀ a b, a ≠ b → R (th a) (th b))
    (hl : ∀ j, j ≠ i → R pc' (th j)) (hr : ∀ j, j ≠ i → R (th j) pc') :
    ∀ a b, a ≠ b → R (setPc th i pc' a) (setPc th i pc' b) := by
  intro a b hab
  by_cases hai : a = i <;> by_cases hbi : b = i
  · exact absurd (hai.trans hbi.symm) hab
  · subst hai
    rw [setPc_same, setPc_other _ _ hbi]
    exact hl b hbi
  · subst hbi
    rw [setPc_same, setPc_other _ _ hai]
    exact hr a hai
  · rw [setPc_other _ _ hai, setPc_other _ _ hbi]
    exact hold a b hab

/-- Thread `i` moves to `pc'` and the state becomes `s'`; `hhold` … `hcons`: what `pc'` inherits from `c.th i`, or
establishes against every other thread. -/
theorem cinvar_update {c : CState} (h : CInvar c) (i : Nat) (s' : State) (pc' : PC) (c' : CState)
    (hcs : c'.s = s') (hcth : c'.th = setPc c.th i pc')
    (hinv : Inv s') (had : AllDirs s')
    (hhold : pc'.holds = true → (c.th i).holds = true ∨ c.lockFree)
    (hdb : DirBound s' (setPc c.th i pc'))
    (hothers : ∀ j, j ≠ i → TOk s' (c.th j))
    (hself : TOk s' pc')
    (hown : ∀ a, pc'.owned = some a → (c.th i).owned = some a ∨
        ∀ j b, j ≠ i → (c.th j).owned = some b → a.key ≠ b.key)
    (hkey : ∀ k, pc'.ownKey = some k → (c.th i).ownKey = some k ∨ ∀ j, j ≠ i → (c.th j).consumes ≠ some k)
    (hcons : ∀ k, pc'.consumes = some k → (c.th i).consumes = some k ∨ ∀ j, j ≠ i → (c.th j).ownKey ≠ some k) :
    CInvar c' := by
  have hnh : ∀ j, j ≠ i → pc'.holds = true → (c.th j).holds = true → False := fun j hj hp hq =>
    (hhold hp).elim (fun h1 => hj (h.oneHolder _ _ hq h1)) fun h1 => by rw [h1 j] at hq; cases hq
  have hdist : ∀ j, j ≠ i → ∀ a b, pc'.owned = some a → (c.th j).owned = some b → a.key ≠ b.key := fun j hj a b ha hb =>
    (hown a ha).elim (fun h1 => h.ownDistinct _ _ _ _ (Ne.symm hj) h1 hb) fun h1 => h1 j b hj hb
  refine ⟨by rw [hcs]; exact hinv, by rw [hcs]; exact had, ?_, by rw [hcs, hcth]; exact hdb, ?_, ?_, ?_⟩
  · intro a b ha hb
    rw [hcth] at ha hb
    by_cases hab : a = b
    · exact hab
    · exact (setPc_rel (R := fun p q => p.holds = true → q.holds = true → False)
        (fun a b hab ha hb => hab (h.oneHolder a b ha hb)) hnh
        (fun j hj hq hp => hnh j hj hp hq) a b hab ha hb).elim
  · intro j
    rw [hcs, hcth]
    by_cases hj : j = i
    · subst hj; rw [setPc_same]; exact hself
    · rw [setPc_other _ _ hj]; exact hothers j hj
  · intro a b x y hab
    rw [hcth]
    exact setPc_rel (R := fun p q => p.owned = some x → q.owned = some y → x.key ≠ y.key)
      (fun a b hab => h.ownDistinct a b x y hab) (fun j hj => hdist j hj x y)
      (fun j hj hx hy e => hdist j hj y x hy hx e.symm) a b hab
  · intro a b k
    rw [hcth]
    by_cases hab : a = b
    · subst hab
      exact ownKey_consumes
    · exact setPc_rel (R := fun p q => p.ownKey = some k → q.consumes ≠ some k)
        (fun a b _ => h.noConflict a b k)
        (fun j hj hk => (hkey k hk).elim (h.noConflict _ _ k) fun h1 => h1 j hj)
        (fun j hj hk hc => (hcons k hc).elim (h.noConflict _ _ k hk) fun h1 => h1 j hj hk) a b hab

/-- `cinvar_update` when the thread ends owning nothing (`done` or a cleanup loop) -/
theorem cinvar_release {c : CState} (h : CInvar c) (i : Nat) (s' : State) {pc' : PC} (c' : CState)
    (hcs : c'.s = s') (hcth : c'.th = setPc c.th i pc') (hrel : pc' = .done ∨ ∃ ds u, pc' = .clean ds u)
    (hinv : Inv s') (had : AllDirs s')
    (hdb : DirBound s' (setPc c.th i pc'))
    (hothers : ∀ j, j ≠ i → TOk s' (c.th j)) (hself : TOk s' pc') : CInvar c' := by
  have hf : pc'.holds = false ∧ pc'.owned = none ∧ pc'.ownKey = none ∧ pc'.consumes = none := by
    rcases hrel with rfl | ⟨ds, u, rfl⟩ <;> exact ⟨rfl, rfl, rfl, rfl⟩
  exact cinvar_update h i s' pc' c' hcs hcth hinv had (fun hh => by rw [hf.1] at hh; cases hh) hdb hothers hself
    (fun a ha => by rw [hf.2.1] at ha; cases ha) (fun k hk => by rw [hf.2.2.1] at hk; cases hk)
    (fun k hk => by rw [hf.2.2.2] at hk; cases hk)

/-- `cinvar_update` when the thread keeps the record, key and lock it had -/
theorem cinvar_advance {c : CState} (h : CInvar c) (i : Nat) (s' : State) {pc' : PC} (c' : CState)
    (hcs : c'.s = s') (hcth : c'.th = setPc c.th i pc') (hown : pc'.owned = (c.th i).owned)
    (hkey : pc'.ownKey = (c.th i).ownKey) (hcons : pc'.consumes = none) (hhold : pc'.holds = true → (c.th i).holds = true)
    (hinv : Inv s') (had : AllDirs s')
    (hdb : DirBound s' (setPc c.th i pc'))
    (hothers : ∀ j, j ≠ i → TOk s' (c.th j)) (hself : TOk s' pc') : CInvar c' :=
  cinvar_update h i s' pc' c' hcs hcth hinv had (fun hh => Or.inl (hhold hh)) hdb hothers hself
    (fun a ha => Or.inl (hown ▸ ha)) (fun k hk => Or.inl (hkey ▸ hk)) (fun k hk => by rw [hcons] at hk; cases hk)

theorem dirBound_frame {c : CState} (h : CInvar c) (i : Nat) (pc' : PC) (s' : State)
    (hd : ∀ n, Dir.id n ∈ s'.dirs → Dir.id n ∈ c.s.dirs) (hseq : c.s.seq ≤ s'.seq)
    (hi : ∀ tgt sn, c.th i = .crCommit tgt sn → pc' = .crCommit tgt sn ∨ sn.id ≤ s'.seq) :
    DirBound s' (setPc c.th i pc') := by
  intro n hn
  rcases h.dirBound n (hd n hn) with h1 | ⟨j, tgt, sn, hj, hid⟩
  · exact Or.inl (Nat.le_trans h1 hseq)
  · by_cases hji : j = i
    · subst hji
      rcases hi tgt sn hj with h2 | h2
      · exact Or.inr ⟨j, tgt, sn, by rw [setPc_same]; exact h2, hid⟩
      · exact Or.inl (by rw [← hid]; exact h2)
    · exact Or.inr ⟨j, tgt, sn, by rw [setPc_other _ _ hji]; exact hj, hid⟩

theorem dirBound_keep {c : CState} (h : CInvar c) (i : Nat) (pc' : PC) (s' : State)
    (hd : ∀ n, Dir.id n ∈ s'.dirs → Dir.id n ∈ c.s.dirs) (hseq : c.s.seq ≤ s'.seq) (hnh : (c.th i).holds = false) :
    DirBound s' (setPc c.th i pc') :=
  dirBound_frame h i pc' s' hd hseq (fun tgt sn e => by rw [e] at hnh; cases hnh)

theorem dirBound_same {c : CState} (h : CInvar c) (i : Nat) {pc' : PC} {s' : State} (hd : s'.dirs = c.s.dirs)
    (hseq : s'.seq = c.s.seq) (hnh : (c.th i).holds = false) : DirBound s' (setPc c.th i pc') :=
  dirBound_keep h i pc' s' (fun _ hn => hd ▸ hn) (Nat.le_of_eq hseq.symm) hnh

theorem cinvar_goto {c : CState} (h : CInvar c) (i : Nat) {pc' : PC} (c' : CState) (hcs : c'.s = c.s)
    (hcth : c'.th = setPc c.th i pc') (hrel : pc' = .done ∨ ∃ ds u, pc' = .clean ds u)
    (hnh : (c.th i).holds = false) (hself : TOk c.s pc') : CInvar c' :=
  cinvar_release h i c.s c' hcs hcth hrel h.inv h.allDirs (dirBound_same h i rfl rfl hnh) (fun j _ => h.tok j) hself

theorem lockFree_dirs {c : CState} (h : CInvar c) (hl : c.lockFree) : ∀ n, Dir.id n ∈ c.s.dirs → n ≤ c.s.seq := by
  intro n hn
  rcases h.dirBound n hn with h1 | ⟨j, tgt, sn, hj, _⟩
  · exact h1
  · have := hl j; rw [hj] at this; simp [PC.holds] at this

theorem orphans_dead {c : CState} (h : CInvar c) (hl : c.lockFree) (s' : State) (hd : s'.dirs = c.s.dirs)
    (hseq : s'.seq = c.s.seq) : ∀ d ∈ orphans s', DeadDir s' d := by
  intro d hd'
  unfold orphans at hd'
  obtain ⟨h1, h2⟩ := List.mem_filter.mp hd'
  cases d with
  | temp t => trivial
  | id n =>
    refine ⟨by rw [hseq]; exact lockFree_dirs h hl n (by rw [← hd]; exact h1), ?_⟩
    intro a ha e
    simp only [liveDir, Bool.not_eq_eq_eq_not, Bool.not_true, List.any_eq_false, beq_iff_eq] at h2
    exact h2 a ha e

theorem owned_ownKey {pc : PC} {sn : Snap} (h : pc.owned = some sn) : pc.ownKey = some sn.key := by
  cases pc <;> simp [PC.owned] at h <;> subst h <;> rfl

theorem liveRec_of_owned_nonholder {s : State} {pc : PC} {sn : Snap} (h : TOk s pc) (ho : pc.owned = some sn)
    (hh : pc.holds = false) : LiveRec s sn := by
  cases pc <;> simp [PC.owned] at ho <;> simp [PC.holds] at hh
  · subst ho; exact h.1
  · subst ho; exact h.1

/-! ### frames for `TOk` -/

theorem tok_mkTemp {s : State} {pc : PC} (h : TOk s pc) (t : Nat) : TOk (applyStep s (.mkTemp t)) pc :=
  tok_dirs h rfl rfl rfl fun _ _ hn => List.mem_append_left _ hn

theorem tok_mount {s : State} {pc : PC} {m : Nat} {lb : Labels} (h : TOk s pc) (hlive : ∃ a ∈ s.snaps, a.id = m)
    (hne : ∀ T sn, pc = .prepMount T sn → sn.id ≠ m) : TOk (applyStep s (.fsMount m lb true)) pc := by
  refine tok_dirs_mounts h rfl rfl (fun _ _ hn => hn) (fun n hn => ?_) fun n hn _ => List.mem_cons_of_mem _ hn
  rcases List.mem_cons.mp hn with rfl | hn
  · exact Or.inr ⟨hlive, hne⟩
  · exact Or.inl hn

theorem tok_unmount {s : State} {pc : PC} {m : Nat} {ok : Bool} (h : TOk s pc) (hdead : ∀ a ∈ s.snaps, a.id ≠ m) :
    TOk (applyStep s (.fsUnmount (.id m) ok)) pc := by
  refine tok_dirs_mounts h rfl rfl (fun _ _ hn => hn) (fun n hn => Or.inl (List.mem_filter.mp hn).1) ?_
  rintro n hn ⟨a, ha, hae⟩
  refine List.mem_filter.mpr ⟨hn, ?_⟩
  simp only [bne_iff_ne, ne_eq]
  exact fun e => hdead a ha (hae.trans e)

/-- a write transaction of thread `i` that touches only keys `i` consumes or owns keeps the `TOk` of every other
thread: their keys are others (`noConflict`, `ownDistinct`) -/
theorem tok_tx {c : CState} (h : CInvar c) (hlock : c.lockFree) {i : Nat} {st : Step}
    (hm : (applyStep c.s st).mounts = c.s.mounts) (hok : StepOk c.s st)
    (hk : ∀ k ∈ st.touches, (c.th i).consumes = some k ∨ ∃ sn, (c.th i).owned = some sn ∧ sn.key = k) :
    ∀ j, j ≠ i → TOk (applyStep c.s st) (c.th j) := by
  intro j hj
  refine tok_metaStep (h.tok j) (hlock j) hm hok fun x hx => Or.inl fun hmem => ?_
  rcases hk _ hmem with hc | ⟨sn, ho, he⟩
  · exact h.noConflict j i x.key (owned_ownKey hx) hc
  · exact h.ownDistinct j i x sn hj hx ho he.symm

/-! ### the transitions -/

theorem cinvar_tx {c : CState} (h : CInvar c) {i : Nat} {st : Step} {pc' : PC} (hlock : c.lockFree)
    (hok : StepOk c.s st) (hsafe : Safe false c.s st) (hm : (applyStep c.s st).mounts = c.s.mounts)
    (hd : (applyStep c.s st).dirs = c.s.dirs)
    (hk : ∀ k ∈ st.touches, (c.th i).consumes = some k ∨ ∃ sn, (c.th i).owned = some sn ∧ sn.key = k)
    (hrel : pc' = .done ∨ ∃ ds u, pc' = .clean ds u) (hself : TOk (applyStep c.s st) pc') : CInvar (c.run i st pc') :=
  cinvar_release h i _ _ rfl rfl hrel (inv_step h.inv hok) (allDirs_step h.allDirs hsafe) (dirBound_keep h i _ _ (fun _ hn => hd ▸ hn) (ids_applyStep hok).1 (hlock i))
    (tok_tx h hlock hm hok hk) hself

theorem cinvar_createBegin {c : CState} (h : CInvar c) {i : Nat} {kind : Kind} {key parent : String} {labels : Labels}
    (hpc : c.th i = .idle (if kind = .active then .prepare key parent labels else .view key parent labels))
    (hlock : c.lockFree) (hok : createOk c.s key parent) :
    CInvar { (c.run i (.mkTemp c.tmp)
      (.crRename (targetOfLabels kind labels) c.tmp ⟨key, c.s.seq + 1, kind, parent, labels⟩)) with tmp := c.tmp + 1 } := by
  obtain ⟨⟨ps, hchk, _⟩, _⟩ := hok
  refine cinvar_update h i (applyStep c.s (.mkTemp c.tmp)) _ _ rfl rfl (inv_step h.inv trivial)
    (allDirs_step h.allDirs trivial) (fun _ => Or.inr hlock)
    (dirBound_keep h i _ _ (fun n hn => by simpa [applyStep] using hn) (Nat.le_refl _) (hlock i))
    (fun j _ => tok_mkTemp (h.tok j) _) (newRec_iff.mpr ((createChecks_ok hchk).stepOk kind labels)) ?_ ?_ (fun _ hk => nomatch hk)
  · -- the key is fresh, and the records the other threads own are live: none of them has it
    intro a ha
    right
    intro j b hj hb
    simp only [PC.owned, Option.some.injEq] at ha
    subst ha
    obtain ⟨x, hx, _, hxk⟩ := liveRec_of_owned_nonholder (h.tok j) hb (hlock j)
    intro e
    exact hasKey_false.mp (createChecks_ok hchk).fresh x hx (by rw [hxk]; exact e.symm)
  · intro k hk
    left
    rw [hpc]
    simp only [PC.ownKey, Option.some.injEq] at hk
    subst hk
    split <;> rfl

theorem cinvar_createFail {c : CState} (h : CInvar c) {i : Nat} {extra : List Dir} (hlock : c.lockFree)
    (hextra : extra = [] ∨ (extra = [Dir.id (c.s.seq + 1)] ∧ Dir.id (c.s.seq + 1) ∈ c.s.dirs)) :
    CInvar { (c.run i (.mkTemp c.tmp) (.clean (Dir.temp c.tmp :: extra) false)) with tmp := c.tmp + 1 } := by
  refine cinvar_release h i (applyStep c.s (.mkTemp c.tmp)) _ rfl rfl (Or.inr ⟨_, _, rfl⟩) (inv_step h.inv trivial)
    (allDirs_step h.allDirs trivial)
    (dirBound_keep h i _ _ (fun n hn => by simpa [applyStep] using hn) (Nat.le_refl _) (hlock i))
    (fun j _ => tok_mkTemp (h.tok j) _) ⟨fun d hd => ?_, nofun⟩
  rcases List.mem_cons.mp hd with rfl | hd
  · trivial
  · -- without a lock holder every id-named directory is below the sequence
    rcases hextra with rfl | ⟨rfl, hmem⟩
    · cases hd
    · have := lockFree_dirs h hlock _ hmem
      omega

theorem cinvar_rename {c : CState} (h : CInvar c) {i : Nat} {tgt : Option String} {t : Nat} {sn : Snap}
    (hpc : c.th i = .crRename tgt t sn) : CInvar (c.run i (.rename t sn.id) (.crCommit tgt sn)) := by
  have htok := hpc ▸ h.tok i
  refine cinvar_advance h i (applyStep c.s (.rename t sn.id)) _ rfl rfl (by rw [hpc]; rfl) (by rw [hpc]; rfl) rfl
    (fun _ => by rw [hpc]; rfl) (inv_step h.inv trivial) (allDirs_step h.allDirs trivial) ?_
    (fun j _ => tok_dirs (h.tok j) rfl rfl rfl fun n _ hn => dir_kept hn nofun) ⟨htok, by simp [applyStep]⟩
  -- the new directory is the one this thread, the only lock holder, is about to commit
  intro n hn
  have hn' : Dir.id n ∈ c.s.dirs ∨ n = sn.id := by
    simp only [applyStep, List.mem_append, List.mem_filter, List.mem_singleton, Dir.id.injEq] at hn
    exact hn.imp And.left id
  rcases hn' with h1 | h1
  · rcases h.dirBound n h1 with h2 | ⟨j, tgt', sn', hj, _⟩
    · exact Or.inl h2
    · have : j = i := h.oneHolder _ _ (by rw [hj]; rfl) (by rw [hpc]; rfl)
      rw [this, hpc] at hj; cases hj
  · exact Or.inr ⟨i, tgt, sn, by rw [setPc_same], h1.symm⟩

theorem cinvar_createCommit {c : CState} (h : CInvar c) {i : Nat} {tgt : Option String} {sn : Snap}
    (hpc : c.th i = .crCommit tgt sn) : CInvar (c.run i (.txCreate sn) (afterCreate tgt sn)) := by
  obtain ⟨hok, hdir⟩ : TOk c.s (.crCommit tgt sn) := hpc ▸ h.tok i
  have hid := hok.id_eq
  have hinv' := inv_step h.inv (newRec_iff.mp hok)
  have hnh : ∀ j, j ≠ i → (c.th j).holds = false := fun j hj => by
    cases hh : (c.th j).holds with
    | false => rfl
    | true => exact absurd (h.oneHolder _ _ hh (by rw [hpc]; rfl)) hj
  -- the directory that was above the sequence is the one committed now
  have hdb : ∀ pc', DirBound (applyStep c.s (.txCreate sn)) (setPc c.th i pc') := by
    refine fun pc' => dirBound_frame h i _ _ (fun n hn => hn) (by show c.s.seq ≤ sn.id; omega) ?_
    intro tgt' sn' e
    rw [hpc] at e; cases e
    exact Or.inr (Nat.le_refl _)
  have hothers := fun j hj =>
    tok_metaStep (h.tok j) (hnh j hj) rfl (newRec_iff.mp hok) (fun _ _ => Or.inl List.not_mem_nil)
  cases tgt with
  | none => exact cinvar_release h i _ _ rfl rfl (Or.inl rfl) hinv' (allDirs_step h.allDirs hdir) (hdb _) hothers trivial
  | some T =>
    refine cinvar_advance h i _ _ rfl rfl (by rw [hpc]; rfl) (by rw [hpc]; rfl) rfl (fun hh => nomatch hh)
      hinv' (allDirs_step h.allDirs hdir) (hdb _) hothers ⟨⟨sn, mem_insertSnap.mpr (Or.inl rfl), rfl, rfl⟩, ?_⟩
    -- the new id is above the sequence, hence above every mounted id
    intro hm
    have := h.inv.mountBound _ hm
    omega

theorem cinvar_mount {c : CState} (h : CInvar c) {i : Nat} {T : String} {sn : Snap} (hpc : c.th i = .prepMount T sn) :
    CInvar (c.run i (.fsMount sn.id sn.labels ((c.orc i).mountOk sn.id))
      (if (c.orc i).mountOk sn.id then .prepCommit T sn else .done)) := by
  obtain ⟨⟨a, ha, hai, hak⟩, hnm⟩ : TOk c.s (.prepMount T sn) := hpc ▸ h.tok i
  have hnh : (c.th i).holds = false := by rw [hpc]; rfl
  cases (c.orc i).mountOk sn.id with
  | false =>
    -- a failed Mount changes nothing and ends the call
    exact cinvar_goto h i _ rfl rfl (Or.inl rfl) hnh trivial
  | true =>
    have hok : StepOk c.s (.fsMount sn.id sn.labels true) := fun _ =>
      ⟨by rw [← hai]; exact h.allDirs a ha, hnm, by rw [← hai]; exact (h.inv.idBound a ha).2⟩
    refine cinvar_advance h i (applyStep c.s (.fsMount sn.id sn.labels true)) (pc' := .prepCommit T sn) _ rfl rfl
      (by rw [hpc]; rfl) (by rw [hpc]; rfl) rfl (fun hh => nomatch hh) (inv_step h.inv hok)
      (allDirs_step h.allDirs trivial) (dirBound_same h i rfl rfl hnh) (fun j hj => ?_)
      ⟨⟨a, ha, hai, hak⟩, List.mem_cons_self ..⟩
    -- the id mounted belongs to this thread's record: no other thread is waiting to mount it
    refine tok_mount (h.tok j) ⟨a, ha, hai⟩ fun T' sn' hj' e => ?_
    obtain ⟨⟨b, hb, hbi, hbk⟩, _⟩ : TOk c.s (.prepMount T' sn') := hj' ▸ h.tok j
    have hab : a = b := h.inv.idInj ha hb (by rw [hai, hbi, e])
    apply h.ownDistinct i j sn sn' (Ne.symm hj) (by rw [hpc]; rfl) (by rw [hj']; rfl)
    rw [← hak, ← hbk, hab]

theorem cinvar_cleanUnmount {c : CState} (h : CInvar c) {i : Nat} {d : Dir} {r : List Dir}
    (hpc : c.th i = .clean (d :: r) false) :
    CInvar (c.run i (.fsUnmount d ((c.orc i).unmountOk d)) (.clean (d :: r) true)) := by
  have htok : TOk c.s (.clean (d :: r) false) := hpc ▸ h.tok i
  have hnh : (c.th i).holds = false := by rw [hpc]; rfl
  cases d with
  | temp t =>
    -- nothing is mounted on a temporary directory: the state stays as it is
    exact cinvar_goto h i _ rfl rfl (Or.inr ⟨_, _, rfl⟩) hnh ⟨htok.1, fun _ d' r' e n hn => by cases e; cases hn⟩
  | id m =>
    have hdead := (htok.1 _ (List.mem_cons_self ..)).2
    refine cinvar_release h i (applyStep c.s (.fsUnmount (.id m) ((c.orc i).unmountOk (.id m)))) _ rfl rfl
      (Or.inr ⟨_, _, rfl⟩) (inv_step h.inv trivial) (allDirs_step h.allDirs (Or.inr (liveDir_id.mpr hdead)))
      (dirBound_same h i rfl rfl hnh) (fun j _ => tok_unmount (h.tok j) hdead) ⟨htok.1, ?_⟩
    intro _ d' r' e n hn hmem
    cases e
    cases hn
    simp [applyStep] at hmem

theorem cinvar_cleanRmdir {c : CState} (h : CInvar c) {i : Nat} {d : Dir} {r : List Dir}
    (hpc : c.th i = .clean (d :: r) true) : CInvar (c.run i (.rmdir d) (.clean r false)) := by
  have htok : TOk c.s (.clean (d :: r) true) := hpc ▸ h.tok i
  have hdead := htok.1 d (List.mem_cons_self ..)
  have hok : StepOk c.s (.rmdir d) := htok.headUnmounted
  have hsafe : Safe false c.s (.rmdir d) := by
    left
    cases d with
    | temp t => rfl
    | id n => exact liveDir_id.mpr hdead.2
  refine cinvar_release h i (applyStep c.s (.rmdir d)) _ rfl rfl (Or.inr ⟨_, _, rfl⟩)
    (inv_step h.inv hok) (allDirs_step h.allDirs hsafe)
    (dirBound_keep h i _ _ (fun n hn => (List.mem_filter.mp hn).1) (Nat.le_refl _) (by rw [hpc]; rfl)) ?_ ?_
  · -- the directory deleted is dead, hence not the one a lock holder has renamed (that id is above the sequence)
    intro j _
    refine tok_dirs (h.tok j) rfl rfl rfl (fun n hn1 hn => dir_kept hn ?_)
    rintro ⟨rfl⟩
    have := hdead.1
    omega
  · refine ⟨fun d' hd' => ?_, nofun⟩
    have := htok.1 d' (List.mem_cons_of_mem _ hd')
    cases d' with
    | temp t => trivial
    | id n => exact this

/-- `{}`: the variant in which Cleanup's scan waits for the writer lock; with `cleanupReadTx` the invariant fails
(`Props.C08.cleanupReadTx_breaks_invariant`) -/
theorem cinvar_step {c c' : CState} (h : CInvar c) (hs : CStep {} c c') : CInvar c' := by
  cases hs with
  | spawn i op orc hfree hk =>
    exact cinvar_update h i c.s (.idle op) _ rfl rfl h.inv h.allDirs (fun hh => nomatch hh)
      (dirBound_same h i rfl rfl (by rw [hfree]; rfl)) (fun j _ => h.tok j) trivial (fun _ ha => nomatch ha)
      (fun k hk' => Or.inr fun j _ => (hk j).1 k hk') (fun k hk' => Or.inr fun j _ => (hk j).2 k hk')
  | createBegin i kind key parent labels hpc hkind hlock hok => exact cinvar_createBegin h hpc hlock hok
  | createFail i kind key parent labels extra hpc hlock hfail hextra => exact cinvar_createFail h hlock hextra
  | rename i tgt t sn hpc => exact cinvar_rename h hpc
  | createCommit i tgt sn hpc => exact cinvar_createCommit h hpc
  | mount i T sn hpc => exact cinvar_mount h hpc
  | internalCommit i T sn hpc hlock hok =>
    exact cinvar_tx h hlock (commitOk_iff.mp hok) trivial rfl rfl
      (fun k hk => Or.inr ⟨sn, by rw [hpc]; rfl, (List.mem_singleton.mp hk).symm⟩) (Or.inl rfl) trivial
  | internalCommitFail i T sn hpc hlock hok => exact cinvar_goto h i _ rfl rfl (Or.inl rfl) (hlock i) trivial
  | commit i name key labels hpc hlock hok =>
    exact cinvar_tx h hlock (commitOk_iff.mp hok) trivial rfl rfl
      (fun k hk => Or.inl (by rw [hpc, List.mem_singleton.mp hk]; rfl)) (Or.inl rfl) trivial
  | update i key lk lv sn hpc hlock hf =>
    exact cinvar_release h i (applyStep c.s (.txUpdate key _)) _ rfl rfl (Or.inl rfl)
      (inv_step h.inv trivial) (allDirs_step h.allDirs trivial)
      (dirBound_same h i rfl rfl (hlock i))
      (fun j _ => tok_metaStep (h.tok j) (hlock j) rfl trivial (fun _ _ => Or.inr ⟨_, _, rfl⟩)) trivial
  | remove i key order hpc hlock hok =>
    refine cinvar_tx h hlock (st := .txRemove key) hok.2 trivial rfl rfl
      (fun k hk => Or.inl (by rw [hpc, List.mem_singleton.mp hk]; rfl))
      (by split; exact Or.inl rfl; exact Or.inr ⟨_, _, rfl⟩) ?_
    split
    · trivial
    · exact ⟨fun d hd => orphans_dead h hlock (applyStep c.s (.txRemove key)) rfl rfl d (mem_arrange.mp hd), nofun⟩
  | cleanupScan i order hpc hlock =>
    have hl := hlock rfl
    exact cinvar_goto h i _ rfl rfl (Or.inr ⟨_, _, rfl⟩) (hl i)
      ⟨fun d hd => orphans_dead h hl _ rfl rfl d (mem_arrange.mp hd), fun hu => nomatch hu⟩
  | cleanUnmount i d r hpc => exact cinvar_cleanUnmount h hpc
  | cleanRmdir i d r hpc => exact cinvar_cleanRmdir h hpc
  | finish i hpc => exact cinvar_goto h i _ rfl rfl (Or.inl rfl) hpc.1 trivial

theorem cinvar_init (cfg : Config) : CInvar (cinit cfg) := by
  refine ⟨inv_init cfg, ?_, ?_, ?_, fun _ => trivial, ?_, ?_⟩
  · intro a ha; simp [cinit, init] at ha
  · intro i j hi; simp [cinit, PC.holds] at hi
  · intro n hn; simp [cinit, init] at hn
  · intro i j a b _ ha; simp [cinit, PC.owned] at ha
  · intro i j k hk; simp [cinit, PC.ownKey] at hk

theorem cinvar_reachable {cfg : Config} {c : CState} (h : CReach {} cfg c) : CInvar c := by
  induction h with
  | init => exact cinvar_init cfg
  | step _ hs ih => exact cinvar_step ih hs

theorem closed_step {v : Variant} {c c' : CState} (hs : CStep v c c') : c'.s.closed = c.s.closed := by
  cases hs with
  | mount i T sn hpc => cases (c.orc i).mountOk sn.id <;> simp [CState.run, applyStep]
  | cleanUnmount i d r hpc => cases d <;> rfl
  | _ => rfl

theorem closed_reachable {v : Variant} {cfg : Config} {c : CState} (h : CReach v cfg c) : c.s.closed = false := by
  induction h with
  | init => rfl
  | step _ hs ih => rw [closed_step hs]; exact ih

end SV.Snap.Conc
