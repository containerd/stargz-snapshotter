/-
The refcounted LRU of the directory-cache model (C11); this `LRU`/`RC` is the model's own, not C10's `SV.Refcount`.
`LRU.Inv l h` ties the counts to the closures handed out, `LRU.Eff` is all that the object tables see of an
operation; `get_spec`, `dec_spec`, `finalize_spec`, `add_spec` specify the operations.
-/
import SV.Model.ChunkCache

namespace SV.ChunkCache

theorem set_some_iff {α : Type} {l : List α} {i j : Nat} {a b : α} :
    (l.set i a)[j]? = some b ↔ (j = i ∧ i < l.length ∧ a = b) ∨ (j ≠ i ∧ l[j]? = some b) := by
  rw [List.getElem?_set]
  by_cases hij : i = j
  · subst hij
    by_cases hlt : i < l.length
    · simp [hlt]
    · simp [hlt]
  · have : j ≠ i := fun h => hij h.symm
    simp [hij, this]

theorem set_get_ne {α : Type} {l : List α} {i j : Nat} {a : α} (h : j ≠ i) :
    (l.set i a)[j]? = l[j]? := by
  rw [List.getElem?_set, if_neg (fun e => h e.symm)]

theorem lt_of_get_some {α : Type} {l : List α} {i : Nat} {a : α} (h : l[i]? = some a) : i < l.length :=
  (List.getElem?_eq_some_iff.mp h).1

theorem append_some_iff {α : Type} {l : List α} {j : Nat} {a b : α} :
    (l ++ [a])[j]? = some b ↔ l[j]? = some b ∨ (j = l.length ∧ a = b) := by
  rcases Nat.lt_trichotomy j l.length with h | rfl | h
  · rw [List.getElem?_append_left h]
    exact ⟨Or.inl, fun h' => h'.elim id (fun h' => absurd h'.1 (Nat.ne_of_lt h))⟩
  · simp
  · rw [List.getElem?_eq_none (by simp; omega), List.getElem?_eq_none (by omega)]
    simp; omega

theorem append_get_old {α : Type} {l : List α} {j : Nat} {a b : α} (h : l[j]? = some b) :
    (l ++ [a])[j]? = some b := append_some_iff.mpr (Or.inl h)

/-- Positive count; under `LRU.Inv` (`alive_of_not_fin`, `alive_of_held`) the `OnEvicted` callback has not run. -/
def RC.alive (r : RC) : Prop := 0 < r.refs

theorem find_some_mem {k i : Nat} : ∀ {o : List (Nat × Nat)}, find k o = some i → (k, i) ∈ o
  | [], h => by simp [find] at h
  | (k', i') :: rest, h => by
    simp only [find] at h
    split at h
    · simp_all
    · exact List.mem_cons_of_mem _ (find_some_mem h)

theorem popLast_eq {α : Type} : ∀ {l l' : List α} {z : α}, popLast l = some (l', z) → l = l' ++ [z]
  | [], _, _, h => by simp [popLast] at h
  | [x], _, _, h => by simp [popLast] at h; obtain ⟨rfl, rfl⟩ := h; rfl
  | x :: y :: t, l', z, h => by
    simp only [popLast] at h
    split at h
    · rename_i l0 z0 heq
      simp at h
      obtain ⟨rfl, rfl⟩ := h
      have := popLast_eq heq
      simp [this]
    · simp at h

/-- `h i` = number of `done` closures of refCounter `i` that were handed out and not yet called. -/
structure LRU.Inv (l : LRU) (h : Nat → Nat) : Prop where
  refs : ∀ (i : Nat) (r : RC), l.rcs[i]? = some r → r.refs = (if r.fin then 0 else 1) + (h i : Int)
  ord : ∀ e ∈ l.order, ∃ r : RC, l.rcs[e.2]? = some r ∧ r.fin = false ∧ r.key = e.1
  nodup : (l.order.map Prod.snd).Nodup
  bound : ∀ j, l.rcs.length ≤ j → h j = 0

/-- What an LRU operation may do to the refCounters: keys and values never change, nothing comes back
to life, and the only counter that dies is the one whose value was handed to `OnEvicted`. -/
structure LRU.Eff (l l' : LRU) (fired : Option Nat) : Prop where
  len : l.rcs.length ≤ l'.rcs.length
  old : ∀ (j : Nat) (r : RC), l.rcs[j]? = some r → ∃ r' : RC, l'.rcs[j]? = some r' ∧ r'.key = r.key ∧
          r'.val = r.val ∧ (r'.alive → r.alive) ∧ (r.alive → ¬ r'.alive → fired = some r.val)
  fired_some : ∀ v, fired = some v →
          ∃ (j : Nat) (r r' : RC), l.rcs[j]? = some r ∧ l'.rcs[j]? = some r' ∧ r.val = v ∧ r.alive ∧ ¬ r'.alive
  cap : l'.cap = l.cap

section Counters

variable {l l' : LRU} {h h' : Nat → Nat} {i : Nat} {r r' : RC} {o' : List (Nat × Nat)}

theorem LRU.Eff.refl (l : LRU) : LRU.Eff l l none :=
  ⟨Nat.le_refl _, fun _ r h => ⟨r, h, rfl, rfl, fun x => x, fun a b => absurd a b⟩,
   fun _ h => by simp at h, rfl⟩

theorem LRU.Inv.congr (hi : l.Inv h) (he : ∀ i, h' i = h i) : l.Inv h' :=
  (funext he : h' = h) ▸ hi

theorem LRU.Inv.alive_of_not_fin (hi : l.Inv h) (hr : l.rcs[i]? = some r) (hf : r.fin = false) : r.alive := by
  have := hi.refs i r hr
  simp [hf] at this
  unfold RC.alive; omega

theorem LRU.Inv.alive_of_held (hi : l.Inv h) (hr : l.rcs[i]? = some r) (hh : 1 ≤ h i) : r.alive := by
  have := hi.refs i r hr
  unfold RC.alive
  split at this <;> omega

theorem LRU.Inv.get_of_held (hi : l.Inv h) (hh : 1 ≤ h i) : ∃ r : RC, l.rcs[i]? = some r ∧ r.alive := by
  have hlt : i < l.rcs.length := by
    false_or_by_contra
    have := hi.bound i (by omega)
    omega
  exact ⟨l.rcs[i], by simp [hlt], hi.alive_of_held (by simp [hlt]) hh⟩

theorem LRU.Inv.set (hi : l.Inv h) {c : Nat} (hr : l.rcs[i]? = some r) (hkey : r'.key = r.key)
    (hrefs : r'.refs = (if r'.fin then 0 else 1) + (h' i : Int)) (hne : ∀ j, j ≠ i → h' j = h j)
    (hsub : ∀ e ∈ o', e ∈ l.order) (hnd : (o'.map Prod.snd).Nodup) (hfin : r'.fin = true → ∀ e ∈ o', e.2 ≠ i) :
    LRU.Inv { cap := c, order := o', rcs := l.rcs.set i r' } h' := by
  have hlt := lt_of_get_some hr
  refine ⟨?_, ?_, hnd, ?_⟩
  · intro j rj hj
    simp only [set_some_iff] at hj
    rcases hj with ⟨rfl, _, rfl⟩ | ⟨hji, hj⟩
    · exact hrefs
    · rw [hne j hji]; exact hi.refs j rj hj
  · intro e he
    obtain ⟨re, hre, hf1, hk1⟩ := hi.ord e (hsub e he)
    by_cases hc : e.2 = i
    · refine ⟨r', by simp only [hc]; exact List.getElem?_set_self hlt, ?_, ?_⟩
      · cases hf : r'.fin
        · rfl
        · exact absurd hc (hfin hf e he)
      · rw [hc, hr] at hre
        cases hre
        rw [hkey]; exact hk1
    · exact ⟨re, by simp only; rw [set_get_ne hc]; exact hre, hf1, hk1⟩
  · intro j hj
    simp only [List.length_set] at hj
    have : j ≠ i := by omega
    rw [hne j this]; exact hi.bound j hj

theorem LRU.Eff.set (hr : l.rcs[i]? = some r) (hkey : r'.key = r.key) (hval : r'.val = r.val) (ha : r.alive) :
    LRU.Eff l { cap := l.cap, order := o', rcs := l.rcs.set i r' } (if r'.refs ≤ 0 then some r.val else none) := by
  have hlt := lt_of_get_some hr
  refine ⟨by simp, ?_, ?_, rfl⟩
  · intro j rj hj
    by_cases hc : j = i
    · subst hc
      rw [hr] at hj; cases hj
      refine ⟨r', List.getElem?_set_self hlt, hkey, hval, fun _ => ha, ?_⟩
      intro _ hn
      unfold RC.alive at hn
      have : r'.refs ≤ 0 := by omega
      simp [this]
    · exact ⟨rj, by simp only; rw [set_get_ne hc]; exact hj, rfl, rfl, fun x => x, fun a b => absurd a b⟩
  · intro v hv
    split at hv
    · rename_i hle
      cases hv
      exact ⟨i, r, r', hr, List.getElem?_set_self hlt, rfl, ha, by unfold RC.alive; omega⟩
    · cases hv

theorem touch_mem {o : List (Nat × Nat)} {k : Nat} (hm : (k, i) ∈ o) : ∀ e, e ∈ touch o k i → e ∈ o := by
  intro e he
  simp only [touch, List.mem_cons, List.mem_filter] at he
  rcases he with rfl | ⟨h, _⟩
  · exact hm
  · exact h

theorem touch_nodup {o : List (Nat × Nat)} {k : Nat} (hn : (o.map Prod.snd).Nodup) :
    ((touch o k i).map Prod.snd).Nodup := by
  simp only [touch, List.map_cons, List.nodup_cons]
  constructor
  · intro hmem
    simp only [List.mem_map, List.mem_filter] at hmem
    obtain ⟨e, ⟨_, hne⟩, rfl⟩ := hmem
    simp at hne
  · exact List.Nodup.sublist (List.Sublist.map _ List.filter_sublist) hn

theorem find_touch {o : List (Nat × Nat)} {k : Nat} : find k (touch o k i) = some i := by
  simp [touch, find]

/-- `l.add k v = (l', i, added, fired)`.  `existing`: the key was cached, counter `i` is returned alive, nothing fires
or is created.  `fresh`: `i` is a new counter for `(k, v)`; `fired`: the value evicted for capacity, if unheld. -/
structure LRU.AddSpec (l : LRU) (k v : Nat) (l' : LRU) (i : Nat) (added : Bool) (fired : Option Nat) : Prop where
  eff : l.Eff l' fired
  existing : added = false → fired = none ∧ l'.rcs.length = l.rcs.length ∧ find k l.order = some i ∧
    ∃ r r' : RC, l.rcs[i]? = some r ∧ l'.rcs[i]? = some r' ∧ r.key = k ∧ r.alive ∧ r'.alive ∧
      r'.val = r.val ∧ r'.key = r.key ∧ find k l'.order = some i
  fresh : added = true → find k l.order = none ∧ i = l.rcs.length ∧ l'.rcs.length = l.rcs.length + 1 ∧
    (∃ r' : RC, l'.rcs[i]? = some r' ∧ r'.key = k ∧ r'.val = v ∧ r'.alive) ∧ find k l'.order = some i

/-- One `done()` or `finalize`, for the new holder count `h'`. -/
structure LRU.DecSpec (l l' : LRU) (h' : Nat → Nat) (fired : Option Nat) : Prop where
  inv : l'.Inv h'
  eff : l.Eff l' fired
  len : l'.rcs.length = l.rcs.length
  order : l'.order = l.order

/-- `Get` behaves as `Add` of a cached key (`v`, the value `Add` would have stored, plays no role).  Here and in
`dec_spec`, `add_spec` the caller says by one equation how the holder count changes. -/
theorem LRU.get_spec {k : Nat} (hi : l.Inv h) (hg : l.get k = some (l', i))
    (hh : ∀ j, h' j = h j + if i = j then 1 else 0) (v : Nat) : l'.Inv h' ∧ l.AddSpec k v l' i false none := by
  unfold LRU.get at hg
  split at hg
  · rename_i i0 hf
    simp only [Option.some.injEq, Prod.mk.injEq] at hg
    obtain ⟨rfl, rfl⟩ := hg
    have hm := find_some_mem hf
    obtain ⟨r, hr, hfin, hkey⟩ := hi.ord _ hm
    simp only at hr hkey
    have halive := hi.alive_of_not_fin hr hfin
    have hlt := lt_of_get_some hr
    have hr0 := hi.refs _ r hr
    simp only [LRU.inc, hr]
    have hal' : RC.alive { r with refs := r.refs + 1 } := by unfold RC.alive at *; simp; omega
    refine ⟨?_, ?_, fun _ => ⟨rfl, by simp, hf, r, _, hr, List.getElem?_set_self hlt, hkey, halive, hal', rfl, rfl,
      find_touch⟩, fun hc => by simp at hc⟩
    · refine hi.set hr rfl ?_ (fun j hj => by simpa [Ne.symm hj] using hh j) (touch_mem hm)
        (touch_nodup hi.nodup) ?_
      · have := hh i0
        simp only [hfin] at hr0 ⊢
        simp at hr0 this ⊢; omega
      · intro hc; simp [hfin] at hc
    · have := LRU.Eff.set (o' := touch l.order k i0) (r' := { r with refs := r.refs + 1 }) hr rfl rfl halive
      have hpos : ¬ (r.refs + 1 ≤ 0) := by unfold RC.alive at halive; omega
      simpa [hpos] using this
  · cases hg

theorem LRU.dec_spec (hi : l.Inv h) (hh : ∀ j, h' j + (if i = j then 1 else 0) = h j) :
    l.DecSpec (l.dec i).1 h' (l.dec i).2 := by
  have hh1 : h' i + 1 = h i := by simpa using hh i
  obtain ⟨r, hr, halive⟩ := hi.get_of_held (i := i) (by omega)
  have hr0 := hi.refs i r hr
  simp only [LRU.dec, hr]
  refine ⟨?_, ?_, by simp, by simp⟩
  · refine hi.set hr rfl ?_ (fun j hj => by simpa [Ne.symm hj] using hh j) (fun _ h => h) hi.nodup ?_
    · simp only; rw [hr0]; omega
    · intro hc e he hei
      obtain ⟨re, hre, hf1, _⟩ := hi.ord e he
      rw [hei, hr] at hre; cases hre
      simp at hc; simp [hc] at hf1
  · exact LRU.Eff.set (o' := l.order) (r' := { r with refs := r.refs - 1 }) hr rfl rfl halive

/-- `finalize` (capacity eviction) needs the evicted counter to be out of the order already. -/
theorem LRU.finalize_spec (hi : l.Inv h) (hout : ∀ e ∈ l.order, e.2 ≠ i) :
    l.DecSpec (l.finalize i).1 h (l.finalize i).2 ∧ ∀ j, j ≠ i → (l.finalize i).1.rcs[j]? = l.rcs[j]? := by
  unfold LRU.finalize
  split
  · rename_i r hr
    have hr0 := hi.refs i r hr
    split
    · exact ⟨⟨hi, LRU.Eff.refl l, rfl, rfl⟩, fun _ _ => rfl⟩
    · rename_i hfin
      simp only [Bool.not_eq_true] at hfin
      have halive : r.alive := hi.alive_of_not_fin hr hfin
      refine ⟨⟨?_, ?_, by simp, rfl⟩, fun j hj => set_get_ne hj⟩
      · refine hi.set hr rfl ?_ (fun _ _ => rfl) (fun _ h => h) hi.nodup (fun _ => hout)
        simp only [hfin] at hr0; simp at hr0 ⊢; omega
      · exact LRU.Eff.set (o' := l.order) (r' := { r with refs := r.refs - 1, fin := true }) hr rfl rfl halive
  · exact ⟨⟨hi, LRU.Eff.refl l, rfl, rfl⟩, fun _ _ => rfl⟩

/-- Appending a fresh refCounter with two references (the cache's and the caller's). -/
theorem LRU.Inv.push (hi : l.Inv h) {k v : Nat} (hh : ∀ j, h' j = h j + if l.rcs.length = j then 1 else 0)
    (hsub : ∀ e ∈ o', e ∈ (k, l.rcs.length) :: l.order) (hnd : (o'.map Prod.snd).Nodup) :
    LRU.Inv { cap := l.cap, order := o', rcs := l.rcs ++ [{ key := k, val := v, refs := 2, fin := false }] } h' := by
  have hh1 : h' l.rcs.length = 1 := by simpa [hi.bound l.rcs.length (Nat.le_refl _)] using hh l.rcs.length
  have hh2 : ∀ j, j ≠ l.rcs.length → h' j = h j := fun j hj => by simpa [Ne.symm hj] using hh j
  refine ⟨?_, ?_, hnd, ?_⟩
  · intro j rj hj
    simp only [append_some_iff] at hj
    rcases hj with hj | ⟨rfl, rfl⟩
    · have hlt := lt_of_get_some hj
      rw [hh2 j (by omega)]; exact hi.refs j rj hj
    · simp [hh1]
  · intro e he
    have := hsub e he
    simp only [List.mem_cons] at this
    rcases this with rfl | hmem
    · exact ⟨_, List.getElem?_concat_length, rfl, rfl⟩
    · obtain ⟨re, hre, hf1, hk1⟩ := hi.ord e hmem
      exact ⟨re, append_get_old hre, hf1, hk1⟩
  · intro j hj
    simp only [List.length_append, List.length_singleton] at hj
    rw [hh2 j (by omega)]; exact hi.bound j (by omega)

theorem LRU.Eff.push {k v : Nat} :
    LRU.Eff l { cap := l.cap, order := o', rcs := l.rcs ++ [{ key := k, val := v, refs := 2, fin := false }] } none :=
  ⟨by simp, fun _ r h => ⟨r, append_get_old h, rfl, rfl, fun x => x, fun a b => absurd a b⟩,
   fun _ h => by simp at h, rfl⟩

theorem LRU.Eff.push_then {k v : Nat} {l3 : LRU} {f : Option Nat}
    (h : LRU.Eff { cap := l.cap, order := o', rcs := l.rcs ++ [{ key := k, val := v, refs := 2, fin := false }] } l3 f)
    (hnew : ∀ r3 : RC, l3.rcs[l.rcs.length]? = some r3 → r3.alive) : LRU.Eff l l3 f := by
  refine ⟨Nat.le_trans (by simp) h.len, fun j r hj => h.old j r (append_get_old hj), ?_, h.cap⟩
  intro x hx
  obtain ⟨j, r2, r3, h2, h3, hval, ha, hn⟩ := h.fired_some x hx
  rw [append_some_iff] at h2
  rcases h2 with h2 | ⟨rfl, _⟩
  · exact ⟨j, r2, r3, h2, h3, hval, ha, hn⟩
  · exact absurd (hnew r3 h3) hn

theorem LRU.Inv.ids_lt (hi : l.Inv h) : ∀ e ∈ l.order, e.2 < l.rcs.length := by
  intro e he
  obtain ⟨r, hr, _, _⟩ := hi.ord e he
  exact lt_of_get_some hr

theorem LRU.Inv.fresh_not_mem (hi : l.Inv h) {o : List (Nat × Nat)} (hsub : ∀ e ∈ o, e ∈ l.order) :
    l.rcs.length ∉ o.map Prod.snd := by
  intro hm
  simp only [List.mem_map] at hm
  obtain ⟨e, he, heq⟩ := hm
  have := hi.ids_lt e (hsub e he)
  omega

theorem popLast_cons {α : Type} {x : α} {t o' : List α} {e : α} (hp : popLast (x :: t) = some (o', e))
    (hne : t ≠ []) : ∃ t', o' = x :: t' ∧ t = t' ++ [e] := by
  cases t with
  | nil => exact absurd rfl hne
  | cons y t2 =>
    simp only [popLast] at hp
    split at hp
    · rename_i l0 z heq
      simp at hp
      obtain ⟨rfl, rfl⟩ := hp
      exact ⟨l0, rfl, popLast_eq heq⟩
    · simp at hp

theorem LRU.fresh_spec {k v : Nat} (hi : l.Inv h) (hfind : find k l.order = none)
    (hh : ∀ j, h' j = h j + if l.rcs.length = j then 1 else 0)
    (hl : l' = { l with order := (k, l.rcs.length) :: l.order,
                        rcs := l.rcs ++ [{ key := k, val := v, refs := 2, fin := false }] }) :
    l'.Inv h' ∧ l.AddSpec k v l' l.rcs.length true none := by
  subst hl
  refine ⟨hi.push hh (fun _ h => h) ?_, LRU.Eff.push, fun hc => by simp at hc,
    fun _ => ⟨hfind, rfl, by simp, ⟨_, List.getElem?_concat_length, rfl, rfl, by unfold RC.alive; simp⟩, by simp [find]⟩⟩
  simp only [List.map_cons, List.nodup_cons]
  exact ⟨hi.fresh_not_mem (fun _ h => h), hi.nodup⟩

theorem LRU.evict_spec {k v : Nat} {t' : List (Nat × Nat)} {e : Nat × Nat} {res : LRU × Option Nat}
    (hi : l.Inv h) (hfind : find k l.order = none) (hh : ∀ j, h' j = h j + if l.rcs.length = j then 1 else 0)
    (ht : l.order = t' ++ [e])
    (hres : res = LRU.finalize { l with order := (k, l.rcs.length) :: t',
                                        rcs := l.rcs ++ [{ key := k, val := v, refs := 2, fin := false }] } e.2) :
    res.1.Inv h' ∧ l.AddSpec k v res.1 l.rcs.length true res.2 := by
  subst hres
  have hsub' : ∀ x ∈ t', x ∈ l.order := fun x hx => by rw [ht]; exact List.mem_append_left _ hx
  have hnd0 := hi.nodup
  rw [ht, List.map_append, List.nodup_append] at hnd0
  have he_lt : e.2 < l.rcs.length := hi.ids_lt e (by rw [ht]; simp)
  have hi2 := hi.push (k := k) (v := v) (o' := (k, l.rcs.length) :: t') hh
    (fun x hx => (List.mem_cons.mp hx).elim (fun h => h ▸ List.mem_cons_self ..)
      (fun h => List.mem_cons_of_mem _ (hsub' x h)))
    (by simp only [List.map_cons, List.nodup_cons]; exact ⟨hi.fresh_not_mem hsub', hnd0.1⟩)
  have hout : ∀ x ∈ (k, l.rcs.length) :: t', x.2 ≠ e.2 := by
    intro x hx
    simp only [List.mem_cons] at hx
    rcases hx with rfl | hx
    · simp; omega
    · exact hnd0.2.2 x.2 (List.mem_map.mpr ⟨x, hx, rfl⟩) e.2 (by simp)
  obtain ⟨hf, f5⟩ := LRU.finalize_spec (i := e.2) hi2 hout
  refine ⟨hf.inv, ⟨hf.eff.push_then ?_, fun hc => by simp at hc,
    fun _ => ⟨hfind, rfl, ?_, ?_, by rw [hf.order]; simp [find]⟩⟩⟩
  · intro r3 h3
    rw [f5 _ (by omega), List.getElem?_concat_length] at h3
    cases h3; simp [RC.alive]
  · rw [hf.len]; simp
  · refine ⟨{ key := k, val := v, refs := 2, fin := false }, ?_, rfl, rfl, by unfold RC.alive; simp⟩
    rw [f5 _ (by omega)]; exact List.getElem?_concat_length

theorem LRU.add_spec {k v : Nat} {added : Bool} {fired : Option Nat} (hi : l.Inv h)
    (ha : l.add k v = (l', i, added, fired)) (hh : ∀ j, h' j = h j + if i = j then 1 else 0) :
    l'.Inv h' ∧ l.AddSpec k v l' i added fired := by
  unfold LRU.add at ha
  split at ha
  · rename_i l0 i0 hg
    simp only [Prod.mk.injEq] at ha
    obtain ⟨rfl, rfl, rfl, rfl⟩ := ha
    exact LRU.get_spec hi hg hh v
  · rename_i hg
    have hfind : find k l.order = none := by
      unfold LRU.get at hg
      split at hg
      · cases hg
      · assumption
    simp only at ha
    split at ha
    · rename_i hcap
      split at ha
      · rename_i o' e hp
        simp only [Prod.mk.injEq] at ha
        obtain ⟨rfl, rfl, rfl, rfl⟩ := ha
        obtain ⟨t', rfl, ht⟩ := popLast_cons hp (fun hc => by simp [hc] at hcap)
        exact LRU.evict_spec hi hfind hh ht rfl
      · simp only [Prod.mk.injEq] at ha
        obtain ⟨rfl, rfl, rfl, rfl⟩ := ha
        exact LRU.fresh_spec hi hfind hh rfl
    · simp only [Prod.mk.injEq] at ha
      obtain ⟨rfl, rfl, rfl, rfl⟩ := ha
      exact LRU.fresh_spec hi hfind hh rfl

end Counters

end SV.ChunkCache
