/-
`view` contains no keys: trees that agree node by node up to an injective renaming `g` of keys (`TreesAgree`) have
the same listing (`listing_agree`) and view (`view_agree`) and resolve names alike (`walk_agree`).
-/
import SV.Lemmas.TocNames

namespace SV.Toc.R

def mapPK (g : Key → Key) (pk : Path × Key) : Path × Key := (pk.1, g pk.2)

/-- what `view` looks at in a node -/
structure NodeAgree (g : Key → Key) (n1 n2 : Node) : Prop where
  ok1 : n1.ok = true
  ok2 : n2.ok = true
  err1 : n1.kidsErr = false
  err2 : n2.kidsErr = false
  kids : n2.kids = n1.kids.map (mapKV g)
  attr : normalise n1.attr = normalise n2.attr
  mode : n1.attr.mode = n2.attr.mode
  size : n1.attr.size = n2.attr.size
  offset : n1.offset = n2.offset
  openOk : n1.openOk = n2.openOk
  lookup : ∀ x, 0 ≤ x → n1.chunks.lookup x = n2.chunks.lookup x

/-- `C`: the keys of `t1` in play (`MemKey` in `TocSim`); nothing is asked outside it -/
structure TreesAgree (g : Key → Key) (t1 t2 : Tree) (C : Key → Prop) : Prop where
  root : g t1.root = t2.root
  rootC : C t1.root
  node : ∀ k, C k → NodeAgree g (t1.node k) (t2.node (g k))
  closed : ∀ k, C k → ∀ kv, kv ∈ (t1.node k).kids → C kv.2
  inj : ∀ a b, C a → C b → g a = g b → a = b

theorem insertKid_map (g : Key → Key) (kv : String × Key) (l : Kids) :
    insertKid (mapKV g kv) (l.map (mapKV g)) = (insertKid kv l).map (mapKV g) := by
  induction l with
  | nil => rfl
  | cons x xs ih =>
    simp only [List.map_cons, insertKid]
    have : (mapKV g kv).1 = kv.1 := rfl
    have hx : (mapKV g x).1 = x.1 := rfl
    rw [this, hx]
    split
    · rfl
    · simp only [List.map_cons]; rw [ih]

theorem sortKids_map (g : Key → Key) (l : Kids) :
    sortKids (l.map (mapKV g)) = (sortKids l).map (mapKV g) := by
  induction l with
  | nil => rfl
  | cons x xs ih =>
    show insertKid (mapKV g x) (sortKids (xs.map (mapKV g))) = (insertKid x (sortKids xs)).map (mapKV g)
    rw [ih, insertKid_map]

theorem mem_map_inj {g : Key → Key} {C : Key → Prop} (inj : ∀ a b, C a → C b → g a = g b → a = b)
    {k : Key} {seen : List Key} (hk : C k) (hs : ∀ s, s ∈ seen → C s) :
    g k ∈ seen.map g ↔ k ∈ seen := by
  constructor
  · intro h
    obtain ⟨s, hs1, hs2⟩ := List.mem_map.mp h
    rw [← inj s k (hs s hs1) hk hs2]; exact hs1
  · intro h; exact List.mem_map.mpr ⟨k, h, rfl⟩

def listKids (t : Tree) (fuel : Nat) (p : Path) (l : Kids) (acc : List (Path × Key) × List Key) :
    List (Path × Key) × List Key :=
  l.foldl (fun acc bc =>
    let r := listing t fuel (p ++ [bc.1]) bc.2 acc.2
    (acc.1 ++ r.1, r.2)) acc

structure ResAgree (g : Key → Key) (C : Key → Prop) (r1 r2 : List (Path × Key) × List Key) : Prop where
  eq : r2 = (r1.1.map (mapPK g), r1.2.map g)
  paths : ∀ pk, pk ∈ r1.1 → C pk.2
  seen : ∀ s, s ∈ r1.2 → C s

theorem listKids_agree {g : Key → Key} {t1 t2 : Tree} {C : Key → Prop} {fuel : Nat} (p : Path)
    (ih : ∀ (p : Path) (k : Key) (seen : List Key), C k → (∀ s, s ∈ seen → C s) →
      ResAgree g C (listing t1 fuel p k seen) (listing t2 fuel p (g k) (seen.map g))) :
    ∀ (l : Kids) (acc : List (Path × Key) × List Key), (∀ kv, kv ∈ l → C kv.2) →
      (∀ pk, pk ∈ acc.1 → C pk.2) → (∀ s, s ∈ acc.2 → C s) →
      ResAgree g C (listKids t1 fuel p l acc)
        (listKids t2 fuel p (l.map (mapKV g)) (acc.1.map (mapPK g), acc.2.map g)) := by
  unfold listKids
  intro l
  induction l with
  | nil => intro acc _ hacc hacc2; exact ⟨rfl, hacc, hacc2⟩
  | cons x xs ihl =>
    intro acc hl hacc hacc2
    simp only [List.map_cons, List.foldl_cons]
    have hx := ih (p ++ [x.1]) x.2 acc.2 (hl x (by simp)) hacc2
    have e1 : (mapKV g x).1 = x.1 := rfl
    have e2 : (mapKV g x).2 = g x.2 := rfl
    rw [e1, e2, hx.eq]
    have := ihl (acc.1 ++ (listing t1 fuel (p ++ [x.1]) x.2 acc.2).1, (listing t1 fuel (p ++ [x.1]) x.2 acc.2).2)
      (fun kv hkv => hl kv (by simp [hkv]))
      (by
        intro pk hpk
        simp only [List.mem_append] at hpk
        rcases hpk with h | h
        · exact hacc pk h
        · exact hx.paths pk h)
      hx.seen
    simp only [List.map_append] at this
    exact this

theorem listing_agree {g : Key → Key} {t1 t2 : Tree} {C : Key → Prop} (ag : TreesAgree g t1 t2 C) :
    ∀ (fuel : Nat) (p : Path) (k : Key) (seen : List Key), C k → (∀ s, s ∈ seen → C s) →
      ResAgree g C (listing t1 fuel p k seen) (listing t2 fuel p (g k) (seen.map g)) := by
  intro fuel
  induction fuel with
  | zero =>
    intro p k seen hk hseen
    have := ag.node k hk
    simp only [listing, this.ok1, this.ok2, ↓reduceIte]
    exact ⟨rfl, List.forall_mem_singleton.mpr hk, List.forall_mem_cons.mpr ⟨hk, hseen⟩⟩
  | succ fuel ih =>
    intro p k seen hk hseen
    have na := ag.node k hk
    have hmem := mem_map_inj ag.inj hk hseen
    simp only [listing, na.ok1, na.ok2, ↓reduceIte, na.err1, na.err2,
      Bool.false_eq_true]
    by_cases hs : k ∈ seen
    · have hs' : g k ∈ seen.map g := hmem.mpr hs
      simp only [hs, hs', ↓reduceIte]
      exact ⟨rfl, List.forall_mem_singleton.mpr hk, hseen⟩
    · have hs' : ¬ g k ∈ seen.map g := fun h => hs (hmem.mp h)
      simp only [hs, hs', ↓reduceIte]
      rw [na.kids, sortKids_map]
      have hkidsC : ∀ kv, kv ∈ sortKids (t1.node k).kids → C kv.2 :=
        fun kv hkv => ag.closed k hk kv (mem_sortKids.mp hkv)
      have := listKids_agree p ih (sortKids (t1.node k).kids) ([], k :: seen) hkidsC (by intro pk h; cases h)
        (List.forall_mem_cons.mpr ⟨hk, hseen⟩)
      have heq := this.eq
      simp only [listKids, List.map_nil, List.map_cons] at heq
      exact ⟨by rw [heq]; rfl, List.forall_mem_cons.mpr ⟨hk, this.paths⟩, this.seen⟩

theorem firstPathOf_map {g : Key → Key} {C : Key → Prop} (inj : ∀ a b, C a → C b → g a = g b → a = b)
    (k : Key) (hk : C k) : ∀ (l : List (Path × Key)), (∀ pk, pk ∈ l → C pk.2) →
      firstPathOf (l.map (mapPK g)) (g k) = firstPathOf l k := by
  intro l
  induction l with
  | nil => intro _; rfl
  | cons x xs ih =>
    intro hl
    unfold firstPathOf
    simp only [List.map_cons, List.find?_cons]
    have hx : ((mapPK g x).2 = g k) ↔ (x.2 = k) :=
      ⟨fun h => inj _ _ (hl x (by simp)) hk h, fun h => by show g x.2 = g k; rw [h]⟩
    by_cases h : x.2 = k
    · simp [h, mapPK]
    · have h' : ¬ (mapPK g x).2 = g k := fun e => h (hx.mp e)
      simp only [h, h', decide_false]
      have := ih (fun pk hpk => hl pk (by simp [hpk]))
      unfold firstPathOf at this
      exact this

theorem view_agree {g : Key → Key} {t1 t2 : Tree} {C : Key → Prop} (ag : TreesAgree g t1 t2 C) :
    view t1 = view t2 := by
  unfold view
  have hl := listing_agree ag maxDepth [] t1.root [] ag.rootC (by intro s h; cases h)
  rw [← ag.root]
  have hl1 := hl.eq
  simp only [List.map_nil] at hl1
  rw [hl1]
  simp only [List.map_map]
  apply List.map_congr_left
  intro pk hpk
  have hC := hl.paths pk hpk
  have na := ag.node pk.2 hC
  obtain ⟨p, k⟩ := pk
  show nodeView t1 (listing t1 maxDepth [] t1.root []).1 (p, k) =
    nodeView t2 (List.map (mapPK g) (listing t1 maxDepth [] t1.root []).1) (p, g k)
  simp only [nodeView]
  have hfp := firstPathOf_map ag.inj k hC _ hl.paths
  have hls : (sortKids (t1.node k).kids).map (fun kv => (kv.1, typeChar (t1.node kv.2).attr.mode)) =
      (sortKids (t2.node (g k)).kids).map (fun kv => (kv.1, typeChar (t2.node kv.2).attr.mode)) := by
    rw [na.kids, sortKids_map, List.map_map]
    apply List.map_congr_left
    intro kv hkv
    have := ag.node kv.2 (ag.closed k hC kv (mem_sortKids.mp hkv))
    simp only [Function.comp, mapKV]
    rw [this.mode]
  have hemp : (t2.node (g k)).kids.isEmpty = (t1.node k).kids.isEmpty := by
    rw [na.kids]; cases (t1.node k).kids <;> rfl
  have hpr := probes_agree (t1.node k).chunks (t2.node (g k)).chunks (t1.node k).attr.size na.lookup
  rw [hfp, hls, hpr, na.ok1, na.ok2, na.err1, na.err2, na.attr, na.offset, na.openOk, na.mode, hemp, na.size]

theorem getKid_map (g : Key → Key) (b : String) (l : Kids) :
    getKid b (l.map (mapKV g)) = (getKid b l).map g := by
  induction l with
  | nil => rfl
  | cons x xs ih =>
    simp only [List.map_cons, getKid]
    show (if x.1 = b then some (g x.2) else _) = _
    split
    · rfl
    · exact ih

theorem walk_agree {g : Key → Key} {t1 t2 : Tree} {C : Key → Prop} (ag : TreesAgree g t1 t2 C) :
    ∀ (p : Path) (k : Key), C k →
      walkKids (fun k => (t2.node k).kids) (g k) p = (walkKids (fun k => (t1.node k).kids) k p).map g ∧
      ∀ c, walkKids (fun k => (t1.node k).kids) k p = some c → C c := by
  intro p
  induction p with
  | nil => intro k hk; exact ⟨rfl, fun c h => by cases h; exact hk⟩
  | cons b rest ih =>
    intro k hk
    simp only [walkKids]
    rw [(ag.node k hk).kids, getKid_map]
    cases hg : getKid b (t1.node k).kids with
    | none => exact ⟨rfl, fun c h => by cases h⟩
    | some c1 => exact ih c1 (ag.closed k hk (b, c1) (mem_of_getKid hg))

end SV.Toc.R
