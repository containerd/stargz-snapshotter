/-
Lemmas about the snapshotter model (`SV/Model/Snap.lean`).  A step is read record by record (`Stems`); `Inv` is kept
by every step whose side condition `StepOk` holds (`inv_step`, over `MetaInv` on lists); `Good` is what a step of a
call owes in the state it is applied to, and `plan_good` shows it for every step of every plan, after the step lists
the plans are made of (cleanup, `createPlan_ok` with `Created`, the restore loop `RestoreLoop` up to
`restartPlan_ok_state`) have been characterised.  "A live snapshot has its directory" comes in three strengths:
`AllDirs` (open states between calls), `QDirs` (between calls; a closed store may lack the directories of remote
snapshots), `CInv.dirOrRemote` (every small-step state when no call sets the label).
-/
import SV.Model.Snap

namespace SV.Snap

/-! ### metadata records, label maps, directory lists -/

theorem insertSnap_perm (sn : Snap) (l : List Snap) : (insertSnap sn l).Perm (sn :: l) := by
  induction l with
  | nil => simp [insertSnap]
  | cons y ys ih =>
    unfold insertSnap
    split
    · exact List.Perm.refl _
    · exact (List.Perm.cons y ih).trans (List.Perm.swap sn y ys)

theorem mem_insertSnap {sn x : Snap} {l : List Snap} : x ∈ insertSnap sn l ↔ x = sn ∨ x ∈ l := by
  rw [(insertSnap_perm sn l).mem_iff]; simp

theorem findKey_some {l : List Snap} {k : String} {s : Snap} (h : findKey l k = some s) :
    s ∈ l ∧ s.key = k := by
  unfold findKey at h
  have h1 := List.mem_of_find?_eq_some h
  have h2 := List.find?_some h
  simp at h2
  exact ⟨h1, h2⟩

theorem findKey_none {l : List Snap} {k : String} : findKey l k = none ↔ ∀ s ∈ l, s.key ≠ k := by
  unfold findKey; simp

theorem hasKey_false {l : List Snap} {k : String} : hasKey l k = false ↔ ∀ s ∈ l, s.key ≠ k := by
  unfold hasKey
  rw [← findKey_none]
  cases findKey l k <;> simp

theorem hasKey_true {l : List Snap} {k : String} : hasKey l k = true ↔ ∃ s, findKey l k = some s := by
  unfold hasKey
  cases findKey l k <;> simp

theorem mem_removeKey {l : List Snap} {k : String} {x : Snap} :
    x ∈ removeKey l k ↔ x ∈ l ∧ x.key ≠ k := by
  unfold removeKey; simp

theorem findKey_insertSnap_ne {sn : Snap} {l : List Snap} {k : String} (h : k ≠ sn.key) :
    findKey (insertSnap sn l) k = findKey l k := by
  have hk : (sn.key == k) = false := by simp [Ne.symm h]
  induction l with
  | nil => simp [insertSnap, findKey, hk]
  | cons y ys ih =>
    unfold insertSnap
    split
    · simp [findKey, hk]
    · simp only [findKey, List.find?_cons] at ih ⊢
      split
      · rfl
      · exact ih

def committedOf (l : List Snap) : List Snap := l.filter (fun a => a.kind == .committed)

theorem committedOf_insert {sn : Snap} {l : List Snap} (h : sn.kind ≠ .committed) :
    committedOf (insertSnap sn l) = committedOf l := by
  have hk : (sn.kind == Kind.committed) = false := by simp [h]
  induction l with
  | nil => simp [insertSnap, committedOf, hk]
  | cons y ys ih =>
    unfold insertSnap
    split
    · simp [committedOf, List.filter_cons, hk]
    · simp only [committedOf, List.filter_cons] at ih ⊢
      rw [ih]

def relabel (k : String) (lb : Labels) (y : Snap) : Snap := if y.key == k then { y with labels := lb } else y

@[simp] theorem relabel_key (k : String) (lb : Labels) (y : Snap) : (relabel k lb y).key = y.key := by
  unfold relabel; split <;> rfl

@[simp] theorem relabel_id (k : String) (lb : Labels) (y : Snap) : (relabel k lb y).id = y.id := by
  unfold relabel; split <;> rfl

@[simp] theorem relabel_kind (k : String) (lb : Labels) (y : Snap) : (relabel k lb y).kind = y.kind := by
  unfold relabel; split <;> rfl

@[simp] theorem relabel_parent (k : String) (lb : Labels) (y : Snap) : (relabel k lb y).parent = y.parent := by
  unfold relabel; split <;> rfl

theorem mem_updateLabels {l : List Snap} {k : String} {lb : Labels} {x : Snap} :
    x ∈ updateLabels l k lb ↔ ∃ y ∈ l, x = relabel k lb y := by
  simp only [updateLabels, relabel, List.mem_map, eq_comm]

theorem lget_ldel_ne {l : Labels} {k k' : String} (h : k' ≠ k) : lget (ldel l k) k' = lget l k' := by
  induction l with
  | nil => rfl
  | cons p r ih =>
    obtain ⟨a, b⟩ := p
    simp only [ldel, List.filter_cons]
    by_cases hak : a = k
    · subst hak
      simp only [bne_self_eq_false, Bool.false_eq_true, if_false]
      rw [show lget ((a, b) :: r) k' = lget r k' by simp [lget, Ne.symm h]]
      exact ih
    · have : (a != k) = true := by simp [hak]
      simp only [this, if_true, lget]
      split
      · rfl
      · exact ih

theorem isRemote_ldel_ne {l : Labels} {k : String} (h : k ≠ remoteLabel) : isRemote (ldel l k) = isRemote l := by
  simp only [isRemote, lhas, lget_ldel_ne (Ne.symm h)]

theorem isRemote_lset_ne {l : Labels} {k v : String} (h : k ≠ remoteLabel) : isRemote (lset l k v) = isRemote l := by
  simp only [isRemote, lhas, lset, lget, h, if_false, lget_ldel_ne (Ne.symm h)]

theorem isRemote_lset (l : Labels) (v : String) : isRemote (lset l remoteLabel v) = true := by
  simp [isRemote, lhas, lset, lget]

theorem liveDir_id {snaps : List Snap} {n : Nat} : liveDir snaps (.id n) = false ↔ ∀ a ∈ snaps, a.id ≠ n := by
  simp [liveDir]

theorem mem_arrange {order set : List Dir} {d : Dir} : d ∈ arrange order set ↔ d ∈ set := by
  unfold arrange
  simp only [List.mem_append, List.mem_filter, List.contains_eq_mem, decide_eq_true_eq, Bool.not_eq_eq_eq_not,
    Bool.not_true, decide_eq_false_iff_not]
  constructor
  · rintro (⟨_, h⟩ | ⟨h, _⟩) <;> exact h
  · intro h
    by_cases ho : d ∈ order
    · exact Or.inl ⟨ho, h⟩
    · exact Or.inr ⟨h, ho⟩

theorem freshTemp_gt (dirs : List Dir) : ∀ n, Dir.temp n ∈ dirs → n < freshTemp dirs := by
  unfold freshTemp
  suffices h : ∀ (m : Nat) n, (Dir.temp n ∈ dirs ∨ n < m) →
      n < dirs.foldl (fun m d => match d with | .temp n => max m (n + 1) | .id _ => m) m by
    intro n hn; exact h 0 n (Or.inl hn)
  induction dirs with
  | nil => intro m n h; simpa using h
  | cons d r ih =>
    intro m n h
    simp only [List.foldl_cons]
    apply ih
    rcases h with h | h
    · rcases List.mem_cons.mp h with rfl | h
      · right; simp; omega
      · left; exact h
    · right
      cases d <;> simp <;> omega

theorem freshTemp_not_mem (dirs : List Dir) : Dir.temp (freshTemp dirs) ∉ dirs := by
  intro h
  exact Nat.lt_irrefl _ (freshTemp_gt dirs _ h)

/-! ### what a step writes -/

/-- `Stems s st a a'`: the record `a` of `s` is the record `a'` after the step `st`.  With the record `txCreate`
inserts these are all records of the state after a step (`stems_of_mem`). -/
inductive Stems (s : State) : Step → Snap → Snap → Prop
  | same {st : Step} {a : Snap} : Stems s st a a
  | commit {key name : String} {lb : Labels} {a : Snap} : findKey s.snaps key = some a →
      Stems s (.txCommitActive key name lb) a { a with key := name, kind := .committed, labels := lb }
  | update {key : String} {lb : Labels} {a : Snap} : Stems s (.txUpdate key lb) a (relabel key lb a)

theorem Stems.id {s : State} {st : Step} {a a' : Snap} (h : Stems s st a a') : a'.id = a.id := by
  cases h <;> simp

theorem stems_of_mem {s : State} {st : Step} {a' : Snap} (h : a' ∈ (applyStep s st).snaps) :
    st = .txCreate a' ∨ ∃ a ∈ s.snaps, Stems s st a a' := by
  cases st with
  | txCreate sn =>
    rcases mem_insertSnap.mp h with rfl | h
    · exact Or.inl rfl
    · exact Or.inr ⟨a', h, .same⟩
  | txCommitActive key name lb =>
    simp only [applyStep, commitActive] at h
    split at h
    · exact Or.inr ⟨a', h, .same⟩
    · rename_i sn hf
      rcases mem_insertSnap.mp h with rfl | h
      · exact Or.inr ⟨sn, (findKey_some hf).1, .commit hf⟩
      · exact Or.inr ⟨a', (mem_removeKey.mp h).1, .same⟩
  | txRemove key => exact Or.inr ⟨a', (mem_removeKey.mp h).1, .same⟩
  | txUpdate key lb =>
    obtain ⟨y, hy, rfl⟩ := mem_updateLabels.mp h
    exact Or.inr ⟨y, hy, .update⟩
  | fsMount _ _ ok => cases ok <;> exact Or.inr ⟨a', h, .same⟩
  | fsUnmount d _ => cases d <;> exact Or.inr ⟨a', h, .same⟩
  | mkdirId id => simp only [applyStep] at h; split at h <;> exact Or.inr ⟨a', h, .same⟩
  | _ => exact Or.inr ⟨a', h, .same⟩

def Step.isMeta : Step → Bool
  | .txCreate _ => true
  | .txCommitActive _ _ _ => true
  | .txRemove _ => true
  | .txUpdate _ _ => true
  | _ => false

structure SameMeta (s s' : State) : Prop where
  snaps : s'.snaps = s.snaps
  seq : s'.seq = s.seq

theorem applyStep_of_not_meta {s : State} {st : Step} (h : st.isMeta = false) : SameMeta s (applyStep s st) := by
  cases st with
  | txCreate _ => cases h
  | txCommitActive _ _ _ => cases h
  | txRemove _ => cases h
  | txUpdate _ _ => cases h
  | fsMount _ _ ok => cases ok <;> exact ⟨rfl, rfl⟩
  | fsUnmount d _ => cases d <;> exact ⟨rfl, rfl⟩
  | mkdirId id => simp only [applyStep]; split <;> exact ⟨rfl, rfl⟩
  | _ => exact ⟨rfl, rfl⟩

theorem applySteps_of_not_meta {l : List Step} (h : ∀ st ∈ l, st.isMeta = false) (s : State) :
    SameMeta s (applySteps s l) := by
  induction l generalizing s with
  | nil => exact ⟨rfl, rfl⟩
  | cons st r ih =>
    have a := applyStep_of_not_meta (s := s) (h st (List.mem_cons_self ..))
    have b := ih (fun st' hst' => h st' (List.mem_cons_of_mem _ hst')) (applyStep s st)
    exact ⟨b.snaps.trans a.snaps, b.seq.trans a.seq⟩

/-- keys whose records a step modifies or removes -/
def Step.touches : Step → List String
  | .txCommitActive key _ _ => [key]
  | .txRemove key => [key]
  | .txUpdate key _ => [key]
  | _ => []

theorem touches_nil_of_plainMeta {st : Step} (h : st.touches = []) (k : String) : k ∉ st.touches := by
  rw [h]; exact List.not_mem_nil

theorem mem_applyStep_of_untouched {s : State} {st : Step} {a : Snap} (ha : a ∈ s.snaps)
    (hk : a.key ∉ st.touches) : a ∈ (applyStep s st).snaps := by
  by_cases hm : st.isMeta = false
  · rw [(applyStep_of_not_meta hm).snaps]; exact ha
  cases st with
  | txCreate sn => exact mem_insertSnap.mpr (Or.inr ha)
  | txCommitActive key name lb =>
    simp only [Step.touches, List.mem_singleton] at hk
    simp only [applyStep, commitActive]
    split
    · exact ha
    · exact mem_insertSnap.mpr (Or.inr (mem_removeKey.mpr ⟨ha, hk⟩))
  | txRemove key =>
    simp only [Step.touches, List.mem_singleton] at hk
    exact mem_removeKey.mpr ⟨ha, hk⟩
  | txUpdate key lb =>
    simp only [Step.touches, List.mem_singleton] at hk
    exact mem_updateLabels.mpr ⟨a, ha, by simp [relabel, hk]⟩
  | _ => exact absurd rfl hm

/-! ### the invariant `Inv` and the steps that keep it -/

def Distinct (a b : Snap) : Prop := a.key ≠ b.key ∧ a.id ≠ b.id

theorem Distinct.symm {a b : Snap} (h : Distinct a b) : Distinct b a := ⟨Ne.symm h.1, Ne.symm h.2⟩

theorem pairwise_mem {l : List Snap} (h : l.Pairwise Distinct) {a b : Snap} (ha : a ∈ l) (hb : b ∈ l) :
    a = b ∨ Distinct a b := by
  induction l with
  | nil => cases ha
  | cons x xs ih =>
    rw [List.pairwise_cons] at h
    rcases List.mem_cons.mp ha with rfl | ha' <;> rcases List.mem_cons.mp hb with rfl | hb'
    · exact Or.inl rfl
    · exact Or.inr (h.1 b hb')
    · exact Or.inr (h.1 a ha').symm
    · exact ih h.2 ha' hb'

structure Inv (s : State) : Prop where
  keyNe : ∀ a ∈ s.snaps, a.key ≠ ""
  distinct : s.snaps.Pairwise Distinct
  idBound : ∀ a ∈ s.snaps, 1 ≤ a.id ∧ a.id ≤ s.seq
  parentOk : ∀ a ∈ s.snaps, a.parent ≠ "" →
    ∃ p ∈ s.snaps, p.key = a.parent ∧ p.kind = .committed ∧ p.id < a.id
  mountDir : ∀ n ∈ s.mounts, Dir.id n ∈ s.dirs
  mountNodup : s.mounts.Nodup
  mountBound : ∀ n ∈ s.mounts, n ≤ s.seq
  uninit : s.init = false → s.snaps = []

theorem Inv.keyInj {s : State} (h : Inv s) {a b : Snap} (ha : a ∈ s.snaps) (hb : b ∈ s.snaps)
    (hk : a.key = b.key) : a = b := by
  rcases pairwise_mem h.distinct ha hb with e | d
  · exact e
  · exact absurd hk d.1

theorem Inv.idInj {s : State} (h : Inv s) {a b : Snap} (ha : a ∈ s.snaps) (hb : b ∈ s.snaps)
    (hk : a.id = b.id) : a = b := by
  rcases pairwise_mem h.distinct ha hb with e | d
  · exact e
  · exact absurd hk d.2

theorem Inv.findKey_of_mem {s : State} (h : Inv s) {a : Snap} (ha : a ∈ s.snaps) :
    findKey s.snaps a.key = some a := by
  cases hf : findKey s.snaps a.key with
  | none => exact absurd rfl (findKey_none.mp hf a ha)
  | some b =>
    have := findKey_some hf
    rw [h.keyInj this.1 ha this.2]

theorem isRemote_of_remoteDir {s : State} (h : Inv s) {a : Snap} (ha : a ∈ s.snaps)
    (hr : remoteDir s.snaps (.id a.id) = true) : isRemote a.labels = true := by
  simp only [remoteDir, List.any_eq_true, Bool.and_eq_true, beq_iff_eq] at hr
  obtain ⟨b, hb, hbid, hbr⟩ := hr
  rw [← h.idInj hb ha hbid]; exact hbr

theorem applySteps_append (s : State) (a b : List Step) :
    applySteps s (a ++ b) = applySteps (applySteps s a) b := by
  simp [applySteps, List.foldl_append]

theorem applySteps_cons (s : State) (a : Step) (b : List Step) :
    applySteps s (a :: b) = applySteps (applyStep s a) b := rfl

theorem applySteps_nil (s : State) : applySteps s [] = s := rfl

/-- `P` holds of every step of the list, each in the state it is applied to -/
def AllSteps (P : State → Step → Prop) (s : State) : List Step → Prop
  | [] => True
  | st :: r => P s st ∧ AllSteps P (applyStep s st) r

theorem allSteps_append {P : State → Step → Prop} {s : State} {a b : List Step} :
    AllSteps P s (a ++ b) ↔ AllSteps P s a ∧ AllSteps P (applySteps s a) b := by
  induction a generalizing s with
  | nil => simp [AllSteps, applySteps]
  | cons x xs ih => simp only [List.cons_append, AllSteps, applySteps_cons, ih, and_assoc]

theorem allSteps_split {P : State → Step → Prop} {s : State} {pre post : List Step} {st : Step}
    (h : AllSteps P s (pre ++ st :: post)) : P (applySteps s pre) st :=
  (allSteps_append.mp h).2.1

theorem allSteps_take {P : State → Step → Prop} {s : State} {steps : List Step} (h : AllSteps P s steps) (k : Nat) :
    AllSteps P s (steps.take k) := by
  induction steps generalizing s k with
  | nil => simp [AllSteps]
  | cons st r ih =>
    cases k with
    | zero => trivial
    | succ k => exact ⟨h.1, ih h.2 k⟩

theorem AllSteps.imp {P Q : State → Step → Prop} (hpq : ∀ s st, P s st → Q s st) {l : List Step} :
    ∀ {s : State}, AllSteps P s l → AllSteps Q s l := by
  induction l with
  | nil => intro _ _; trivial
  | cons x xs ih => intro s h; exact ⟨hpq _ _ h.1, ih h.2⟩

theorem AllSteps.foldl {Q : State → Step → Prop} {P : State → Prop}
    (hstep : ∀ {s : State}, P s → ∀ {st : Step}, Q s st → P (applyStep s st)) {l : List Step} :
    ∀ {s : State}, P s → AllSteps Q s l → P (applySteps s l) := by
  induction l with
  | nil => intro _ h _; exact h
  | cons st r ih => intro s h hq; exact ih (hstep h hq.1) hq.2

/-- side condition under which a step keeps the invariant; every plan establishes it from the
checks the Go code performs before issuing the step. -/
def StepOk (s : State) : Step → Prop
  | .txCreate sn => sn.key ≠ "" ∧ hasKey s.snaps sn.key = false ∧ sn.id = s.seq + 1 ∧
      (sn.parent ≠ "" → ∃ p ∈ s.snaps, p.key = sn.parent ∧ p.kind = .committed)
  | .fsMount id _ ok => ok = true → Dir.id id ∈ s.dirs ∧ id ∉ s.mounts ∧ id ≤ s.seq
  | .txCommitActive key name _ => name ≠ "" ∧ hasKey s.snaps name = false ∧
      ∃ sn, findKey s.snaps key = some sn ∧ sn.kind = .active
  | .txRemove key => ∀ a ∈ s.snaps, a.parent ≠ key
  | .rmdir d => ∀ n, d = Dir.id n → n ∉ s.mounts
  | _ => True

theorem mem_mkdirId_dirs {s : State} {id : Nat} {d : Dir} :
    d ∈ (applyStep s (.mkdirId id)).dirs ↔ d ∈ s.dirs ∨ d = Dir.id id := by
  simp only [applyStep]
  split
  · rename_i h
    exact ⟨Or.inl, fun h' => h'.elim (fun h' => h') (· ▸ h)⟩
  · simp

theorem mkdirId_mounts (s : State) (id : Nat) : (applyStep s (.mkdirId id)).mounts = s.mounts := by
  simp only [applyStep]; split <;> rfl

theorem mkdirId_closed (s : State) (id : Nat) : (applyStep s (.mkdirId id)).closed = s.closed := by
  simp only [applyStep]; split <;> rfl

theorem dir_kept {s : State} {st : Step} {n : Nat} (h : Dir.id n ∈ s.dirs) (hr : st ≠ .rmdir (.id n)) :
    Dir.id n ∈ (applyStep s st).dirs := by
  cases st with
  | mkTemp t => exact List.mem_append_left _ h
  | rename t id => exact List.mem_append_left _ (List.mem_filter.mpr ⟨h, by simp⟩)
  | rmdir d =>
    refine List.mem_filter.mpr ⟨h, ?_⟩
    simp only [bne_iff_ne, ne_eq]
    exact fun e => hr (e ▸ rfl)
  | mkdirId id => exact mem_mkdirId_dirs.mpr (Or.inl h)
  | fsMount _ _ ok => cases ok <;> exact h
  | fsUnmount d _ => cases d <;> exact h
  | _ => exact h

/-- the part of `Inv` that speaks of the records and the sequence only -/
structure MetaInv (l : List Snap) (q : Nat) : Prop where
  keyNe : ∀ a ∈ l, a.key ≠ ""
  distinct : l.Pairwise Distinct
  idBound : ∀ a ∈ l, 1 ≤ a.id ∧ a.id ≤ q
  parentOk : ∀ a ∈ l, a.parent ≠ "" → ∃ p ∈ l, p.key = a.parent ∧ p.kind = .committed ∧ p.id < a.id

theorem MetaInv.insert {l : List Snap} {q q' : Nat} (h : MetaInv l q) {sn : Snap} (hq : q ≤ q') (hk : sn.key ≠ "")
    (hd : ∀ b ∈ l, Distinct sn b) (hid : 1 ≤ sn.id ∧ sn.id ≤ q')
    (hp : sn.parent ≠ "" → ∃ p ∈ l, p.key = sn.parent ∧ p.kind = .committed ∧ p.id < sn.id) :
    MetaInv (insertSnap sn l) q' where
  keyNe a ha := by
    rcases mem_insertSnap.mp ha with rfl | ha
    · exact hk
    · exact h.keyNe a ha
  distinct := by
    rw [(insertSnap_perm sn l).pairwise_iff Distinct.symm, List.pairwise_cons]
    exact ⟨hd, h.distinct⟩
  idBound a ha := by
    rcases mem_insertSnap.mp ha with rfl | ha
    · exact hid
    · exact ⟨(h.idBound a ha).1, Nat.le_trans (h.idBound a ha).2 hq⟩
  parentOk a ha hpa := by
    have : ∃ p ∈ l, p.key = a.parent ∧ p.kind = .committed ∧ p.id < a.id := by
      rcases mem_insertSnap.mp ha with rfl | ha
      · exact hp hpa
      · exact h.parentOk a ha hpa
    obtain ⟨p, hp1, hp2⟩ := this
    exact ⟨p, mem_insertSnap.mpr (Or.inr hp1), hp2⟩

theorem MetaInv.remove {l : List Snap} {q : Nat} (h : MetaInv l q) {key : String} (hnc : ∀ a ∈ l, a.parent ≠ key) :
    MetaInv (removeKey l key) q where
  keyNe a ha := h.keyNe a (mem_removeKey.mp ha).1
  distinct := h.distinct.filter _
  idBound a ha := h.idBound a (mem_removeKey.mp ha).1
  parentOk a ha hpa := by
    have ha' := (mem_removeKey.mp ha).1
    obtain ⟨p, hp1, hp2, hp3⟩ := h.parentOk a ha' hpa
    exact ⟨p, mem_removeKey.mpr ⟨hp1, hp2 ▸ hnc a ha'⟩, hp2, hp3⟩

theorem MetaInv.update {l : List Snap} {q : Nat} (h : MetaInv l q) (key : String) (lb : Labels) :
    MetaInv (updateLabels l key lb) q where
  keyNe a ha := by
    obtain ⟨y, hy, rfl⟩ := mem_updateLabels.mp ha
    simpa using h.keyNe y hy
  distinct := by
    show (l.map (relabel key lb)).Pairwise Distinct
    rw [List.pairwise_map]
    exact h.distinct.imp fun hab => by simpa [Distinct] using hab
  idBound a ha := by
    obtain ⟨y, hy, rfl⟩ := mem_updateLabels.mp ha
    simpa using h.idBound y hy
  parentOk a ha hpa := by
    obtain ⟨y, hy, rfl⟩ := mem_updateLabels.mp ha
    obtain ⟨p, hp1, hp2⟩ := h.parentOk y hy (by simpa using hpa)
    exact ⟨relabel key lb p, mem_updateLabels.mpr ⟨p, hp1, rfl⟩, by simpa using hp2⟩

/-- `storage.CommitActive`: the active record goes, then comes back committed under the new name with its old id -/
theorem MetaInv.commit {l : List Snap} {q : Nat} (h : MetaInv l q) {key name : String} (lb : Labels) {sn : Snap}
    (hne : name ≠ "") (hnk : hasKey l name = false) (hf : findKey l key = some sn) (hkind : sn.kind = .active) :
    MetaInv (commitActive l key name lb) q := by
  have hsn := findKey_some hf
  -- a parent is committed, so no record has the active `key` as parent
  have nochild : ∀ a ∈ l, a.parent ≠ key := by
    intro a ha hpa
    obtain ⟨p, hp1, hp2, hp3, _⟩ := h.parentOk a ha (by rw [hpa, ← hsn.2]; exact h.keyNe sn hsn.1)
    rcases pairwise_mem h.distinct hp1 hsn.1 with rfl | d
    · rw [hkind] at hp3; cases hp3
    · exact d.1 (by rw [hp2, hpa, hsn.2])
  simp only [commitActive, hf]
  refine (h.remove nochild).insert (Nat.le_refl _) hne (fun b hb => ?_) (h.idBound sn hsn.1) fun hpa => ?_
  · obtain ⟨hb1, hb2⟩ := mem_removeKey.mp hb
    refine ⟨fun e => hasKey_false.mp hnk b hb1 e.symm, fun e => ?_⟩
    rcases pairwise_mem h.distinct hsn.1 hb1 with rfl | d
    · exact hb2 hsn.2
    · exact d.2 e
  · obtain ⟨p, hp1, hp2, hp3⟩ := h.parentOk sn hsn.1 hpa
    exact ⟨p, mem_removeKey.mpr ⟨hp1, hp2 ▸ nochild sn hsn.1⟩, hp2, hp3⟩

theorem Inv.metaInv {s : State} (h : Inv s) : MetaInv s.snaps s.seq := { h with }

theorem Inv.of_meta {s s' : State} (h : Inv s) (m : MetaInv s'.snaps s'.seq) (hm : s'.mounts = s.mounts)
    (hd : s'.dirs = s.dirs) (hq : s.seq ≤ s'.seq) (hi : s'.init = false → s'.snaps = []) : Inv s' :=
  { m with
    mountDir := hm ▸ hd ▸ h.mountDir
    mountNodup := hm ▸ h.mountNodup
    mountBound := fun n hn => Nat.le_trans (h.mountBound n (hm ▸ hn)) hq
    uninit := hi }

theorem inv_step {s : State} (h : Inv s) {st : Step} (hok : StepOk s st) : Inv (applyStep s st) := by
  cases st with
  | mkTemp _ | rename _ _ =>
    exact { h with mountDir := fun n hn => dir_kept (h.mountDir n hn) nofun }
  | txCreate sn =>
    obtain ⟨hk, hn, hid, hp⟩ := hok
    have hle : s.seq ≤ sn.id := by omega
    refine h.of_meta (h.metaInv.insert hle hk (fun b hb => ⟨fun e => hasKey_false.mp hn b hb e.symm, ?_⟩)
      ⟨by omega, Nat.le_refl _⟩ fun hpa => ?_) rfl rfl hle nofun
    · have := (h.idBound b hb).2
      omega
    · obtain ⟨p, hp1, hp2, hp3⟩ := hp hpa
      have := (h.idBound p hp1).2
      exact ⟨p, hp1, hp2, hp3, by omega⟩
  | fsMount id l ok =>
    cases ok with
    | false => simpa [applyStep] using h
    | true =>
      obtain ⟨h1, h2, h3⟩ := hok rfl
      simp only [applyStep, if_true]
      refine { h with mountDir := ?_, mountNodup := ?_, mountBound := ?_ }
      · intro n hn
        rcases List.mem_cons.mp hn with rfl | hn
        · exact h1
        · exact h.mountDir n hn
      · exact List.nodup_cons.mpr ⟨h2, h.mountNodup⟩
      · intro n hn
        rcases List.mem_cons.mp hn with rfl | hn
        · exact h3
        · exact h.mountBound n hn
  | txCommitActive key name lb =>
    obtain ⟨hne, hnk, sn, hf, hkind⟩ := hok
    exact h.of_meta (h.metaInv.commit lb hne hnk hf hkind) rfl rfl (Nat.le_refl _) fun hi =>
      congrArg (commitActive · key name lb) (h.uninit hi)
  | txRemove key =>
    exact h.of_meta (h.metaInv.remove hok) rfl rfl (Nat.le_refl _) fun hi => congrArg (removeKey · key) (h.uninit hi)
  | txUpdate key lb =>
    exact h.of_meta (h.metaInv.update key lb) rfl rfl (Nat.le_refl _) fun hi =>
      congrArg (updateLabels · key lb) (h.uninit hi)
  | fsUnmount d ok =>
    cases d with
    | temp t => simpa [applyStep] using h
    | id n =>
      simp only [applyStep]
      refine { h with mountDir := ?_, mountNodup := ?_, mountBound := ?_ }
      · intro m hm; exact h.mountDir m (List.mem_filter.mp hm).1
      · exact h.mountNodup.filter _
      · intro m hm; exact h.mountBound m (List.mem_filter.mp hm).1
  | rmdir d =>
    refine { h with mountDir := fun n hn => dir_kept (h.mountDir n hn) ?_ }
    intro e
    cases e
    exact hok n rfl hn
  | mkdirId id =>
    simp only [applyStep]
    split
    · exact h
    · exact { h with mountDir := fun n hn => List.mem_append_left _ (h.mountDir n hn) }
  | crash cfg =>
    exact { h with mountDir := fun _ hn => (nomatch hn), mountNodup := List.nodup_nil,
                   mountBound := fun _ hn => (nomatch hn) }
  | _ => exact { h with }

theorem StepOk.id_eq {s : State} {sn : Snap} (h : StepOk s (.txCreate sn)) : sn.id = s.seq + 1 := h.2.2.1

theorem ids_applyStep {s : State} {st : Step} (hok : StepOk s st) :
    s.seq ≤ (applyStep s st).seq ∧
    ∀ a ∈ (applyStep s st).snaps, (∃ b ∈ s.snaps, b.id = a.id) ∨ s.seq < a.id := by
  refine ⟨?_, fun a ha => ?_⟩
  · cases st with
    | txCreate sn => exact Nat.le_of_lt (show s.seq < sn.id from hok.id_eq ▸ Nat.lt_succ_self _)
    | fsMount _ _ ok => cases ok <;> exact Nat.le_refl _
    | fsUnmount d _ => cases d <;> exact Nat.le_refl _
    | mkdirId id => simp only [applyStep]; split <;> exact Nat.le_refl _
    | _ => exact Nat.le_refl _
  · rcases stems_of_mem ha with rfl | ⟨b, hb, hst⟩
    · exact Or.inr (hok.id_eq ▸ Nat.lt_succ_self _)
    · exact Or.inl ⟨b, hb, hst.id.symm⟩

theorem inv_steps {s : State} (h : Inv s) {steps : List Step} (hok : AllSteps StepOk s steps) :
    Inv (applySteps s steps) :=
  AllSteps.foldl inv_step h hok

theorem inv_init (cfg : Config) : Inv (init cfg) := by
  refine ⟨?_, List.Pairwise.nil, ?_, ?_, ?_, List.nodup_nil, ?_, fun _ => rfl⟩ <;>
    intro a ha <;> simp [init] at ha

theorem inv_ofDurable {s : State} (h : Inv s) (cfg : Config) : Inv (ofDurable (crash s) cfg) :=
  inv_step h (st := .crash cfg) trivial

/-! ### what a step of a call owes: `Good` -/

/-- Side conditions about directories (`closing` = the call is `Close`):
an Unmount of an id-named directory is issued only when no live snapshot owns it (or while closing);
a directory is deleted only when no live snapshot owns it (or, while closing, when it belongs to a
remote snapshot); a snapshot record is committed only when its directory exists. -/
def Safe (closing : Bool) (s : State) : Step → Prop
  | .fsUnmount d _ => closing = true ∨ liveDir s.snaps d = false
  | .rmdir d => liveDir s.snaps d = false ∨ (closing = true ∧ remoteDir s.snaps d = true)
  | .txCreate sn => Dir.id sn.id ∈ s.dirs
  | _ => True

def closingOf : Op → Bool
  | .close _ => true
  | _ => false

theorem closingOf_eq_true {op : Op} (h : closingOf op = true) : ∃ order, op = .close order := by
  cases op <;> first | exact ⟨_, rfl⟩ | cases h

/-- the caller does not put the remote label into the labels it supplies -/
def CleanOp : Op → Prop
  | .prepare _ _ l => isRemote l = false
  | .view _ _ l => isRemote l = false
  | .commit _ _ l => isRemote l = false
  | .update _ lk _ => lk ≠ remoteLabel
  | _ => True

def targetOf : Op → Option String
  | .prepare _ _ l => lget l targetLabel
  | _ => none

/-- Side conditions about the remote label: records are created without it, `Update` keeps it as it
is, and it is only ever set by the internal commit of a `Prepare` naming that target, on a snapshot
that carries a live backend mount. -/
def RemoteSafe (tgt : Option String) (s : State) : Step → Prop
  | .txCreate sn => isRemote sn.labels = false
  | .txCommitActive key name lb => isRemote lb = true →
      tgt = some name ∧ ∃ sn, findKey s.snaps key = some sn ∧ sn.id ∈ s.mounts
  | .txUpdate key lb => ∀ sn, findKey s.snaps key = some sn → isRemote lb = isRemote sn.labels
  | _ => True

/-- the keys a call may consume or modify: everything else acknowledged before is untouched at
every instant of the call -/
def consumes : Op → List String
  | .remove k _ => [k]
  | .commit _ k _ => [k]
  | .update k _ _ => [k]
  | _ => []

/-- What a step of the call `op`, planned in state `s0`, owes in the state `s` it is applied to; `fresh`: it touches
only keys the call consumes or keys that did not exist when the call started. -/
structure Good (s0 : State) (op : Op) (s : State) (st : Step) : Prop where
  ok : StepOk s st
  safe : Safe (closingOf op) s st
  remote : CleanOp op → RemoteSafe (targetOf op) s st
  fresh : ∀ k ∈ st.touches, k ∈ consumes op ∨ hasKey s0.snaps k = false

/-- steps that owe nothing -/
def Step.free : Step → Bool
  | .txCreate _ => false
  | .txCommitActive _ _ _ => false
  | .txRemove _ => false
  | .txUpdate _ _ => false
  | .fsUnmount _ _ => false
  | .rmdir _ => false
  | .fsMount _ _ true => false
  | _ => true

/-- the steps of which `Safe` asks nothing; C09 `restore_mounts_with_recorded_labels` is stated with it -/
def Step.isPlain : Step → Bool
  | .fsUnmount _ _ => false
  | .rmdir _ => false
  | .txCreate _ => false
  | _ => true

theorem good_of_free {s0 s : State} {op : Op} {st : Step} (hf : st.free = true) : Good s0 op s st := by
  cases st with
  | fsMount id lb ok =>
    cases ok with
    | false => exact ⟨nofun, trivial, fun _ => trivial, nofun⟩
    | true => cases hf
  | txCreate _ | txCommitActive _ _ _ | txRemove _ | txUpdate _ _ | fsUnmount _ _ | rmdir _ => cases hf
  | _ => exact ⟨trivial, trivial, fun _ => trivial, nofun⟩

theorem allSteps_good_of_free {s0 : State} {op : Op} {l : List Step} (hf : l.all Step.free = true) :
    ∀ {s : State}, AllSteps (Good s0 op) s l := by
  induction l with
  | nil => intro _; trivial
  | cons x xs ih =>
    rw [List.all_cons, Bool.and_eq_true] at hf
    exact ⟨good_of_free hf.1, ih hf.2⟩

theorem good_mount {s0 s : State} {op : Op} {id : Nat} {lb : Labels} {ok : Bool} (hok : StepOk s (.fsMount id lb ok)) :
    Good s0 op s (.fsMount id lb ok) :=
  { ok := hok, safe := trivial, remote := fun _ => trivial, fresh := nofun }

theorem mem_applySteps_of_good {s0 : State} {op : Op} {a : Snap} (ha0 : a ∈ s0.snaps) (hk : a.key ∉ consumes op)
    {l : List Step} {s : State} (hg : AllSteps (Good s0 op) s l) (ha : a ∈ s.snaps) : a ∈ (applySteps s l).snaps := by
  refine AllSteps.foldl (P := fun s => a ∈ s.snaps) (fun ha _ g => mem_applyStep_of_untouched ha fun hmem => ?_) ha hg
  rcases g.fresh _ hmem with h | h
  · exact hk h
  · exact hasKey_false.mp h a ha0 rfl

/-! ### the step lists plans are made of: cleanup, Check calls, createSnapshot -/

theorem cleanupDir_snaps (s : State) (orc : Oracle) (d : Dir) :
    (applySteps s (cleanupDir orc d)).snaps = s.snaps := by
  cases d <;> rfl

/-- what `RemoveAll` owes is also what the Unmount before it owes -/
theorem cleanupDir_good {s0 : State} {op : Op} {s : State} {orc : Oracle} {d : Dir}
    (h : Safe (closingOf op) s (.rmdir d)) : AllSteps (Good s0 op) s (cleanupDir orc d) :=
  ⟨{ ok := trivial, safe := h.elim Or.inr fun hc => Or.inl hc.1, remote := fun _ => trivial, fresh := nofun },
   good_of_free rfl,
   { ok := fun n hn => by subst hn; simp [applyStep]
     safe := by cases d <;> exact h
     remote := fun _ => trivial
     fresh := nofun },
   good_of_free rfl, trivial⟩

theorem cleanupSteps_good {s0 : State} {op : Op} {orc : Oracle} {ds : List Dir} :
    ∀ {s : State}, (∀ d ∈ ds, Safe (closingOf op) s (.rmdir d)) → AllSteps (Good s0 op) s (cleanupSteps orc ds) := by
  induction ds with
  | nil => intro s _; trivial
  | cons d r ih =>
    intro s h
    unfold cleanupSteps
    rw [List.flatMap_cons, allSteps_append]
    refine ⟨cleanupDir_good (h d (List.mem_cons_self ..)), ih ?_⟩
    intro d' hd'
    show Safe _ _ _
    unfold Safe
    rw [cleanupDir_snaps]
    exact h d' (List.mem_cons_of_mem _ hd')

theorem cleanupSteps_snaps (s : State) (orc : Oracle) (ds : List Dir) :
    (applySteps s (cleanupSteps orc ds)).snaps = s.snaps := by
  induction ds generalizing s with
  | nil => rfl
  | cons d r ih =>
    unfold cleanupSteps at ih ⊢
    rw [List.flatMap_cons, applySteps_append, ih, cleanupDir_snaps]

theorem cleanupDir_state (s : State) (orc : Oracle) (d : Dir) :
    (∀ x, x ∈ (applySteps s (cleanupDir orc d)).dirs ↔ x ∈ s.dirs ∧ x ≠ d) ∧
    (∀ n, n ∈ (applySteps s (cleanupDir orc d)).mounts ↔ n ∈ s.mounts ∧ Dir.id n ≠ d) := by
  cases d <;> simp [applySteps, applyStep, cleanupDir]

theorem cleanupSteps_state (orc : Oracle) (ds : List Dir) : ∀ (s : State),
    (∀ x, x ∈ (applySteps s (cleanupSteps orc ds)).dirs ↔ x ∈ s.dirs ∧ x ∉ ds) ∧
    (∀ n, n ∈ (applySteps s (cleanupSteps orc ds)).mounts ↔ n ∈ s.mounts ∧ Dir.id n ∉ ds) := by
  induction ds with
  | nil => intro s; simp [cleanupSteps, applySteps]
  | cons d r ih =>
    intro s
    obtain ⟨a1, a2⟩ := cleanupDir_state s orc d
    obtain ⟨b1, b2⟩ := ih (applySteps s (cleanupDir orc d))
    unfold cleanupSteps at b1 b2 ⊢
    rw [List.flatMap_cons, applySteps_append]
    exact ⟨fun x => by rw [b1, a1, List.mem_cons, not_or, and_assoc],
      fun n => by rw [b2, a2, List.mem_cons, not_or, and_assoc]⟩

theorem orphan_of_mem_arrange {snaps : List Snap} {dirs order : List Dir} {d : Dir}
    (hd : d ∈ arrange order (dirs.filter (fun d => !liveDir snaps d))) : liveDir snaps d = false := by
  simpa using (List.mem_filter.mp (mem_arrange.mp hd)).2

theorem mountsPlan_steps (s : State) (orc : Oracle) (sn : Snap) (pids : List Nat) (ck : String) :
    ∃ l : List Snap, (mountsPlan s orc sn pids ck).1 = l.map (fun c => Step.fsCheck c.id (orc.checkOk c.id)) := by
  unfold mountsPlan
  split
  · exact ⟨[], rfl⟩
  · split
    · exact ⟨[], rfl⟩
    · simp only []
      split <;> exact ⟨_, rfl⟩

theorem mountsPlan_state {s s' : State} {orc : Oracle} {sn : Snap} {pids : List Nat} {ck : String} :
    applySteps s' (mountsPlan s orc sn pids ck).1 = s' := by
  obtain ⟨l, hl⟩ := mountsPlan_steps s orc sn pids ck
  rw [hl]
  exact l.rec rfl fun _ _ ih => ih

theorem mountsPlan_good {s0 : State} {op : Op} {s s' : State} {orc : Oracle} {sn : Snap} {pids : List Nat}
    {ck : String} : AllSteps (Good s0 op) s' (mountsPlan s orc sn pids ck).1 := by
  obtain ⟨l, hl⟩ := mountsPlan_steps s orc sn pids ck
  rw [hl]
  exact allSteps_good_of_free (List.all_eq_true.mpr fun st hst => by obtain ⟨c, _, rfl⟩ := List.mem_map.mp hst; rfl)

theorem parentErr_none {l : List Snap} {parent : String} (h : parentErr l parent = none) :
    parent ≠ "" → ∃ p ∈ l, p.key = parent ∧ p.kind = .committed := by
  intro hp
  unfold parentErr at h
  rw [if_neg hp] at h
  split at h
  · cases h
  · rename_i p hf
    split at h
    · rename_i hk
      exact ⟨p, (findKey_some hf).1, (findKey_some hf).2, hk⟩
    · cases h

/-- what `storage.CreateSnapshot`'s checks establish (`ps` = the parent chain they return) -/
structure ChecksOk (s : State) (key parent : String) (ps : List Snap) : Prop where
  parentOk : parentErr s.snaps parent = none
  keyNe : key ≠ ""
  fresh : hasKey s.snaps key = false
  chain : chainOf s parent = some ps

theorem createChecks_ok {s : State} {key parent : String} {ps : List Snap}
    (h : createChecks s key parent = .ok ps) : ChecksOk s key parent ps := by
  unfold createChecks at h
  split at h
  · cases h
  · rename_i hpe
    split at h
    · cases h
    · rename_i hk
      split at h
      · cases h
      · rename_i hh
        split at h
        · cases h
        · rename_i hc
          cases h
          exact ⟨hpe, hk, by simpa using hh, hc⟩

theorem ChecksOk.stepOk {s : State} {key parent : String} {ps : List Snap} (h : ChecksOk s key parent ps)
    (kind : Kind) (labels : Labels) : StepOk s (.txCreate ⟨key, s.seq + 1, kind, parent, labels⟩) :=
  ⟨h.keyNe, h.fresh, rfl, parentErr_none h.parentOk⟩

theorem createPlan_good {s : State} (h : Inv s) (orc : Oracle) (kind : Kind) (key parent : String) (labels : Labels)
    {s0 : State} {op : Op} (hl : CleanOp op → isRemote labels = false) :
    AllSteps (Good s0 op) s (createPlan s orc kind key parent labels).1 := by
  unfold createPlan
  simp only []
  split
  · exact ⟨good_of_free rfl, good_of_free rfl, cleanupDir_good (Or.inl rfl)⟩
  · rename_i ps hc
    split
    · exact ⟨good_of_free rfl, good_of_free rfl, good_of_free rfl, cleanupDir_good (Or.inl rfl)⟩
    · split
      · refine ⟨good_of_free rfl, good_of_free rfl, good_of_free rfl,
          allSteps_append.mpr ⟨cleanupDir_good (Or.inl rfl), cleanupDir_good (Or.inl ?_)⟩⟩
        -- ids of live snapshots are at most the sequence, so none owns directory `seq + 1`
        rw [cleanupDir_snaps, liveDir_id]
        intro a ha e
        have := (h.idBound a ha).2
        omega
      · exact (allSteps_append (a := [.mkTemp _, .marker _, .marker _, .rename _ _, .marker _])).mpr
          ⟨allSteps_good_of_free rfl,
           { ok := (createChecks_ok hc).stepOk kind labels
             safe := by simp [Safe, applySteps, applyStep]
             remote := hl
             fresh := nofun },
           good_of_free rfl, trivial⟩

/-- what a successful `createSnapshot` with steps `st` establishes (`ps` = the parent chain) -/
structure Created (s : State) (kind : Kind) (key parent : String) (labels : Labels) (st : List Step) (sn : Snap)
    (pids : List Nat) (ps : List Snap) : Prop where
  checks : createChecks s key parent = .ok ps
  pids_eq : pids = ps.map (·.id)
  sn_eq : sn = ⟨key, s.seq + 1, kind, parent, labels⟩
  state_eq : applySteps s st =
    { s with init := true, snaps := insertSnap sn s.snaps, seq := s.seq + 1,
             dirs := (s.dirs ++ [Dir.temp (freshTemp s.dirs)]).filter (fun d => d != Dir.temp (freshTemp s.dirs))
                       ++ [Dir.id (s.seq + 1)] }

theorem createPlan_ok {s : State} {orc : Oracle} {kind : Kind} {key parent : String} {labels : Labels}
    {st : List Step} {sn : Snap} {pids : List Nat}
    (h : createPlan s orc kind key parent labels = (st, .ok (sn, pids))) :
    ∃ ps, Created s kind key parent labels st sn pids ps := by
  unfold createPlan at h
  simp only [] at h
  split at h
  · cases h
  · rename_i ps hc
    split at h
    · cases h
    · split at h
      · cases h
      · simp only [Prod.mk.injEq, Except.ok.injEq] at h
        obtain ⟨rfl, rfl, rfl⟩ := h
        exact ⟨ps, hc, rfl, rfl, rfl⟩

theorem createChecks_err_exists {s : State} {key parent : String}
    (h : createChecks s key parent = .error .exists) : hasKey s.snaps key = true := by
  unfold createChecks at h
  split at h
  · rename_i e hpe
    simp only [Except.error.injEq] at h
    subst h
    unfold parentErr at hpe
    split at hpe
    · cases hpe
    · split at hpe
      · cases hpe
      · split at hpe <;> cases hpe
  · split at h
    · cases h
    · split at h
      · assumption
      · split at h <;> cases h

theorem createPlan_err {s : State} {orc : Oracle} {kind : Kind} {key parent : String} {labels : Labels}
    {st : List Step} {e : Err} (h : createPlan s orc kind key parent labels = (st, .error e)) :
    (applySteps s st).snaps = s.snaps ∧ (e = .exists → hasKey s.snaps key = true) := by
  unfold createPlan at h
  simp only [] at h
  split at h
  · rename_i e' hc
    cases h
    exact ⟨rfl, fun he => createChecks_err_exists (he ▸ hc)⟩
  · split at h
    · cases h
      exact ⟨rfl, fun he => nomatch he⟩
    · split at h
      · cases h
        exact ⟨rfl, fun he => nomatch he⟩
      · cases h

section
variable {s : State} {kind : Kind} {key parent : String} {labels : Labels} {st : List Step} {sn : Snap}
  {pids : List Nat} {ps : List Snap} (h : Created s kind key parent labels st sn pids ps)
include h

theorem Created.snaps : (applySteps s st).snaps = insertSnap sn s.snaps := by rw [h.state_eq]

theorem Created.mounts : (applySteps s st).mounts = s.mounts := by rw [h.state_eq]

theorem Created.id_eq : sn.id = s.seq + 1 := by rw [h.sn_eq]

theorem Created.dir : Dir.id sn.id ∈ (applySteps s st).dirs := by
  rw [h.state_eq, h.id_eq]; simp

/-- the new id is above the sequence, hence above every mounted id -/
theorem Created.notMounted (hinv : Inv s) : sn.id ∉ s.mounts := fun hm => by
  have := hinv.mountBound sn.id hm
  have := h.id_eq
  omega

end

theorem createPlan_ok_findKey {s : State} (h : Inv s) {orc : Oracle} {kind : Kind} {key parent : String}
    {labels : Labels} {st : List Step} {sn : Snap} {pids : List Nat}
    (hc : createPlan s orc kind key parent labels = (st, .ok (sn, pids))) :
    findKey (applySteps s st).snaps key = some sn := by
  -- only the `ok` fields are used below and they do not depend on the call: take Prepare
  have hok := createPlan_good h orc kind key parent labels (s0 := s) (op := .prepare key parent labels) id
  rw [hc] at hok
  have hinv1 := inv_steps h (hok.imp fun _ _ g => g.ok)
  obtain ⟨_, hcr⟩ := createPlan_ok hc
  have hmem : sn ∈ (applySteps s st).snaps := by rw [hcr.state_eq]; exact mem_insertSnap.mpr (Or.inl rfl)
  have hk : sn.key = key := by rw [hcr.sn_eq]
  rw [← hk]; exact hinv1.findKey_of_mem hmem

/-! ### the restore loop -/

theorem restoreSteps_cons (allow : Bool) (orc : Oracle) (sn : Snap) (rest : List Snap) :
    restoreSteps allow orc (sn :: rest) =
      (.mkdirId sn.id :: .marker "restore.mkdir" :: .mkdirFs sn.id :: .fsMount sn.id sn.labels (orc.mountOk sn.id) ::
        (if orc.mountOk sn.id then .marker "restore.mounted" :: (restoreSteps allow orc rest).1
         else if allow then (restoreSteps allow orc rest).1 else []),
       (orc.mountOk sn.id || allow) && (restoreSteps allow orc rest).2) := by
  rw [restoreSteps]
  cases orc.mountOk sn.id <;> cases allow <;> simp

theorem mem_restoreSteps {allow : Bool} {orc : Oracle} {tasks : List Snap} {st : Step}
    (h : st ∈ (restoreSteps allow orc tasks).1) :
    ∃ t ∈ tasks, st = .mkdirId t.id ∨ st = .mkdirFs t.id ∨ st = .fsMount t.id t.labels (orc.mountOk t.id) ∨
      ∃ m, st = .marker m := by
  induction tasks with
  | nil => cases h
  | cons sn rest ih =>
    have tail : st ∈ (restoreSteps allow orc rest).1 → ∃ t ∈ sn :: rest, st = .mkdirId t.id ∨ st = .mkdirFs t.id ∨
        st = .fsMount t.id t.labels (orc.mountOk t.id) ∨ ∃ m, st = .marker m := by
      intro h'
      obtain ⟨t, ht, h⟩ := ih h'
      exact ⟨t, List.mem_cons_of_mem _ ht, h⟩
    rw [restoreSteps_cons] at h
    simp only [List.mem_cons] at h
    rcases h with rfl | rfl | rfl | rfl | h
    · exact ⟨sn, List.mem_cons_self .., Or.inl rfl⟩
    · exact ⟨sn, List.mem_cons_self .., Or.inr (Or.inr (Or.inr ⟨_, rfl⟩))⟩
    · exact ⟨sn, List.mem_cons_self .., Or.inr (Or.inl rfl)⟩
    · exact ⟨sn, List.mem_cons_self .., Or.inr (Or.inr (Or.inl rfl))⟩
    · split at h
      · rcases List.mem_cons.mp h with rfl | h
        · exact ⟨sn, List.mem_cons_self .., Or.inr (Or.inr (Or.inr ⟨_, rfl⟩))⟩
        · exact tail h
      · split at h
        · exact tail h
        · cases h

theorem restoreSteps_fails_iff (allow : Bool) (orc : Oracle) (tasks : List Snap) :
    (restoreSteps allow orc tasks).2 = false ↔ allow = false ∧ ∃ t ∈ tasks, orc.mountOk t.id = false := by
  induction tasks with
  | nil => simp [restoreSteps]
  | cons sn rest ih =>
    rw [restoreSteps_cons]
    cases allow <;> cases h : orc.mountOk sn.id <;> simp [ih, h]

theorem restoreSteps_mount_steps {allow : Bool} {orc : Oracle} {tasks : List Snap} {id : Nat} {l : Labels} {ok : Bool}
    (h : Step.fsMount id l ok ∈ (restoreSteps allow orc tasks).1) :
    ∃ t ∈ tasks, id = t.id ∧ l = t.labels ∧ ok = orc.mountOk t.id := by
  obtain ⟨t, ht, h | h | h | ⟨m, h⟩⟩ := mem_restoreSteps h
  · cases h
  · cases h
  · cases h
    exact ⟨t, ht, rfl, rfl, rfl⟩
  · cases h

theorem restoreSteps_all_mounted (allow : Bool) (orc : Oracle) (tasks : List Snap)
    (hok : (restoreSteps allow orc tasks).2 = true) :
    ∀ t ∈ tasks, Step.fsMount t.id t.labels (orc.mountOk t.id) ∈ (restoreSteps allow orc tasks).1 := by
  induction tasks with
  | nil => intro t ht; cases ht
  | cons sn rest ih =>
    intro t ht
    rw [restoreSteps_cons] at hok ⊢
    simp only [Bool.and_eq_true, Bool.or_eq_true] at hok
    rcases List.mem_cons.mp ht with rfl | ht
    · simp
    · have := ih hok.2 t ht
      cases hmo : orc.mountOk sn.id <;> simp_all

/-- the state after restore has dealt with one task -/
def restored (s : State) (orc : Oracle) (t : Snap) : State :=
  applySteps s [.mkdirId t.id, .mkdirFs t.id, .fsMount t.id t.labels (orc.mountOk t.id)]

theorem restored_eq (s : State) (orc : Oracle) (t : Snap) :
    restored s orc t =
      { applyStep s (.mkdirId t.id) with
        nofs := (applyStep s (.mkdirId t.id)).nofs.filter (fun m => m != t.id)
        mounts := if orc.mountOk t.id then t.id :: (applyStep s (.mkdirId t.id)).mounts
                  else (applyStep s (.mkdirId t.id)).mounts } := by
  unfold restored
  cases orc.mountOk t.id <;> rfl

theorem restored_seq (s : State) (orc : Oracle) (t : Snap) : (restored s orc t).seq = s.seq := by
  rw [restored_eq]; exact (applyStep_of_not_meta (st := .mkdirId t.id) rfl).seq

theorem restored_closed (s : State) (orc : Oracle) (t : Snap) : (restored s orc t).closed = s.closed := by
  rw [restored_eq]; exact mkdirId_closed s t.id

theorem restored_mounts (s : State) (orc : Oracle) (t : Snap) :
    (restored s orc t).mounts = if orc.mountOk t.id then t.id :: s.mounts else s.mounts := by
  rw [restored_eq, ← mkdirId_mounts s t.id]

theorem mem_restored_dirs {s : State} {orc : Oracle} {t : Snap} {d : Dir} :
    d ∈ (restored s orc t).dirs ↔ d ∈ s.dirs ∨ d = Dir.id t.id := by
  rw [restored_eq]; exact mem_mkdirId_dirs

theorem applySteps_restoreSteps_cons (allow : Bool) (orc : Oracle) (sn : Snap) (rest : List Snap) (s : State) :
    applySteps s (restoreSteps allow orc (sn :: rest)).1 =
      if orc.mountOk sn.id || allow then applySteps (restored s orc sn) (restoreSteps allow orc rest).1
      else restored s orc sn := by
  rw [restoreSteps_cons]
  unfold restored
  cases orc.mountOk sn.id <;> cases allow <;>
    simp only [Bool.or_false, Bool.or_true, Bool.false_eq_true, if_true, if_false] <;> rfl

theorem restoreSteps_good {s0 : State} {op : Op} {allow : Bool} {orc : Oracle} {tasks : List Snap} :
    ∀ {s : State}, tasks.Pairwise Distinct → (∀ t ∈ tasks, t.id ≤ s.seq ∧ t.id ∉ s.mounts) →
      AllSteps (Good s0 op) s (restoreSteps allow orc tasks).1 := by
  induction tasks with
  | nil => intro s _ _; trivial
  | cons sn rest ih =>
    intro s hp hb
    rw [List.pairwise_cons] at hp
    have hsn := hb sn (List.mem_cons_self ..)
    -- the remaining tasks have other ids, so they are still unmounted after this one
    have hrest : AllSteps (Good s0 op) (restored s orc sn) (restoreSteps allow orc rest).1 := by
      refine ih hp.2 (fun t ht => ?_)
      have htb := hb t (List.mem_cons_of_mem _ ht)
      rw [restored_seq, restored_mounts]
      refine ⟨htb.1, fun hmem => ?_⟩
      split at hmem
      · rcases List.mem_cons.mp hmem with e | hmem
        · exact (hp.1 t ht).2 e.symm
        · exact htb.2 hmem
      · exact htb.2 hmem
    rw [restoreSteps_cons]
    refine ⟨good_of_free rfl, good_of_free rfl, good_of_free rfl,
      good_mount fun _ => ⟨mem_mkdirId_dirs.mpr (Or.inr rfl), ?_, ?_⟩, ?_⟩
    · show sn.id ∉ (applyStep s (.mkdirId sn.id)).mounts
      rw [mkdirId_mounts]; exact hsn.2
    · show sn.id ≤ (applyStep s (.mkdirId sn.id)).seq
      rw [(applyStep_of_not_meta rfl).seq]; exact hsn.1
    show AllSteps (Good s0 op) (restored s orc sn) _
    split
    · exact ⟨good_of_free rfl, hrest⟩
    · split
      · exact hrest
      · trivial

/-- what the restore loop over `tasks` has done when it leaves `s'` from `s` with verdict `ok` -/
structure RestoreLoop (orc : Oracle) (tasks : List Snap) (ok : Bool) (s s' : State) : Prop where
  closed : s'.closed = s.closed
  kept : ∀ x ∈ s.dirs, x ∈ s'.dirs
  made : ∀ x ∈ s'.dirs, x ∈ s.dirs ∨ ∃ t ∈ tasks, x = Dir.id t.id
  allMade : ok = true → ∀ t ∈ tasks, Dir.id t.id ∈ s'.dirs
  mounts : ok = true → ∀ n, n ∈ s'.mounts ↔ n ∈ s.mounts ∨ ∃ t ∈ tasks, t.id = n ∧ orc.mountOk t.id = true

theorem restoreSteps_state (allow : Bool) (orc : Oracle) (tasks : List Snap) : ∀ (s : State),
    RestoreLoop orc tasks (restoreSteps allow orc tasks).2 s (applySteps s (restoreSteps allow orc tasks).1) := by
  induction tasks with
  | nil =>
    intro s
    exact ⟨rfl, fun _ h => h, fun _ h => Or.inl h, fun _ _ ht => (nomatch ht), fun _ n => by simp [restoreSteps, applySteps]⟩
  | cons sn rest ih =>
    intro s
    have i := ih (restored s orc sn)
    have hsnd : (restoreSteps allow orc (sn :: rest)).2 =
        ((orc.mountOk sn.id || allow) && (restoreSteps allow orc rest).2) := by rw [restoreSteps_cons]
    rw [applySteps_restoreSteps_cons, hsnd]
    split
    · rename_i hgo
      rw [hgo, Bool.true_and]
      refine ⟨i.closed.trans (restored_closed ..), fun x hx => i.kept x (mem_restored_dirs.mpr (Or.inl hx)), ?_, ?_, ?_⟩
      · intro x hx
        rcases i.made x hx with h | ⟨t, ht, rfl⟩
        · rcases mem_restored_dirs.mp h with h | rfl
          · exact Or.inl h
          · exact Or.inr ⟨sn, List.mem_cons_self .., rfl⟩
        · exact Or.inr ⟨t, List.mem_cons_of_mem _ ht, rfl⟩
      · intro hok t ht
        rcases List.mem_cons.mp ht with rfl | ht
        · exact i.kept _ (mem_restored_dirs.mpr (Or.inr rfl))
        · exact i.allMade hok t ht
      · intro hok n
        rw [i.mounts hok, restored_mounts]
        simp only [List.mem_cons, exists_eq_or_imp]
        cases orc.mountOk sn.id <;> simp [or_assoc, or_left_comm, @eq_comm _ n]
    · rename_i hgo
      refine ⟨restored_closed .., fun x hx => mem_restored_dirs.mpr (Or.inl hx), fun x hx => ?_,
        fun hok => ?_, fun hok => ?_⟩
      · rcases mem_restored_dirs.mp hx with h | rfl
        · exact Or.inl h
        · exact Or.inr ⟨sn, List.mem_cons_self .., rfl⟩
      · simp [hgo] at hok
      · simp [hgo] at hok

/-! ### a start: `restartPlan` on any state, `restore` on a durable image -/

theorem restartPlan_res (s : State) (orc : Oracle) (cfg : Config) :
    (restartPlan s orc cfg).2 =
      if cfg.noRestore || (restoreSteps cfg.allowInvalid orc (remoteOf s.snaps)).2 then .ok else .err .other := by
  unfold restartPlan
  cases cfg.noRestore <;> cases (restoreSteps cfg.allowInvalid orc (remoteOf s.snaps)).2 <;> rfl

theorem restartPlan_good {s : State} (h : Inv s) (orc : Oracle) (cfg : Config) :
    AllSteps (Good s (.restart cfg)) s (restartPlan s orc cfg).1 := by
  have key : AllSteps (Good s (.restart cfg)) (applyStep s (.crash cfg))
      (restoreSteps cfg.allowInvalid orc (remoteOf s.snaps)).1 := by
    refine restoreSteps_good (h.distinct.filter _) fun t ht => ?_
    exact ⟨(h.idBound t (List.mem_filter.mp ht).1).2, fun hm => nomatch hm⟩
  unfold restartPlan
  split
  · exact allSteps_good_of_free rfl
  · split
    · exact ⟨good_of_free rfl, allSteps_append.mpr ⟨key, good_of_free rfl, trivial⟩⟩
    · exact ⟨good_of_free rfl, key⟩

theorem exists_mem_remoteOf {l : List Snap} {P : Snap → Prop} :
    (∃ t ∈ remoteOf l, P t) ↔ ∃ a ∈ l, isRemote a.labels = true ∧ P a := by
  simp only [remoteOf, List.mem_filter, and_assoc]

theorem mem_restartPlan {s : State} {orc : Oracle} {cfg : Config} {st : Step} (h : st ∈ (restartPlan s orc cfg).1) :
    st = .crash cfg ∨ st = .opened ∨ st ∈ (restoreSteps cfg.allowInvalid orc (remoteOf s.snaps)).1 := by
  unfold restartPlan at h
  split at h
  · simp only [List.mem_cons, List.not_mem_nil, or_false] at h
    exact h.imp_right Or.inl
  · split at h
    · simp only [List.mem_cons, List.mem_append, List.not_mem_nil, or_false] at h
      exact h.imp_right Or.symm
    · exact (List.mem_cons.mp h).imp_right Or.inr

theorem mem_restartPlan_of_restore {s : State} {orc : Oracle} {cfg : Config} {st : Step} (hnr : cfg.noRestore = false)
    (h : st ∈ (restoreSteps cfg.allowInvalid orc (remoteOf s.snaps)).1) : st ∈ (restartPlan s orc cfg).1 := by
  unfold restartPlan
  rw [hnr, if_neg Bool.false_ne_true]
  split
  · exact List.mem_cons_of_mem _ (List.mem_append_left _ h)
  · exact List.mem_cons_of_mem _ h

theorem restartPlan_meta (s : State) (orc : Oracle) (cfg : Config) :
    SameMeta s (applySteps s (restartPlan s orc cfg).1) := by
  refine applySteps_of_not_meta (fun st hst => ?_) s
  rcases mem_restartPlan hst with rfl | rfl | h
  · rfl
  · rfl
  · obtain ⟨t, _, rfl | rfl | rfl | ⟨m, rfl⟩⟩ := mem_restoreSteps h <;> rfl

theorem applySteps_restartPlan (s : State) (orc : Oracle) (cfg : Config) :
    applySteps s (restartPlan s orc cfg).1 =
      if cfg.noRestore then applyStep (applyStep s (.crash cfg)) .opened
      else if (restoreSteps cfg.allowInvalid orc (remoteOf s.snaps)).2 then
        applyStep (applySteps (applyStep s (.crash cfg)) (restoreSteps cfg.allowInvalid orc (remoteOf s.snaps)).1) .opened
      else applySteps (applyStep s (.crash cfg)) (restoreSteps cfg.allowInvalid orc (remoteOf s.snaps)).1 := by
  unfold restartPlan
  split
  · rfl
  · split
    · rw [applySteps_cons, applySteps_append]; rfl
    · rfl

/-- the state `s'` after a successful restoring start from `s` -/
structure Restarted (orc : Oracle) (s s' : State) : Prop where
  opened : s'.closed = false
  mounts : ∀ n, n ∈ s'.mounts ↔ ∃ a ∈ s.snaps, isRemote a.labels = true ∧ a.id = n ∧ orc.mountOk n = true
  dirs : ∀ x, x ∈ s'.dirs ↔ x ∈ s.dirs ∨ ∃ a ∈ s.snaps, isRemote a.labels = true ∧ x = Dir.id a.id

theorem restartPlan_ok_state (s : State) (orc : Oracle) (cfg : Config) (hnr : cfg.noRestore = false)
    (hres : (restoreSteps cfg.allowInvalid orc (remoteOf s.snaps)).2 = true) :
    Restarted orc s (applySteps s (restartPlan s orc cfg).1) := by
  have hloop := restoreSteps_state cfg.allowInvalid orc (remoteOf s.snaps) (applyStep s (.crash cfg))
  rw [applySteps_restartPlan, hnr, if_neg Bool.false_ne_true, if_pos hres]
  refine ⟨rfl, fun n => ?_, fun x => ?_⟩
  · rw [← exists_mem_remoteOf]
    refine (hloop.mounts hres n).trans ⟨?_, ?_⟩
    · rintro (hn | ⟨t, ht, rfl, h⟩)
      · cases hn
      · exact ⟨t, ht, rfl, h⟩
    · rintro ⟨t, ht, rfl, h⟩
      exact Or.inr ⟨t, ht, rfl, h⟩
  · rw [← exists_mem_remoteOf]
    refine ⟨hloop.made x, ?_⟩
    rintro (h | ⟨t, ht, rfl⟩)
    · exact hloop.kept x h
    · exact hloop.allMade hres t ht

theorem restore_res (d : Durable) (cfg : Config) (orc : Oracle) :
    (restore d cfg orc).2 =
      if cfg.noRestore || (restoreSteps cfg.allowInvalid orc (remoteOf d.snaps)).2 then .ok else .err .other :=
  restartPlan_res (ofDurable d cfg) orc cfg

theorem restartPlan_ok_restoreSteps {s : State} {cfg : Config} {orc : Oracle} (hnr : cfg.noRestore = false)
    (hok : (restartPlan s orc cfg).2 = .ok) : (restoreSteps cfg.allowInvalid orc (remoteOf s.snaps)).2 = true := by
  rw [restartPlan_res, hnr] at hok
  cases hres : (restoreSteps cfg.allowInvalid orc (remoteOf s.snaps)).2
  · rw [hres] at hok
    cases hok
  · rfl

theorem restore_snaps (d : Durable) (cfg : Config) (orc : Oracle) : (restore d cfg orc).1.snaps = d.snaps :=
  (restartPlan_meta (ofDurable d cfg) orc cfg).snaps

theorem restore_ok_state (d : Durable) (cfg : Config) (orc : Oracle) (hnr : cfg.noRestore = false)
    (hok : (restore d cfg orc).2 = .ok) : Restarted orc (ofDurable d cfg) (restore d cfg orc).1 :=
  restartPlan_ok_state (ofDurable d cfg) orc cfg hnr (restartPlan_ok_restoreSteps hnr hok)

/-! ### every step of every plan is `Good` -/

/-- the six ways `preparePlan` can go, each with the `createPlan` equation it rests on and the step list and result it
yields (`preparePlan_cases`) -/
inductive PrepareCase (s : State) (orc : Oracle) (key parent : String) (labels : Labels) : List Step × Res → Prop
  | createFailed {st1 e} (hc : createPlan s orc .active key parent labels = (st1, .error e)) :
      PrepareCase s orc key parent labels (st1, .err e)
  | noTarget {st1 sn pids}
      (hc : createPlan s orc .active key parent labels = (st1, .ok (sn, pids))) (ht : lget labels targetLabel = none) :
      PrepareCase s orc key parent labels
        (st1 ++ (mountsPlan (applySteps s st1) orc sn pids parent).1, (mountsPlan (applySteps s st1) orc sn pids parent).2)
  | mountFailed {st1 sn pids target}
      (hc : createPlan s orc .active key parent labels = (st1, .ok (sn, pids)))
      (ht : lget labels targetLabel = some target) (hm : orc.mountOk sn.id = false) :
      PrepareCase s orc key parent labels
        (st1 ++ .fsMount sn.id labels false :: (mountsPlan (applySteps s st1) orc sn pids parent).1,
         (mountsPlan (applySteps s st1) orc sn pids parent).2)
  | emptyTarget {st1 sn pids}
      (hc : createPlan s orc .active key parent labels = (st1, .ok (sn, pids)))
      (ht : lget labels targetLabel = some "") (hm : orc.mountOk sn.id = true) :
      PrepareCase s orc key parent labels (st1 ++ [.fsMount sn.id labels true, .marker "prepare.mounted"], .err .other)
  | targetExists {st1 sn pids target}
      (hc : createPlan s orc .active key parent labels = (st1, .ok (sn, pids)))
      (ht : lget labels targetLabel = some target) (hm : orc.mountOk sn.id = true) (hne : target ≠ "")
      (hhas : hasKey (applySteps s st1).snaps target = true) :
      PrepareCase s orc key parent labels
        (st1 ++ [.fsMount sn.id labels true, .marker "prepare.mounted", .marker "prepare.targetcommitted"], .err .exists)
  | internalCommit {st1 sn pids target}
      (hc : createPlan s orc .active key parent labels = (st1, .ok (sn, pids)))
      (ht : lget labels targetLabel = some target) (hm : orc.mountOk sn.id = true) (hne : target ≠ "")
      (hhas : hasKey (applySteps s st1).snaps target = false) :
      PrepareCase s orc key parent labels
        (st1 ++ [.fsMount sn.id labels true, .marker "prepare.mounted", .marker "commit.beforetx",
          .txCommitActive key target (lset labels remoteLabel remoteVal), .marker "prepare.targetcommitted"], .err .exists)

theorem preparePlan_cases (s : State) (orc : Oracle) (key parent : String) (labels : Labels) :
    PrepareCase s orc key parent labels (preparePlan s orc key parent labels) := by
  unfold preparePlan
  split
  · rename_i st1 e hc
    exact .createFailed hc
  · rename_i st1 sn pids hc
    simp only []
    split
    · rename_i ht
      exact .noTarget hc ht
    · rename_i target ht
      split
      · rename_i hm
        split
        · rename_i he
          exact .emptyTarget hc (he ▸ ht) hm
        · rename_i hne
          split
          · rename_i hhas
            simpa only [List.append_assoc, List.cons_append, List.nil_append] using PrepareCase.targetExists hc ht hm hne hhas
          · rename_i hhas
            simpa only [List.append_assoc, List.cons_append, List.nil_append] using
              PrepareCase.internalCommit hc ht hm hne (by simpa using hhas)
      · rename_i hm
        exact .mountFailed hc ht (by simpa using hm)

theorem preparePlan_good {s : State} (h : Inv s) (orc : Oracle) (key parent : String) (labels : Labels) :
    AllSteps (Good s (.prepare key parent labels)) s (preparePlan s orc key parent labels).1 := by
  have hc := createPlan_good h orc .active key parent labels (s0 := s) (op := .prepare key parent labels) id
  -- the backend Mount is on the directory just renamed, whose id is above every mounted one
  have hmount : ∀ {st1 sn pids}, createPlan s orc .active key parent labels = (st1, .ok (sn, pids)) →
      Good s (.prepare key parent labels) (applySteps s st1) (.fsMount sn.id labels true) := fun he => by
    obtain ⟨ps, hcr⟩ := createPlan_ok he
    exact good_mount fun _ => ⟨hcr.dir, hcr.mounts ▸ hcr.notMounted h, by rw [hcr.state_eq, hcr.id_eq]; exact Nat.le_refl _⟩
  have hcase := preparePlan_cases s orc key parent labels
  generalize preparePlan s orc key parent labels = p at hcase ⊢
  cases hcase with
  | createFailed he => rw [he] at hc; exact hc
  | noTarget he => rw [he] at hc; exact allSteps_append.mpr ⟨hc, mountsPlan_good⟩
  | mountFailed he => rw [he] at hc; exact allSteps_append.mpr ⟨hc, good_of_free rfl, mountsPlan_good⟩
  | emptyTarget he => rw [he] at hc; exact allSteps_append.mpr ⟨hc, hmount he, good_of_free rfl, trivial⟩
  | targetExists he =>
    rw [he] at hc
    exact allSteps_append.mpr ⟨hc, hmount he, good_of_free rfl, good_of_free rfl, trivial⟩
  | @internalCommit st1 sn pids target he ht _ hne hhas =>
    rw [he] at hc
    obtain ⟨ps, hcr⟩ := createPlan_ok he
    have hfk := createPlan_ok_findKey h he
    -- Mount and markers leave `snaps` alone: `hfk` and `hhas`, about the state after createSnapshot, speak of
    -- the state the internal commit is applied to as well
    exact allSteps_append.mpr ⟨hc, hmount he, good_of_free rfl, good_of_free rfl,
      { ok := ⟨hne, hhas, sn, hfk, by rw [hcr.sn_eq]⟩
        safe := trivial
        remote := fun _ _ => ⟨ht, sn, hfk, List.mem_cons_self ..⟩
        -- the key consumed by the internal commit is the one this call created
        fresh := fun k hk => Or.inr (List.mem_singleton.mp hk ▸ (createChecks_ok hcr.checks).fresh) },
      good_of_free rfl, trivial⟩

theorem viewPlan_good {s : State} (h : Inv s) (orc : Oracle) (key parent : String) (labels : Labels) :
    AllSteps (Good s (.view key parent labels)) s (viewPlan s orc key parent labels).1 := by
  have hc := createPlan_good h orc .view key parent labels (s0 := s) (op := .view key parent labels) id
  unfold viewPlan
  split
  · rename_i st1 e heq
    rw [heq] at hc; exact hc
  · rename_i st1 sn pids heq
    rw [heq] at hc
    exact allSteps_append.mpr ⟨hc, mountsPlan_good⟩

theorem commitPlan_cases (s : State) (name key : String) (labels : Labels) :
    (∃ e, commitPlan s name key labels = ([], .err e)) ∨
    (commitPlan s name key labels = ([.marker "commit.beforetx", .txCommitActive key name labels], .ok) ∧
      StepOk s (.txCommitActive key name labels)) := by
  generalize hr : commitPlan s name key labels = r
  unfold commitPlan at hr
  split at hr
  · exact Or.inl ⟨_, hr.symm⟩
  · rename_i sn hf
    split at hr
    · exact Or.inl ⟨_, hr.symm⟩
    · split at hr
      · exact Or.inl ⟨_, hr.symm⟩
      · rename_i hne
        split at hr
        · exact Or.inl ⟨_, hr.symm⟩
        · rename_i hhas
          split at hr
          · exact Or.inl ⟨_, hr.symm⟩
          · rename_i hk
            exact Or.inr ⟨hr.symm, hne, by simpa using hhas, sn, hf, by simpa using hk⟩

theorem commitPlan_steps (s : State) (name key : String) (labels : Labels) :
    (commitPlan s name key labels).1 =
      if (commitPlan s name key labels).2 = .ok then [.marker "commit.beforetx", .txCommitActive key name labels] else [] := by
  rcases commitPlan_cases s name key labels with ⟨e, he⟩ | ⟨he, _⟩ <;> rw [he] <;> rfl

theorem removePlan_cases (s : State) (orc : Oracle) (key : String) (order : List Dir) :
    (∃ e, removePlan s orc key order = ([], .err e)) ∨
    (removePlan s orc key order =
        (.txRemove key :: (if s.cfg.asyncRemove then [] else .marker "remove.txcommitted" ::
          cleanupSteps orc (arrange order (s.dirs.filter (fun d => !liveDir (removeKey s.snaps key) d)))), .ok) ∧
      ∀ a ∈ s.snaps, a.parent ≠ key) := by
  unfold removePlan
  split
  · exact Or.inl ⟨_, rfl⟩
  · split
    · exact Or.inl ⟨_, rfl⟩
    · rename_i hany
      refine Or.inr ⟨by split <;> rfl, fun a ha e => hany ?_⟩
      simp only [List.any_eq_true]
      exact ⟨a, ha, by simp [e]⟩

theorem mountsOpPlan_cases (s : State) (orc : Oracle) (key : String) :
    (∃ e, mountsOpPlan s orc key = ([], .err e)) ∨
    ∃ sn ps, mountsOpPlan s orc key = mountsPlan s orc sn (ps.map (·.id)) key ∧
      findKey s.snaps key = some sn ∧ chainOf s sn.parent = some ps := by
  unfold mountsOpPlan
  split
  · exact Or.inl ⟨_, rfl⟩
  · rename_i sn hf
    split
    · exact Or.inl ⟨_, rfl⟩
    · split
      · exact Or.inl ⟨_, rfl⟩
      · rename_i ps hps
        exact Or.inr ⟨sn, ps, rfl, hf, hps⟩

theorem plan_closed {s : State} (hc : s.closed = true) (orc : Oracle) (op : Op) (hnr : ∀ cfg, op ≠ .restart cfg) :
    plan s orc op = ([], .err .other) := by
  cases op with
  | restart cfg => exact absurd rfl (hnr cfg)
  | _ => simp [plan, hc]

theorem plan_good {s : State} (h : Inv s) (orc : Oracle) (op : Op) : AllSteps (Good s op) s (plan s orc op).1 := by
  cases hc : s.closed with
  | true =>
    cases op with
    | restart cfg => exact restartPlan_good h orc cfg
    | _ => rw [plan_closed hc orc _ (by intro _ e; cases e)]; trivial
  | false =>
    cases op <;> simp only [plan, hc, Bool.false_eq_true, if_false]
    case restart cfg => exact restartPlan_good h orc cfg
    case prepare key parent labels => exact preparePlan_good h orc key parent labels
    case view key parent labels => exact viewPlan_good h orc key parent labels
    case commit name key labels =>
      rcases commitPlan_cases s name key labels with ⟨e, he⟩ | ⟨he, hok⟩ <;> rw [he]
      · trivial
      · exact ⟨good_of_free rfl,
          { ok := hok
            safe := trivial
            remote := fun (hcl : isRemote labels = false) hr => by rw [hcl] at hr; cases hr
            fresh := fun k hk => Or.inl hk }, trivial⟩
    case mounts key =>
      rcases mountsOpPlan_cases s orc key with ⟨e, he⟩ | ⟨sn, ps, he, _⟩ <;> rw [he]
      · trivial
      · exact mountsPlan_good
    case remove key order =>
      rcases removePlan_cases s orc key order with ⟨e, he⟩ | ⟨he, hnc⟩ <;> rw [he]
      · trivial
      · refine ⟨{ ok := hnc, safe := trivial, remote := fun _ => trivial, fresh := fun k hk => Or.inl hk }, ?_⟩
        split
        · trivial
        · exact ⟨good_of_free rfl, cleanupSteps_good (fun d hd => Or.inl (orphan_of_mem_arrange hd))⟩
    case cleanup order => exact cleanupSteps_good (fun d hd => Or.inl (orphan_of_mem_arrange hd))
    case walk => split <;> trivial
    case stat key => split <;> trivial
    case update key lk lv =>
      unfold updatePlan
      split
      · trivial
      · rename_i sn hf
        refine ⟨{ ok := trivial, safe := trivial, remote := fun (hlk : lk ≠ remoteLabel) sn' hf' => ?_,
                  fresh := fun k hk => Or.inl hk }, trivial⟩
        rw [hf] at hf'
        cases hf'
        split
        · exact isRemote_ldel_ne hlk
        · exact isRemote_lset_ne hlk
    case close order =>
      unfold closePlan
      refine allSteps_append.mpr ⟨cleanupSteps_good (fun d hd => ?_), allSteps_good_of_free rfl⟩
      exact Or.inr ⟨rfl, (List.mem_filter.mp (mem_arrange.mp hd)).2⟩

theorem plan_stepsOk {s : State} (h : Inv s) (orc : Oracle) (op : Op) : AllSteps StepOk s (plan s orc op).1 :=
  (plan_good h orc op).imp fun _ _ g => g.ok

theorem plan_split {s : State} (h : Inv s) {orc : Oracle} {op : Op} {pre post : List Step} {st : Step}
    (hsplit : (plan s orc op).1 = pre ++ st :: post) : Good s op (applySteps s pre) st :=
  allSteps_split (hsplit ▸ plan_good h orc op)

theorem inv_runOp {s : State} (h : Inv s) (orc : Oracle) (op : Op) : Inv (runOp s orc op).1 :=
  inv_steps h (plan_stepsOk h orc op)

/-- induction along a history: the obligation of a call may use the invariant and that the call is in the history -/
theorem runOps_induct {P : State → Prop} {hist : List (Op × Oracle)}
    (step : ∀ s, ∀ p ∈ hist, Inv s → P s → P (runOp s p.2 p.1).1) : ∀ {s : State}, Inv s → P s → P (runOps s hist) := by
  induction hist with
  | nil => exact fun _ h => h
  | cons x r ih =>
    exact fun hinv h => ih (fun s p hp => step s p (List.mem_cons_of_mem _ hp)) (inv_runOp hinv x.2 x.1)
      (step _ x List.mem_cons_self hinv h)

theorem inv_runOps {s : State} (h : Inv s) (hist : List (Op × Oracle)) : Inv (runOps s hist) :=
  runOps_induct (fun _ p _ hs _ => inv_runOp hs p.2 p.1) h h

theorem inv_hist (cfg0 : Config) (hist : List (Op × Oracle)) : Inv (runOps (init cfg0) hist) :=
  inv_runOps (inv_init cfg0) hist

theorem inv_reachable {cfg0 : Config} {s : State} (h : Reachable cfg0 s) : Inv s := by
  obtain ⟨hist, op, orc, k, rfl⟩ := h
  have hinv := inv_hist cfg0 hist
  exact inv_steps hinv (allSteps_take (plan_stepsOk hinv orc op) k)

/-! ### parent chains and mount lists -/

/-- `ch` is the list of snapshots met by following parent links from key `k` (nearest first). -/
inductive IsChain (snaps : List Snap) : String → List Snap → Prop
  | nil : IsChain snaps "" []
  | cons {k : String} {p : Snap} {rest : List Snap} :
      k ≠ "" → findKey snaps k = some p → IsChain snaps p.parent rest → IsChain snaps k (p :: rest)

theorem chain_isChain {snaps : List Snap} : ∀ (fuel : Nat) (k : String) (ch : List Snap),
    chain snaps fuel k = some ch → IsChain snaps k ch := by
  intro fuel
  induction fuel with
  | zero => intro k ch h; simp [chain] at h
  | succ n ih =>
    intro k ch h
    unfold chain at h
    split at h
    · rename_i hk; cases h; subst hk; exact IsChain.nil
    · rename_i hk
      split at h
      · cases h
      · rename_i p hf
        cases hc : chain snaps n p.parent with
        | none => simp [hc] at h
        | some r =>
          simp [hc] at h
          subst h
          exact IsChain.cons hk hf (ih _ _ hc)

theorem chain_total {s : State} (h : Inv s) : ∀ (fuel : Nat) (k : String),
    ((k = "" ∧ 1 ≤ fuel) ∨ ∃ p, findKey s.snaps k = some p ∧ p.id < fuel) → ∃ ch, chain s.snaps fuel k = some ch := by
  intro fuel
  induction fuel with
  | zero =>
    intro k hk
    rcases hk with ⟨_, h1⟩ | ⟨p, _, h1⟩ <;> omega
  | succ n ih =>
    intro k hk
    unfold chain
    split
    · exact ⟨[], rfl⟩
    · rename_i hne
      rcases hk with ⟨e, _⟩ | ⟨p, hf, hlt⟩
      · exact absurd e hne
      · rw [hf]
        have hp := findKey_some hf
        have hb := h.idBound p hp.1
        have : ∃ ch, chain s.snaps n p.parent = some ch := by
          apply ih
          by_cases hpp : p.parent = ""
          · left; exact ⟨hpp, by omega⟩
          · right
            obtain ⟨q, hq1, hq2, _, hq4⟩ := h.parentOk p hp.1 hpp
            refine ⟨q, ?_, by omega⟩
            rw [← hq2]; exact h.findKey_of_mem hq1
        obtain ⟨ch, hch⟩ := this
        exact ⟨p :: ch, by simp [hch]⟩

theorem chainOf_total {s : State} (h : Inv s) (k : String) (hk : k = "" ∨ hasKey s.snaps k = true) :
    ∃ ch, chainOf s k = some ch ∧ IsChain s.snaps k ch := by
  have : ∃ ch, chain s.snaps (s.seq + 1) k = some ch := by
    apply chain_total h
    rcases hk with e | hk
    · left; exact ⟨e, by omega⟩
    · right
      obtain ⟨p, hf⟩ := hasKey_true.mp hk
      have := (h.idBound p (findKey_some hf).1).2
      exact ⟨p, hf, by omega⟩
  obtain ⟨ch, hch⟩ := this
  exact ⟨ch, hch, chain_isChain _ _ _ hch⟩

theorem mountsPlan_result {s : State} {orc : Oracle} {sn : Snap} {pids : List Nat} {ck : String} {m : MountSpec}
    (h : (mountsPlan s orc sn pids ck).2 = .mounts m) :
    m = mountSpec sn pids ∧
    ∃ ch, chainOf s ck = some ch ∧ ∀ c ∈ ch, isRemote c.labels = true → orc.checkOk c.id = true := by
  unfold mountsPlan at h
  split at h
  · rename_i hck
    simp only [Res.mounts.injEq] at h
    exact ⟨h.symm, [], by simp [hck, chainOf, chain], fun c hc => nomatch hc⟩
  · split at h
    · cases h
    · rename_i ch hch
      simp only [] at h
      split at h
      · rename_i hall
        simp only [Res.mounts.injEq] at h
        refine ⟨h.symm, ch, hch, ?_⟩
        intro c hc hr
        simp only [List.all_eq_true] at hall
        exact hall c (List.mem_filter.mpr ⟨hc, hr⟩)
      · cases h

theorem mountsPlan_res_cases (s : State) (orc : Oracle) (sn : Snap) (pids : List Nat) (ck : String) :
    (∃ m, (mountsPlan s orc sn pids ck).2 = .mounts m) ∨ (mountsPlan s orc sn pids ck).2 = .err .unavailable := by
  unfold mountsPlan
  split
  · exact Or.inl ⟨_, rfl⟩
  · split
    · exact Or.inr rfl
    · simp only []
      split
      · exact Or.inl ⟨_, rfl⟩
      · exact Or.inr rfl

theorem mountSpec_overlay {sn : Snap} {pids : List Nat} {up : Option Nat} {lower : List Nat}
    (h : mountSpec sn pids = .overlay up lower) : lower = pids ∧ pids ≠ [] := by
  unfold mountSpec at h
  split at h
  · cases h
  · split at h
    · simp only [MountSpec.overlay.injEq] at h
      exact ⟨h.2.symm, by simp⟩
    · split at h
      · cases h
      · simp only [MountSpec.overlay.injEq] at h
        exact ⟨h.2.symm, by simp⟩

theorem preparePlan_mounts {s : State} {orc : Oracle} {key parent : String} {labels : Labels} {m : MountSpec}
    (h : (preparePlan s orc key parent labels).2 = .mounts m) :
    ∃ st1 sn pids, createPlan s orc .active key parent labels = (st1, .ok (sn, pids)) ∧
      (mountsPlan (applySteps s st1) orc sn pids parent).2 = .mounts m ∧
      applySteps s (preparePlan s orc key parent labels).1 = applySteps s st1 := by
  have hcase := preparePlan_cases s orc key parent labels
  generalize preparePlan s orc key parent labels = p at hcase h ⊢
  cases hcase with
  | noTarget he => exact ⟨_, _, _, he, h, by rw [applySteps_append, mountsPlan_state]⟩
  | mountFailed he => exact ⟨_, _, _, he, h, by rw [applySteps_append, applySteps_cons]; exact mountsPlan_state⟩
  | _ => cases h

theorem viewPlan_mounts {s : State} {orc : Oracle} {key parent : String} {labels : Labels} {m : MountSpec}
    (h : (viewPlan s orc key parent labels).2 = .mounts m) :
    ∃ st1 sn pids, createPlan s orc .view key parent labels = (st1, .ok (sn, pids)) ∧
      (mountsPlan (applySteps s st1) orc sn pids parent).2 = .mounts m ∧
      applySteps s (viewPlan s orc key parent labels).1 = applySteps s st1 := by
  unfold viewPlan at h ⊢
  split at h
  · cases h
  · rename_i st1 sn pids heq
    rw [heq]
    simp only [] at h ⊢
    exact ⟨st1, sn, pids, rfl, h, by rw [applySteps_append, mountsPlan_state]⟩

theorem plan_res_mounts {s : State} {orc : Oracle} {op : Op} {m : MountSpec} (h : (plan s orc op).2 = .mounts m) :
    s.closed = false ∧ ((∃ k p l, op = .prepare k p l) ∨ (∃ k p l, op = .view k p l) ∨ ∃ k, op = .mounts k) := by
  have hnr : ∀ cfg, op ≠ .restart cfg := by
    rintro cfg rfl
    simp only [plan, restartPlan_res] at h
    split at h <;> cases h
  cases hcl : s.closed with
  | true => rw [plan_closed hcl orc op hnr] at h; cases h
  | false =>
    refine ⟨rfl, ?_⟩
    cases op <;> simp only [plan, hcl, Bool.false_eq_true, if_false] at h
    case prepare k p l => exact Or.inl ⟨k, p, l, rfl⟩
    case view k p l => exact Or.inr (Or.inl ⟨k, p, l, rfl⟩)
    case mounts k => exact Or.inr (Or.inr ⟨k, rfl⟩)
    case commit name key labels =>
      rcases commitPlan_cases s name key labels with ⟨e, he⟩ | ⟨he, _⟩ <;> rw [he] at h <;> cases h
    case remove key order =>
      rcases removePlan_cases s orc key order with ⟨e, he⟩ | ⟨he, _⟩ <;> rw [he] at h <;> cases h
    case cleanup order => cases h
    case walk => split at h <;> cases h
    case stat key => split at h <;> cases h
    case update key lk lv =>
      unfold updatePlan at h
      split at h <;> cases h
    case close order => cases h
    case restart cfg => exact absurd rfl (hnr cfg)

/-- `op` answers with the mount list `m`: `key` is the snapshot asked for, `ck` the key whose chain `mounts()`
checks, `sn` and `pids` the record and the parent ids the list is built from. -/
structure MountsAnswer (s : State) (orc : Oracle) (op : Op) (m : MountSpec) (key ck : String) (sn : Snap)
    (pids : List Nat) : Prop where
  call : (∃ l, op = .prepare key ck l) ∨ (∃ l, op = .view key ck l) ∨ (op = .mounts key ∧ ck = key)
  answer : (mountsPlan (runOp s orc op).1 orc sn pids ck).2 = .mounts m
  record : Inv s → findKey (runOp s orc op).1.snaps key = some sn ∧
    ∃ ps, chainOf s sn.parent = some ps ∧ pids = ps.map (·.id)

theorem runOp_mounts {s : State} {orc : Oracle} {op : Op} {m : MountSpec} (h : (runOp s orc op).2 = .mounts m) :
    ∃ key ck sn pids, MountsAnswer s orc op m key ck sn pids := by
  have created : ∀ {kind k p l st1 sn pids}, createPlan s orc kind k p l = (st1, .ok (sn, pids)) →
      Inv s → findKey (applySteps s st1).snaps k = some sn ∧ ∃ ps, chainOf s sn.parent = some ps ∧ pids = ps.map (·.id) :=
    fun hc hinv => by
      obtain ⟨ps, hcr⟩ := createPlan_ok hc
      exact ⟨createPlan_ok_findKey hinv hc, ps, by rw [hcr.sn_eq]; exact (createChecks_ok hcr.checks).chain, hcr.pids_eq⟩
  unfold runOp at h
  obtain ⟨hcl, ⟨k, p, l, rfl⟩ | ⟨k, p, l, rfl⟩ | ⟨k, rfl⟩⟩ := plan_res_mounts h <;>
    simp only [plan, hcl, Bool.false_eq_true, if_false] at h
  · obtain ⟨st1, sn, pids, hc, hm, hst⟩ := preparePlan_mounts h
    have e : (runOp s orc (.prepare k p l)).1 = applySteps s st1 := by
      simp only [runOp, plan, hcl, Bool.false_eq_true, if_false]; exact hst
    exact ⟨k, p, sn, pids, Or.inl ⟨l, rfl⟩, e ▸ hm, fun hinv => e ▸ created hc hinv⟩
  · obtain ⟨st1, sn, pids, hc, hm, hst⟩ := viewPlan_mounts h
    have e : (runOp s orc (.view k p l)).1 = applySteps s st1 := by
      simp only [runOp, plan, hcl, Bool.false_eq_true, if_false]; exact hst
    exact ⟨k, p, sn, pids, Or.inr (Or.inl ⟨l, rfl⟩), e ▸ hm, fun hinv => e ▸ created hc hinv⟩
  · rcases mountsOpPlan_cases s orc k with ⟨e, he⟩ | ⟨sn, ps, he, hf, hps⟩ <;> rw [he] at h
    · cases h
    · have e : (runOp s orc (.mounts k)).1 = s := by
        simp only [runOp, plan, hcl, Bool.false_eq_true, if_false, he]; exact mountsPlan_state
      exact ⟨k, k, sn, _, Or.inr (Or.inr ⟨rfl, rfl⟩), by rw [e]; exact h, fun _ => ⟨by rw [e]; exact hf, ps, hps, rfl⟩⟩

/-! ### live snapshots and their directories -/

def AllDirs (s : State) : Prop := ∀ a ∈ s.snaps, Dir.id a.id ∈ s.dirs

theorem allDirs_step {s : State} (h : AllDirs s) {st : Step} (hs : Safe false s st) : AllDirs (applyStep s st) := by
  intro a' ha'
  rcases stems_of_mem ha' with rfl | ⟨a, ha, hst⟩
  · exact hs
  · rw [hst.id]
    refine dir_kept (h a ha) ?_
    rintro rfl
    rcases hs with hl | ⟨hc, _⟩
    · exact liveDir_id.mp hl a ha rfl
    · cases hc

theorem cleanup_exact_of_allDirs (s : State) (hopen : s.closed = false) (had : AllDirs s) (orc : Oracle) (order : List Dir) :
    (runOp s orc (.cleanup order)).2 = .ok ∧
    ∀ d, d ∈ (runOp s orc (.cleanup order)).1.dirs ↔ ∃ a ∈ (runOp s orc (.cleanup order)).1.snaps, d = Dir.id a.id := by
  simp only [runOp, plan, hopen, Bool.false_eq_true, if_false, cleanupPlan]
  refine ⟨trivial, ?_⟩
  intro d
  rw [(cleanupSteps_state _ _ _).1, cleanupSteps_snaps, mem_arrange]
  constructor
  · rintro ⟨hd, hnot⟩
    have hl : liveDir s.snaps d = true := by
      cases hld : liveDir s.snaps d with
      | true => rfl
      | false => exact absurd (List.mem_filter.mpr ⟨hd, by simp [hld]⟩) hnot
    cases d with
    | temp t => simp [liveDir] at hl
    | id n =>
      simp only [liveDir, List.any_eq_true, beq_iff_eq] at hl
      obtain ⟨a, ha, rfl⟩ := hl
      exact ⟨a, ha, rfl⟩
  · rintro ⟨a, ha, rfl⟩
    refine ⟨had a ha, ?_⟩
    intro hm
    exact liveDir_id.mp (by simpa using (List.mem_filter.mp hm).2) a ha rfl

/-- quiescent invariant: a live snapshot lacks its directory only if it is remote and the
snapshotter is closed (Close deletes the directories of remote snapshots, restore recreates them) -/
def QDirs (s : State) : Prop :=
  ∀ a ∈ s.snaps, Dir.id a.id ∈ s.dirs ∨ (isRemote a.labels = true ∧ s.closed = true)

theorem QDirs.allDirs {s : State} (hq : QDirs s) (hopen : s.closed = false) : AllDirs s := fun a ha =>
  (hq a ha).elim id fun h => by rw [hopen] at h; cases h.2

theorem qdirs_runOp {s : State} (hinv : Inv s) (hq : QDirs s) (orc : Oracle) (op : Op)
    (hres : ∀ cfg, op = .restart cfg → cfg.noRestore = false) : QDirs (runOp s orc op).1 := by
  unfold runOp
  by_cases hrs : ∃ cfg, op = .restart cfg
  · obtain ⟨cfg, rfl⟩ := hrs
    have hnr := hres cfg rfl
    intro a ha
    have ha' : a ∈ s.snaps := (restartPlan_meta s orc cfg).snaps ▸ ha
    cases hok : (restoreSteps cfg.allowInvalid orc (remoteOf s.snaps)).2 with
    | true =>
      refine Or.inl (((restartPlan_ok_state s orc cfg hnr hok).dirs _).mpr ?_)
      exact (hq a ha').imp_right fun hr => ⟨a, ha', hr.1, rfl⟩
    | false =>
      -- a failed start leaves the store closed and loses no directory
      have hloop := restoreSteps_state cfg.allowInvalid orc (remoteOf s.snaps) (applyStep s (.crash cfg))
      show _ ∈ (applySteps s (restartPlan s orc cfg).1).dirs ∨ _ ∧ (applySteps s (restartPlan s orc cfg).1).closed = true
      rw [applySteps_restartPlan, hnr, if_neg Bool.false_ne_true, hok, if_neg Bool.false_ne_true]
      exact (hq a ha').imp (hloop.kept _) fun hr => ⟨hr.1, hloop.closed⟩
  · have hnr : ∀ cfg, op ≠ .restart cfg := fun cfg e => hrs ⟨cfg, e⟩
    by_cases hcl : s.closed = true
    · rw [plan_closed hcl orc op hnr]; exact hq
    · have hopen : s.closed = false := by simpa using hcl
      have had := hq.allDirs hopen
      by_cases hclose : ∃ order, op = .close order
      · obtain ⟨order, rfl⟩ := hclose
        simp only [plan, hopen, Bool.false_eq_true, if_false, closePlan, applySteps_append]
        intro a ha
        have ha' : a ∈ s.snaps := cleanupSteps_snaps s orc _ ▸ ha
        by_cases hin : Dir.id a.id ∈ arrange order (s.dirs.filter (fun d => remoteDir s.snaps d))
        · exact Or.inr ⟨isRemote_of_remoteDir hinv ha' (List.mem_filter.mp (mem_arrange.mp hin)).2, rfl⟩
        · left
          show Dir.id a.id ∈ (applySteps s (cleanupSteps orc _)).dirs
          exact ((cleanupSteps_state _ _ _).1 _).mpr ⟨had a ha', hin⟩
      · have hs := (plan_good hinv orc op).imp fun _ _ g => g.safe
        have hc : closingOf op = false := by cases op <;> first | rfl | exact absurd ⟨_, rfl⟩ hclose
        rw [hc] at hs
        have := AllSteps.foldl allDirs_step had hs
        intro a ha
        exact Or.inl (this a ha)

/-- every restart in the history restores (NoRestore is off) -/
def RestoreOn (hist : List (Op × Oracle)) : Prop := ∀ p ∈ hist, ∀ cfg, p.1 = .restart cfg → cfg.noRestore = false

theorem qdirs_runOps {s : State} (hinv : Inv s) (hq : QDirs s) (hist : List (Op × Oracle)) (hro : RestoreOn hist) :
    QDirs (runOps s hist) :=
  runOps_induct (fun _ p hp hs hq => qdirs_runOp hs hq p.2 p.1 (hro p hp)) hinv hq

theorem qdirs_init (cfg : Config) : QDirs (init cfg) := by
  intro a ha; simp [init] at ha

/-! ### the remote label -/

theorem isRemote_relabel {s : State} (hinv : Inv s) {tgt : Option String} {key : String} {lb : Labels}
    (hr : RemoteSafe tgt s (.txUpdate key lb)) {y : Snap} (hy : y ∈ s.snaps) :
    isRemote (relabel key lb y).labels = isRemote y.labels := by
  unfold relabel
  split
  · rename_i hk
    exact hr y (by rw [← beq_iff_eq.mp hk]; exact hinv.findKey_of_mem hy)
  · rfl

theorem remote_origin {s : State} (hinv : Inv s) {st : Step} {tgt : Option String} (hr : RemoteSafe tgt s st)
    {a' : Snap} (ha' : a' ∈ (applyStep s st).snaps) (har : isRemote a'.labels = true) :
    (∃ a ∈ s.snaps, a.key = a'.key ∧ a.id = a'.id ∧ a.kind = a'.kind ∧ isRemote a.labels = true) ∨
    (∃ key lb, st = .txCommitActive key a'.key lb ∧ tgt = some a'.key ∧ a'.kind = .committed ∧ a'.id ∈ s.mounts) := by
  rcases stems_of_mem ha' with rfl | ⟨a, ha, hst⟩
  · rw [show isRemote a'.labels = false from hr] at har; cases har
  · cases hst with
    | same => exact Or.inl ⟨_, ha, rfl, rfl, rfl, har⟩
    | commit hf =>
      obtain ⟨htgt, sn', hf', hm⟩ := hr har
      rw [hf] at hf'; cases hf'
      exact Or.inr ⟨_, _, rfl, htgt, rfl, hm⟩
    | update =>
      exact Or.inl ⟨a, ha, (relabel_key ..).symm, (relabel_id ..).symm, (relabel_kind ..).symm,
        isRemote_relabel hinv hr ha ▸ har⟩

theorem remote_only_via_prepare {s : State} (hinv0 : Inv s) {orc : Oracle} {op : Op} (hop : CleanOp op)
    {pre post : List Step} {st : Step} (hsplit : (plan s orc op).1 = pre ++ st :: post) {a : Snap}
    (ha : a ∈ (applyStep (applySteps s pre) st).snaps) (hr : isRemote a.labels = true) :
    (∃ b ∈ (applySteps s pre).snaps, b.key = a.key ∧ b.id = a.id ∧ isRemote b.labels = true) ∨
    (∃ key lb, st = .txCommitActive key a.key lb ∧ targetOf op = some a.key ∧ a.kind = .committed ∧
       a.id ∈ (applySteps s pre).mounts) := by
  have hg := hsplit ▸ plan_good hinv0 orc op
  have hinv := inv_steps hinv0 ((allSteps_append.mp hg).1.imp fun _ _ g => g.ok)
  rcases remote_origin hinv ((allSteps_split hg).remote hop) ha hr with ⟨b, hb, hk, hi, _, hrb⟩ | h
  · exact Or.inl ⟨b, hb, hk, hi, hrb⟩
  · exact Or.inr h

/-- invariant of all small-step states of histories whose calls do not set the remote label
themselves: only committed snapshots are remote, and only a remote snapshot may lack its directory. -/
structure CInv (s : State) : Prop where
  remoteCommitted : ∀ a ∈ s.snaps, isRemote a.labels = true → a.kind = .committed
  dirOrRemote : ∀ a ∈ s.snaps, Dir.id a.id ∈ s.dirs ∨ isRemote a.labels = true

theorem cinv_step {s : State} (hinv : Inv s) (h : CInv s) {st : Step} {c : Bool} {tgt : Option String}
    (hok : StepOk s st) (hs : Safe c s st) (hr : RemoteSafe tgt s st) : CInv (applyStep s st) := by
  refine ⟨fun a' ha' har => ?_, fun a' ha' => ?_⟩
  · rcases remote_origin hinv hr ha' har with ⟨a, ha, _, _, hk, hra⟩ | ⟨_, _, _, _, hc, _⟩
    · exact hk ▸ h.remoteCommitted a ha hra
    · exact hc
  · rcases stems_of_mem ha' with rfl | ⟨a, ha, hst⟩
    · exact Or.inl hs
    · -- the directory of `a` goes only by its own `RemoveAll`, which `Safe` allows only for a remote snapshot
      have hold : Dir.id a.id ∈ (applyStep s st).dirs ∨ isRemote a.labels = true := by
        by_cases hrm : st = .rmdir (.id a.id)
        · subst hrm
          rcases hs with hl | ⟨_, hrd⟩
          · exact absurd rfl (liveDir_id.mp hl a ha)
          · exact Or.inr (isRemote_of_remoteDir hinv ha hrd)
        · exact (h.dirOrRemote a ha).imp_left (dir_kept · hrm)
      rw [hst.id]
      cases hst with
      | same => exact hold
      | commit hf =>
        -- the record committed was active, hence not remote
        refine Or.inl (hold.resolve_right fun har => ?_)
        obtain ⟨_, _, sn, hf', hk⟩ := hok
        rw [hf] at hf'; cases hf'
        rw [h.remoteCommitted a ha har] at hk; cases hk
      | update => rw [isRemote_relabel hinv hr ha]; exact hold

theorem cinv_steps {s0 : State} {op : Op} (hclean : CleanOp op) {l : List Step} {s : State} (hinv : Inv s) (h : CInv s)
    (hg : AllSteps (Good s0 op) s l) : CInv (applySteps s l) :=
  (AllSteps.foldl (P := fun s => Inv s ∧ CInv s)
    (fun h _ g => ⟨inv_step h.1 g.ok, cinv_step h.1 h.2 g.ok g.safe (g.remote hclean)⟩) ⟨hinv, h⟩ hg).2

def CleanHist (hist : List (Op × Oracle)) : Prop := ∀ p ∈ hist, CleanOp p.1

theorem cinv_runOps {s : State} (hinv : Inv s) (h : CInv s) (hist : List (Op × Oracle)) (hc : CleanHist hist) :
    CInv (runOps s hist) :=
  runOps_induct (fun _ p hp hs h => cinv_steps (hc p hp) hs h (plan_good hs p.2 p.1)) hinv h

/-- states a crash can expose in histories whose calls do not set the remote label themselves -/
def CleanReachable (cfg0 : Config) (s : State) : Prop :=
  ∃ (hist : List (Op × Oracle)) (op : Op) (orc : Oracle) (k : Nat), CleanHist hist ∧ CleanOp op ∧
    s = applySteps (runOps (init cfg0) hist) ((plan (runOps (init cfg0) hist) orc op).1.take k)

theorem CleanReachable.reachable {cfg0 : Config} {s : State} (h : CleanReachable cfg0 s) : Reachable cfg0 s := by
  obtain ⟨hist, op, orc, k, _, _, rfl⟩ := h
  exact ⟨hist, op, orc, k, rfl⟩

theorem cinv_reachable {cfg0 : Config} {s : State} (h : CleanReachable cfg0 s) : CInv s := by
  obtain ⟨hist, op, orc, k, hh, hop, rfl⟩ := h
  have hinv := inv_hist cfg0 hist
  exact cinv_steps hop hinv (cinv_runOps (inv_init cfg0) ⟨nofun, nofun⟩ hist hh)
    (allSteps_take (plan_good hinv orc op) k)

end SV.Snap
