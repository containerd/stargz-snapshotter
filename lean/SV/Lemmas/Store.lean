/-
Lemmas for the C16 model (SV.Store).  Operations become record updates of the state they start from
(`use_eq`, `dropCount_eq`, `release_cases`, `resolve_adds`), then point updates of the views `lay` / `cnt` /
`mem`.  `Inv` is carried by `inv_shrink` / `inv_insert`, the resolve status by `Pending` and `AllOk`
(`reach_status`); the outcome of a lookup: `lookup_layer`, `lookup_of_resolvable`, and what
`Props.C16` instantiates: `lookup_err_of_nonmember`, `lookup_err_cause`, `lookup_isOk_iff`.
-/
import SV.Model.Store
namespace SV.Store
namespace Map
variable {V : Type}

@[simp] theorem get_nil (k : Nat) : get ([] : Map V) k = none := rfl

theorem get_cons (a : Nat) (v : V) (m : Map V) (k : Nat) :
    get ((a, v) :: m) k = if a = k then some v else get m k := rfl

theorem get_erase (m : Map V) (k k' : Nat) :
    get (erase m k) k' = if k' = k then none else get m k' := by
  induction m with
  | nil => simp [erase]
  | cons p m ih =>
    obtain ⟨a, v⟩ := p
    unfold erase at ih ⊢
    by_cases h : a = k <;> simp [h, get_cons] <;> grind

theorem get_set (m : Map V) (k : Nat) (v : V) (k' : Nat) :
    get (set m k v) k' = if k' = k then some v else get m k' := by
  simp [set, get_cons, get_erase]; grind

theorem eq_nil_iff (m : Map V) : m = [] ↔ ∀ k, get m k = none := by
  constructor
  · intro h; subst h; simp
  · intro h
    cases m with
    | nil => rfl
    | cons p m => obtain ⟨a, v⟩ := p; have := h a; simp [get_cons] at this

theorem get2_of_get_none (m : Map (Map V)) (r t : Nat) (h : get m r = none) : get2 m r t = none := by
  simp [get2, inner, h]

theorem get2_of_isNone (m : Map (Map V)) (r t : Nat) (h : (get m r).isNone = true) :
    get2 m r t = none := by
  apply get2_of_get_none; simpa using h

theorem isNone_of_get2 (m : Map (Map V)) (r t : Nat) (v : V) (h : get2 m r t = some v) :
    (get m r).isNone = false := by
  cases hg : get m r with
  | none => simp [get2_of_get_none m r t hg] at h
  | some i => rfl

theorem get2_set2 (m : Map (Map V)) (r t : Nat) (v : V) (r' t' : Nat) :
    get2 (set2 m r t v) r' t' = if r' = r ∧ t' = t then some v else get2 m r' t' := by
  unfold get2 set2 inner
  rw [get_set]
  by_cases hr : r' = r
  · subst hr; simp [get_set]
  · simp [hr]

theorem get2_del2 (m : Map (Map V)) (r t r' t' : Nat) :
    get2 (del2 m r t) r' t' = if r' = r ∧ t' = t then none else get2 m r' t' := by
  unfold del2
  cases hg : get m r with
  | none =>
    by_cases hr : r' = r
    · subst hr; simp [get2_of_get_none m r' t' hg]
    · simp [hr]
  | some i =>
    unfold get2 inner
    rw [get_set]
    by_cases hr : r' = r
    · subst hr; simp [get_erase, hg]
    · simp [hr]

theorem get2_erase (m : Map (Map V)) (r r' t' : Nat) :
    get2 (erase m r) r' t' = if r' = r then none else get2 m r' t' := by
  unfold get2 inner
  rw [get_erase]
  by_cases hr : r' = r <;> simp [hr]

theorem emptyAt_iff (m : Map (Map V)) (r : Nat) : emptyAt m r = true ↔ ∀ t, get2 m r t = none := by
  unfold emptyAt get2
  rw [List.isEmpty_iff, eq_nil_iff]

/-- `delete(m[r], t); if len(m[r]) == 0 { delete(m, r) }`: `release` does this to `r.refcounter`
and to `r.layer`. -/
def prune (m : Map (Map V)) (r t : Nat) : Map (Map V) :=
  if emptyAt (del2 m r t) r then erase (del2 m r t) r else del2 m r t

theorem get2_prune (m : Map (Map V)) (r t r' t' : Nat) :
    get2 (prune m r t) r' t' = if r' = r ∧ t' = t then none else get2 m r' t' := by
  unfold prune
  split
  · -- the outer delete removes nothing that `get2` could see
    rename_i h
    rw [emptyAt_iff] at h
    rw [get2_erase]
    split
    · rename_i hr
      subst hr
      have := h t'
      rw [get2_del2] at this
      exact this.symm
    · exact get2_del2 m r t r' t'
  · exact get2_del2 m r t r' t'

end Map

open Map

/-! ### Counts: refPool, use -/

/-- what both `release` and `refPool.release` leave of a count: nothing once it is `≤ 0`. -/
def predCount (c : Int) : Option Int := if c - 1 ≤ 0 then none else some (c - 1)

theorem predCount_pos (x : Option Int) (c : Int) (h : x.bind predCount = some c) : 1 ≤ c := by
  cases x with
  | none => cases h
  | some c0 =>
    unfold predCount at h
    dsimp only [Option.bind] at h
    split at h
    · cases h
    · cases h; omega

theorem get_poolUse (p : Map Int) (r r' : Nat) :
    get (poolUse p r) r' = if r' = r then some ((get p r).getD 0 + 1) else get p r' := by
  unfold poolUse
  cases h : get p r <;> exact get_set ..

theorem get_poolRelease (p : Map Int) (r r' : Nat) :
    get (poolRelease p r) r' = if r' = r then (get p r).bind predCount else get p r' := by
  unfold poolRelease predCount
  cases h : get p r with
  | none =>
    dsimp only [Option.bind]
    split
    · rename_i hr; rw [hr]; exact h
    · rfl
  | some c =>
    dsimp only [Option.bind]
    split
    · exact get_erase ..
    · exact get_set ..

theorem getD_succ_pos (x : Option Int) (h : ∀ c, x = some c → 1 ≤ c) : 1 ≤ x.getD 0 + 1 := by
  cases x with
  | none => exact Int.le_refl 1
  | some c => have := h c rfl; show 1 ≤ c + 1; omega

theorem use_eq (s : St) (r t : Nat) :
    use s r t = ({ s with pool := poolUse s.pool r,
                          refcounter := set2 s.refcounter r t ((cnt s r t).getD 0 + 1) },
      .count ((cnt s r t).getD 0 + 1)) := by
  unfold use cnt
  dsimp only
  cases get2 s.refcounter r t <;> rfl

theorem use_cnt (s : St) (r t r' t' : Nat) :
    cnt (use s r t).1 r' t' =
      if r' = r ∧ t' = t then some ((cnt s r t).getD 0 + 1) else cnt s r' t' := by
  rw [use_eq]; exact get2_set2 ..

/-! ### release, by its views -/

-- `AllGone` and `Drops` stand in `if`s below: hence the `open Classical` sections
def AllGone (s : St) (r t : Nat) : Prop := ∀ t', t' ≠ t → cnt s r t' = none

theorem emptyAt_del2_iff (s : St) (r t : Nat) :
    emptyAt (del2 s.refcounter r t) r = true ↔ AllGone s r t := by
  unfold AllGone cnt
  rw [emptyAt_iff]
  constructor
  · intro h t' ht
    have := h t'; rw [get2_del2] at this; simpa [ht] using this
  · intro h t'
    rw [get2_del2]
    by_cases ht : t' = t
    · simp [ht]
    · simpa [ht] using h t' ht

theorem dropCount_eq (s : St) (r t : Nat) :
    dropCount s r t =
      { s with refcounter := prune s.refcounter r t,
               memo := if emptyAt (del2 s.refcounter r t) r then erase s.memo r else s.memo } := by
  unfold dropCount prune; dsimp only; split <;> rfl

theorem dropCount_cnt (s : St) (r t r' t' : Nat) :
    cnt (dropCount s r t) r' t' = if r' = r ∧ t' = t then none else cnt s r' t' := by
  rw [dropCount_eq]; exact get2_prune ..

section
open Classical
theorem dropCount_mem (s : St) (r t r' d : Nat) :
    mem (dropCount s r t) r' d = if r' = r ∧ AllGone s r t then none else mem s r' d := by
  rw [dropCount_eq]
  show get2 (if emptyAt (del2 s.refcounter r t) r = true then erase s.memo r else s.memo) r' d = _
  split
  · rename_i he
    refine (get2_erase ..).trans ?_
    have hg := (emptyAt_del2_iff s r t).1 he
    by_cases hr : r' = r
    · rw [if_pos hr, if_pos ⟨hr, hg⟩]
    · rw [if_neg hr, if_neg fun h => hr h.1]; rfl
  · rename_i he
    exact (if_neg fun h => he ((emptyAt_del2_iff s r t).2 h.2)).symm
end

theorem dropLayer_none {s : St} {r t : Nat} {i : Int} (h : lay s r t = none) :
    dropLayer s r t i = (s, .err) := by
  unfold dropLayer; unfold lay at h
  split
  · rfl
  · simp [h]

theorem dropLayer_some {s : St} {r t : Nat} {i : Int} {l : Layer} (h : lay s r t = some l) :
    dropLayer s r t i =
      ({ s with memo := del2 s.memo r l.digest, done := l.id :: s.done,
                layer := prune s.layer r t }, .count i) := by
  unfold lay at h
  have hn := isNone_of_get2 _ _ _ _ h
  unfold dropLayer prune
  simp only [hn, h, Bool.false_eq_true, if_false]
  split <;> rfl

theorem dropLayer_st (s : St) (r t : Nat) (i : Int) :
    ∃ m dn ly, (dropLayer s r t i).1 = { s with memo := m, done := dn, layer := ly } := by
  cases h : lay s r t with
  | none => rw [dropLayer_none h]; exact ⟨_, _, _, rfl⟩
  | some l => rw [dropLayer_some h]; exact ⟨_, _, _, rfl⟩

theorem dropLayer_lay (s : St) (r t : Nat) (i : Int) (r' t' : Nat) :
    lay (dropLayer s r t i).1 r' t' = if r' = r ∧ t' = t then none else lay s r' t' := by
  cases h : lay s r t with
  | none =>
    rw [dropLayer_none h]
    split
    · rename_i hx; rw [hx.1, hx.2]; exact h
    · rfl
  | some l => rw [dropLayer_some h]; exact get2_prune ..

theorem dropLayer_mem (s : St) (r t : Nat) (i : Int) (r' d : Nat) :
    mem (dropLayer s r t i).1 r' d =
      if r' = r ∧ (lay s r t).map Layer.digest = some d then none else mem s r' d := by
  cases hl : lay s r t with
  | none => rw [dropLayer_none hl]; exact (if_neg fun h => nomatch h.2).symm
  | some l =>
    rw [dropLayer_some hl]
    refine (get2_del2 ..).trans ?_
    by_cases h : r' = r ∧ d = l.digest
    · rw [if_pos h, if_pos ⟨h.1, congrArg some h.2.symm⟩]
    · rw [if_neg h, if_neg fun h' => h ⟨h'.1, (Option.some.inj h'.2).symm⟩]; rfl

def decr (s : St) (r t : Nat) (c : Int) : St :=
  { s with pool := poolRelease s.pool r, refcounter := set2 s.refcounter r t (c - 1) }

/-- `release` after `decr` (count `c ≤ 1`) and `dropCount`, before `dropLayer`. -/
def uncounted (s : St) (r t : Nat) (c : Int) : St := dropCount (decr s r t c) r t

theorem uncounted_st (s : St) (r t : Nat) (c : Int) :
    ∃ rc m, uncounted s r t c = { s with pool := poolRelease s.pool r, refcounter := rc, memo := m } :=
  ⟨_, _, dropCount_eq ..⟩

theorem uncounted_lay (s : St) (r t : Nat) (c : Int) (r' t' : Nat) :
    lay (uncounted s r t c) r' t' = lay s r' t' := by
  obtain ⟨_, _, e⟩ := uncounted_st s r t c
  rw [e]; rfl

theorem uncounted_cnt (s : St) (r t : Nat) (c : Int) (r' t' : Nat) :
    cnt (uncounted s r t c) r' t' = if r' = r ∧ t' = t then none else cnt s r' t' := by
  refine (dropCount_cnt ..).trans ?_
  split
  · rfl
  · rename_i hx; exact (get2_set2 ..).trans (if_neg hx)

section
open Classical
theorem uncounted_mem (s : St) (r t : Nat) (c : Int) (r' d : Nat) :
    mem (uncounted s r t c) r' d = if r' = r ∧ AllGone s r t then none else mem s r' d := by
  -- the decremented entry is the one that `AllGone` leaves out
  have hA : AllGone (decr s r t c) r t ↔ AllGone s r t :=
    forall_congr' fun t' => imp_congr_right fun ht => by
      rw [show cnt (decr s r t c) r t' = cnt s r t' from (get2_set2 ..).trans (if_neg fun h => ht h.2)]
  exact (dropCount_mem ..).trans
    (ite_congr (propext (and_congr_right fun _ => hA)) (fun _ => rfl) fun _ => rfl)
end

/-- this release takes the count of (r, t) to `≤ 0`. -/
def Drops (s : St) (r t : Nat) : Prop := ∃ c, cnt s r t = some c ∧ c ≤ 1

theorem release_untracked {s : St} {r t : Nat} (h : cnt s r t = none) :
    release s r t = ({ s with pool := poolRelease s.pool r }, .err) := by
  unfold release; dsimp only
  unfold cnt at h
  split
  · rfl
  · simp [h]

theorem release_tracked {s : St} {r t : Nat} {c : Int} (h : cnt s r t = some c) :
    release s r t =
      if c - 1 ≤ 0 then dropLayer (uncounted s r t c) r t (c - 1) else (decr s r t c, .count (c - 1)) := by
  unfold cnt at h
  have hn := isNone_of_get2 _ _ _ _ h
  unfold release uncounted decr
  simp only [hn, h, Bool.false_eq_true, if_false]

theorem release_cases (s : St) (r t : Nat) :
    (cnt s r t = none ∧ release s r t = ({ s with pool := poolRelease s.pool r }, .err)) ∨
    ∃ c, cnt s r t = some c ∧
      ((1 < c ∧ release s r t = (decr s r t c, .count (c - 1))) ∨
       (c ≤ 1 ∧ release s r t = dropLayer (uncounted s r t c) r t (c - 1))) := by
  cases hc : cnt s r t with
  | none => exact Or.inl ⟨rfl, release_untracked hc⟩
  | some c =>
    refine Or.inr ⟨c, rfl, ?_⟩
    rw [release_tracked hc]
    by_cases h1 : c - 1 ≤ 0
    · rw [if_pos h1]; exact Or.inr ⟨by omega, rfl⟩
    · rw [if_neg h1]; exact Or.inl ⟨by omega, rfl⟩

theorem release_frame (s : St) (r t : Nat) :
    (release s r t).1.next = s.next ∧ (release s r t).1.disk = s.disk ∧
    (release s r t).1.pool = poolRelease s.pool r := by
  rcases release_cases s r t with ⟨_, e⟩ | ⟨c, _, ⟨_, e⟩ | ⟨_, e⟩⟩ <;> rw [e]
  · exact ⟨rfl, rfl, rfl⟩
  · exact ⟨rfl, rfl, rfl⟩
  · obtain ⟨_, _, _, e1⟩ := dropLayer_st (uncounted s r t c) r t (c - 1)
    obtain ⟨_, _, e2⟩ := uncounted_st s r t c
    rw [e1, e2]; exact ⟨rfl, rfl, rfl⟩

theorem release_cnt (s : St) (r t r' t' : Nat) :
    cnt (release s r t).1 r' t' =
      if r' = r ∧ t' = t then (cnt s r t).bind predCount else cnt s r' t' := by
  rcases release_cases s r t with ⟨hc, e⟩ | ⟨c, hc, ⟨h1, e⟩ | ⟨h1, e⟩⟩ <;> rw [e, hc]
  · split
    · rename_i hx; rw [hx.1, hx.2]; exact hc
    · rfl
  · rw [show (some c).bind predCount = some (c - 1) from if_neg (by omega)]
    exact get2_set2 ..
  · rw [show (some c).bind predCount = none from if_pos (by omega)]
    obtain ⟨_, _, _, e1⟩ := dropLayer_st (uncounted s r t c) r t (c - 1)
    rw [e1]; exact uncounted_cnt ..

theorem release_res (s : St) (r t : Nat) :
    (release s r t).2 = .err ∨ ∃ c, cnt s r t = some c ∧ (release s r t).2 = .count (c - 1) := by
  rcases release_cases s r t with ⟨_, e⟩ | ⟨c, hc, ⟨_, e⟩ | ⟨_, e⟩⟩ <;> rw [e]
  · exact Or.inl rfl
  · exact Or.inr ⟨c, hc, rfl⟩
  · cases hl : lay s r t with
    | none => rw [dropLayer_none ((uncounted_lay ..).trans hl)]; exact Or.inl rfl
    | some l => rw [dropLayer_some ((uncounted_lay ..).trans hl)]; exact Or.inr ⟨c, hc, rfl⟩

section
open Classical
theorem release_mem (s : St) (r t r' d : Nat) :
    mem (release s r t).1 r' d =
      if r' = r ∧ Drops s r t ∧ (AllGone s r t ∨ (lay s r t).map Layer.digest = some d) then none
      else mem s r' d := by
  rcases release_cases s r t with ⟨hc, e⟩ | ⟨c, hc, ⟨h1, e⟩ | ⟨h1, e⟩⟩ <;> rw [e]
  · exact (if_neg fun ⟨_, ⟨_, hc', _⟩, _⟩ => nomatch hc.symm.trans hc').symm
  · exact (if_neg fun ⟨_, ⟨c', hc', h1'⟩, _⟩ => by cases hc.symm.trans hc'; omega).symm
  · have hd : Drops s r t := ⟨c, hc, h1⟩
    rw [dropLayer_mem, uncounted_mem, uncounted_lay]
    split
    · rename_i h; exact (if_pos ⟨h.1, hd, Or.inr h.2⟩).symm
    · rename_i hn
      split
      · rename_i h; exact (if_pos ⟨h.1, hd, Or.inl h.2⟩).symm
      · rename_i hn2
        exact (if_neg fun hC => hC.2.2.elim (fun hg => hn2 ⟨hC.1, hg⟩) fun hg => hn ⟨hC.1, hg⟩).symm
end

/-- what a release that drops the cached layer `l` leaves. -/
structure Dropped (s : St) (r t : Nat) (l : Layer) : Prop where
  cached : lay s r t = some l
  res : ∀ c, cnt s r t = some c → (release s r t).2 = .count (c - 1)
  done_eq : (release s r t).1.done = l.id :: s.done
  lay_eq : ∀ r' t', lay (release s r t).1 r' t' = if r' = r ∧ t' = t then none else lay s r' t'
  mem_eq : mem (release s r t).1 r l.digest = none

theorem release_dropped {s : St} {r t : Nat} {c : Int} {l : Layer} (hc : cnt s r t = some c)
    (h1 : c ≤ 1) (hl : lay s r t = some l) : Dropped s r t l := by
  have e := release_tracked hc
  rw [if_pos (by omega)] at e
  have hD := (uncounted_lay s r t c r t).trans hl
  obtain ⟨_, _, e2⟩ := uncounted_st s r t c
  refine ⟨hl, fun c' hc' => ?_, ?_, fun r' t' => ?_, ?_⟩
  · cases hc.symm.trans hc'
    rw [e, dropLayer_some hD]
  · rw [e, dropLayer_some hD, e2]
  · rw [e, dropLayer_lay, uncounted_lay]
  · rw [release_mem, if_pos ⟨rfl, ⟨c, hc, h1⟩, Or.inr (congrArg (Option.map Layer.digest) hl)⟩]

theorem release_spec (s : St) (r t : Nat) :
    ((release s r t).1.layer = s.layer ∧ (release s r t).1.done = s.done) ∨
    (Drops s r t ∧ ∃ l, Dropped s r t l) := by
  rcases release_cases s r t with ⟨_, e⟩ | ⟨c, hc, ⟨_, e⟩ | ⟨h1, e⟩⟩
  · rw [e]; exact Or.inl ⟨rfl, rfl⟩
  · rw [e]; exact Or.inl ⟨rfl, rfl⟩
  · cases hl : lay s r t with
    | none =>
      obtain ⟨_, _, e2⟩ := uncounted_st s r t c
      rw [e, dropLayer_none ((uncounted_lay ..).trans hl), e2]
      exact Or.inl ⟨rfl, rfl⟩
    | some l => exact Or.inr ⟨⟨c, hc, h1⟩, l, release_dropped hc h1 hl⟩

theorem release_mem_le (s : St) (r t r' d : Nat) :
    mem (release s r t).1 r' d = none ∨ mem (release s r t).1 r' d = mem s r' d := by
  rw [release_mem]
  split
  · exact Or.inl rfl
  · exact Or.inr rfl

/-! ### resolveLayer, by its views -/

/-- the field `Inv.key` alone: all that the lemmas about `resolveLayer` need of `Inv`. -/
def KeyOK (s : St) : Prop := ∀ r t l, lay s r t = some l → l.toc = t

theorem getCached_eq_lay {s : St} (hk : KeyOK s) (r t : Nat) : getCached s r t = lay s r t := by
  unfold getCached
  cases h : get2 s.layer r t with
  | none => simp [lay, h]
  | some l =>
    have := hk r t l h
    simp [lay, h, this]

/-- the resolution of manifest layer `(d, t)` puts a new instance into the cache. -/
structure Adds (o : Oracle) (r : Nat) (s : St) (d t : Nat) : Prop where
  unmemoised : mem s r d = none
  answers : o.layer r d = true
  uncached : lay s r t = none

theorem resolve_mem (o : Oracle) (r : Nat) (s : St) (d t r' d' : Nat) :
    mem (resolveLayer o r s (d, t)) r' d' =
      if r' = r ∧ d' = d ∧ mem s r d = none then
        some (if o.layer r d = true then Outcome.ok else Outcome.err)
      else mem s r' d' := by
  unfold resolveLayer mem cacheLayer
  dsimp only
  cases hm : get2 s.memo r d with
  | some x => exact (if_neg fun h => nomatch h.2.2).symm
  | none =>
    -- the memo is written at `(r, d)` in every branch: `get2_set2` with the third conjunct dropped
    have hc : (r' = r ∧ d' = d ∧ (none : Option Outcome) = none) ↔ (r' = r ∧ d' = d) :=
      ⟨fun h => ⟨h.1, h.2.1⟩, fun h => ⟨h.1, h.2, rfl⟩⟩
    rw [ite_congr (propext hc) (fun _ => rfl) (fun _ => rfl)]
    by_cases ho : o.layer r d = true
    · simp only [ho, if_true]
      split <;> exact get2_set2 ..
    · simp only [ho, Bool.false_eq_true, if_false]
      exact get2_set2 ..

theorem resolve_adds {o : Oracle} {r : Nat} {s : St} (hk : KeyOK s) {d t : Nat}
    (h : Adds o r s d t) :
    resolveLayer o r s (d, t) =
      { s with layer := set2 s.layer r t ⟨s.next, d, t⟩, next := s.next + 1,
               memo := set2 s.memo r d .ok } := by
  obtain ⟨h1, h2, h3⟩ := h
  have hc : getCached s r t = none := by rw [getCached_eq_lay hk]; exact h3
  unfold mem at h1
  unfold resolveLayer cacheLayer
  simp only [h1, h2, hc, if_true]

theorem resolve_noadd {o : Oracle} {r : Nat} {s : St} (hk : KeyOK s) {d t : Nat}
    (h : ¬ Adds o r s d t) : ∃ m, resolveLayer o r s (d, t) = { s with memo := m } := by
  unfold resolveLayer cacheLayer
  dsimp only
  cases hm : get2 s.memo r d with
  | some x => exact ⟨s.memo, rfl⟩
  | none =>
    by_cases ho : o.layer r d = true
    · have hc : getCached s r t ≠ none := by
        rw [getCached_eq_lay hk]; exact fun hl => h ⟨hm, ho, hl⟩
      simp only [ho, if_true]
      split
      · exact ⟨_, rfl⟩
      · rename_i hcn; exact absurd hcn hc
    · simp only [ho]; exact ⟨_, rfl⟩

theorem resolve_elim {o : Oracle} {r : Nat} {s : St} (hk : KeyOK s) (d t : Nat) (P : St → Prop)
    (hadd : Adds o r s d t →
      P { s with layer := set2 s.layer r t ⟨s.next, d, t⟩, next := s.next + 1,
                 memo := set2 s.memo r d .ok })
    (hmemo : ¬ Adds o r s d t → ∀ m, P { s with memo := m }) : P (resolveLayer o r s (d, t)) := by
  by_cases ha : Adds o r s d t
  · rw [resolve_adds hk ha]; exact hadd ha
  · obtain ⟨m, e⟩ := resolve_noadd hk ha
    rw [e]; exact hmemo ha m

theorem resolve_caches {o : Oracle} {r : Nat} {s : St} (hk : KeyOK s) {d : Nat} (t : Nat)
    (hm : mem s r d = none) (ho : o.layer r d = true) :
    lay (resolveLayer o r s (d, t)) r t ≠ none := by
  refine resolve_elim hk d t (fun s' => lay s' r t ≠ none) (fun _ => ?_)
    fun ha _ hl0 => ha ⟨hm, ho, hl0⟩
  show get2 (set2 _ _ _ _) _ _ ≠ none
  rw [get2_set2, if_pos ⟨rfl, rfl⟩]
  exact Option.some_ne_none _

/-! ### The invariant; `inv_shrink`, `inv_insert` -/

structure Inv (T : Truth) (s : St) : Prop where
  key : ∀ r t l, lay s r t = some l → l.toc = t
  member : ∀ r t l, lay s r t = some l → ∃ ls, T.images r = some ls ∧ (l.digest, t) ∈ ls
  fresh : ∀ r t l, lay s r t = some l → l.id < s.next
  live : ∀ r t l, lay s r t = some l → l.id ∉ s.done
  uniq : ∀ r t l r' t' l', lay s r t = some l → lay s r' t' = some l' → l.id = l'.id →
    r = r' ∧ t = t'
  doneLt : ∀ i, i ∈ s.done → i < s.next
  pos : ∀ r t c, cnt s r t = some c → 1 ≤ c
  ppos : ∀ r c, get s.pool r = some c → 1 ≤ c

theorem inv_init (T : Truth) : Inv T init := by
  constructor <;> simp [init, lay, cnt, get2, inner]

theorem inv_shrink {T : Truth} {s s' : St} (hI : Inv T s)
    (hlay : ∀ r t l, lay s' r t = some l → lay s r t = some l) (hnext : s.next ≤ s'.next)
    (hdone : ∀ i, i ∈ s'.done →
      i ∈ s.done ∨ ∃ r t l, lay s r t = some l ∧ l.id = i ∧ lay s' r t = none)
    (hcnt : ∀ r t c, cnt s' r t = some c → 1 ≤ c)
    (hpool : ∀ r c, get s'.pool r = some c → 1 ≤ c) : Inv T s' where
  key r t l h := hI.key r t l (hlay r t l h)
  member r t l h := hI.member r t l (hlay r t l h)
  fresh r t l h := Nat.lt_of_lt_of_le (hI.fresh r t l (hlay r t l h)) hnext
  live r t l h hd := by
    rcases hdone _ hd with hd | ⟨r0, t0, l0, h0, e, hn⟩
    · exact hI.live r t l (hlay r t l h) hd
    · -- the instance was removed under the only key it was cached under
      obtain ⟨rfl, rfl⟩ := hI.uniq _ _ _ _ _ _ (hlay r t l h) h0 e.symm
      rw [hn] at h; cases h
  uniq r t l r' t' l' h h' := hI.uniq _ _ _ _ _ _ (hlay _ _ _ h) (hlay _ _ _ h')
  doneLt i hi := by
    rcases hdone i hi with hd | ⟨r0, t0, l0, h0, e, _⟩
    · exact Nat.lt_of_lt_of_le (hI.doneLt i hd) hnext
    · exact e ▸ Nat.lt_of_lt_of_le (hI.fresh _ _ _ h0) hnext
  pos := hcnt
  ppos := hpool

theorem inv_frame {T : Truth} {s s' : St} (hI : Inv T s) (h1 : s'.layer = s.layer)
    (h2 : s'.done = s.done) (h3 : s'.next = s.next)
    (hcnt : ∀ r t c, cnt s' r t = some c → 1 ≤ c)
    (hpool : ∀ r c, get s'.pool r = some c → 1 ≤ c) : Inv T s' :=
  inv_shrink hI (fun r t l h => by unfold lay at *; rwa [h1] at h) (Nat.le_of_eq h3.symm)
    (fun i hi => Or.inl (h2 ▸ hi)) hcnt hpool

theorem inv_disk {T : Truth} {s : St} (hI : Inv T s) (dk : List Nat) : Inv T { s with disk := dk } :=
  inv_frame hI rfl rfl rfl hI.pos hI.ppos

theorem inv_insert {T : Truth} {s s' : St} (hI : Inv T s) {r d t : Nat} {ls : List (Nat × Nat)}
    (hm : T.images r = some ls) (hin : (d, t) ∈ ls)
    (hlay : ∀ r' t', lay s' r' t' = if r' = r ∧ t' = t then some ⟨s.next, d, t⟩ else lay s r' t')
    (hnext : s'.next = s.next + 1) (hdone : s'.done = s.done)
    (hrc : s'.refcounter = s.refcounter) (hpool : s'.pool = s.pool) : Inv T s' := by
  have old : ∀ r' t' l, lay s' r' t' = some l →
      (r' = r ∧ t' = t ∧ l = ⟨s.next, d, t⟩) ∨ lay s r' t' = some l := by
    intro r' t' l h
    rw [hlay] at h
    split at h
    · rename_i hx; exact Or.inl ⟨hx.1, hx.2, (Option.some.inj h).symm⟩
    · exact Or.inr h
  constructor
  · intro r' t' l h
    rcases old _ _ _ h with ⟨_, rfl, rfl⟩ | h
    · rfl
    · exact hI.key _ _ _ h
  · intro r' t' l h
    rcases old _ _ _ h with ⟨rfl, rfl, rfl⟩ | h
    · exact ⟨ls, hm, hin⟩
    · exact hI.member _ _ _ h
  · intro r' t' l h
    rw [hnext]
    rcases old _ _ _ h with ⟨_, _, rfl⟩ | h
    · exact Nat.lt_succ_self _
    · exact Nat.lt_succ_of_lt (hI.fresh _ _ _ h)
  · intro r' t' l h
    rw [hdone]
    rcases old _ _ _ h with ⟨_, _, rfl⟩ | h
    · exact fun hd => Nat.lt_irrefl _ (hI.doneLt _ hd)
    · exact hI.live _ _ _ h
  · intro r1 t1 l1 r2 t2 l2 h1 h2 he
    rcases old _ _ _ h1 with ⟨a1, a2, rfl⟩ | h1 <;> rcases old _ _ _ h2 with ⟨b1, b2, rfl⟩ | h2
    · exact ⟨a1.trans b1.symm, a2.trans b2.symm⟩
    · exact absurd (hI.fresh _ _ _ h2) (he ▸ Nat.lt_irrefl _)
    · exact absurd (hI.fresh _ _ _ h1) (he ▸ Nat.lt_irrefl _)
    · exact hI.uniq _ _ _ _ _ _ h1 h2 he
  · intro i hi
    rw [hdone] at hi; rw [hnext]
    exact Nat.lt_succ_of_lt (hI.doneLt i hi)
  · intro r' t' c h
    unfold cnt at h; rw [hrc] at h
    exact hI.pos _ _ _ h
  · rw [hpool]; exact hI.ppos

theorem resolve_inv {T : Truth} (o : Oracle) {r : Nat} {s : St} (hI : Inv T s)
    {ls : List (Nat × Nat)} (hm : T.images r = some ls) {d t : Nat} (hin : (d, t) ∈ ls) :
    Inv T (resolveLayer o r s (d, t)) :=
  resolve_elim hI.key d t (Inv T)
    (fun _ => inv_insert hI hm hin (fun _ _ => get2_set2 ..) rfl rfl rfl rfl)
    fun _ _ => inv_frame hI rfl rfl rfl hI.pos hI.ppos

/-- `s'` is `s0` after some more layers were resolved. -/
structure Ext (s0 s' : St) : Prop where
  rc : s'.refcounter = s0.refcounter
  dn : s'.done = s0.done
  pl : s'.pool = s0.pool
  layMono : ∀ r t l, lay s0 r t = some l → lay s' r t = some l

theorem ext_disk (s : St) (dk : List Nat) : Ext s { s with disk := dk } :=
  ⟨rfl, rfl, rfl, fun _ _ _ h => h⟩

theorem resolve_ext (o : Oracle) (r : Nat) {s0 s : St} (hk : KeyOK s) (hE : Ext s0 s) (d t : Nat) :
    Ext s0 (resolveLayer o r s (d, t)) := by
  refine resolve_elim hk d t (Ext s0) (fun ha => ⟨hE.rc, hE.dn, hE.pl, fun r' t' l h => ?_⟩)
    fun _ _ => ⟨hE.rc, hE.dn, hE.pl, hE.layMono⟩
  have h' := hE.layMono _ _ _ h
  refine (get2_set2 ..).trans ?_
  split
  · rename_i hx; obtain ⟨rfl, rfl⟩ := hx; rw [ha.uncached] at h'; cases h'
  · exact h'

theorem resolve_lay_mono (o : Oracle) (r : Nat) {s : St} (hk : KeyOK s) (d t : Nat) {r' t' : Nat}
    (h : lay s r' t' ≠ none) : lay (resolveLayer o r s (d, t)) r' t' ≠ none := by
  cases hl : lay s r' t' with
  | none => exact absurd hl h
  | some l => rw [(resolve_ext o r hk (ext_disk s s.disk) d t).layMono _ _ _ hl]; exact nofun

/-- the layer digest determines the TOC digest (a digest names one blob). -/
def DigestFun (ls : List (Nat × Nat)) : Prop :=
  ∀ d t t', (d, t) ∈ ls → (d, t') ∈ ls → t = t'

theorem fold_caches {T : Truth} {o : Oracle} {r : Nat} {full : List (Nat × Nat)}
    (hm : T.images r = some full) (hfun : DigestFun full) (ls : List (Nat × Nat))
    (hsub : ∀ x, x ∈ ls → x ∈ full) {s : St} (hI : Inv T s) {d t : Nat} (hin : (d, t) ∈ ls)
    (hmem : mem s r d = none) (ho : o.layer r d = true) :
    lay (ls.foldl (resolveLayer o r) s) r t ≠ none := by
  induction ls generalizing s with
  | nil => cases hin
  | cons x xs ih =>
    obtain ⟨d0, t0⟩ := x
    simp only [List.foldl_cons]
    have hx : (d0, t0) ∈ full := hsub _ (List.mem_cons_self ..)
    have hsub' : ∀ x, x ∈ xs → x ∈ full := fun x hx => hsub x (List.mem_cons_of_mem _ hx)
    have hI1 := resolve_inv o hI hm hx
    by_cases hd : d0 = d
    · -- the head is this very layer (same digest, hence same TOC digest)
      subst hd
      have ht : t0 = t := hfun d0 t0 t hx (hsub _ hin)
      subst ht
      exact (xs.foldlRecOn (motive := fun s' => Inv T s' ∧ lay s' r t0 ≠ none) _
        ⟨hI1, resolve_caches hI.key t0 hmem ho⟩ fun s' hp dt hdt =>
          ⟨resolve_inv o hp.1 hm (hsub' _ hdt), resolve_lay_mono o r hp.1.key dt.1 dt.2 hp.2⟩).2
    · have hin' : (d, t) ∈ xs := by
        rcases List.mem_cons.mp hin with h | h
        · cases h; exact absurd rfl hd
        · exact h
      apply ih hsub' hI1 hin'
      rw [resolve_mem, if_neg (fun h => hd h.2.1.symm)]; exact hmem

/-! ### loadRef, lookup, info; histories -/

theorem loadRef_some {T : Truth} {o : Oracle} {s : St} {r : Nat} {s1 : St} {ls : List (Nat × Nat)}
    (h : loadRef T o s r = some (s1, ls)) :
    T.images r = some ls ∧ (r ∈ s.disk ∨ o.manifest r = true) ∧ ∃ dk, s1 = { s with disk := dk } := by
  unfold loadRef at h
  by_cases hd : r ∈ s.disk
  · rw [if_pos hd] at h
    obtain ⟨ls', hi, e⟩ := Option.map_eq_some_iff.mp h
    cases e
    exact ⟨hi, Or.inl hd, s.disk, rfl⟩
  · rw [if_neg hd] at h
    by_cases ho : o.manifest r = true
    · rw [if_pos ho] at h
      obtain ⟨ls', hi, e⟩ := Option.map_eq_some_iff.mp h
      cases e
      exact ⟨hi, Or.inr ho, _, rfl⟩
    · rw [if_neg ho] at h; cases h

theorem loadRef_avail {T : Truth} {o : Oracle} {s : St} {r : Nat} {ls : List (Nat × Nat)}
    (hi : T.images r = some ls) (ha : r ∈ s.disk ∨ o.manifest r = true) :
    ∃ dk, loadRef T o s r = some ({ s with disk := dk }, ls) := by
  unfold loadRef
  by_cases hd : r ∈ s.disk
  · exact ⟨s.disk, by simp [hd, hi]⟩
  · rcases ha with ha | ha
    · exact absurd ha hd
    · exact ⟨r :: s.disk, by simp [hd, ha, hi]⟩

theorem lookup_cases (T : Truth) (o : Oracle) (s : St) (r t : Nat) :
    (∃ l, getCached s r t = some l ∧ lookup T o s r t = (s, .layer l)) ∨
    (getCached s r t = none ∧ loadRef T o s r = none ∧ lookup T o s r t = (s, .err)) ∨
    ∃ ls dk, T.images r = some ls ∧
      (lookup T o s r t).1 = ls.foldl (resolveLayer o r) { s with disk := dk } := by
  unfold lookup
  cases hc : getCached s r t with
  | some l => exact Or.inl ⟨l, rfl, rfl⟩
  | none =>
    cases hl : loadRef T o s r with
    | none => exact Or.inr (Or.inl ⟨rfl, rfl, rfl⟩)
    | some p =>
      obtain ⟨s1, ls⟩ := p
      obtain ⟨hi, _, dk, rfl⟩ := loadRef_some hl
      refine Or.inr (Or.inr ⟨ls, dk, hi, ?_⟩)
      dsimp only; split <;> rfl

theorem lookup_res_eq (T : Truth) (o : Oracle) (s : St) (r t : Nat) :
    (lookup T o s r t).2 =
      match getCached (lookup T o s r t).1 r t with
      | some l => .layer l
      | none => .err := by
  unfold lookup
  cases hc : getCached s r t with
  | some l => dsimp only; rw [hc]
  | none =>
    cases hl : loadRef T o s r with
    | none => dsimp only; rw [hc]
    | some p => dsimp only; split <;> rename_i h <;> simp [h]

theorem lookup_induct {T : Truth} (o : Oracle) {s : St} (r t : Nat) (hI : Inv T s) (P : St → Prop)
    (hdisk : ∀ dk, P { s with disk := dk })
    (hstep : ∀ ls, T.images r = some ls → ∀ s' d t', (d, t') ∈ ls → Inv T s' → P s' →
      P (resolveLayer o r s' (d, t'))) :
    Inv T (lookup T o s r t).1 ∧ P (lookup T o s r t).1 := by
  rcases lookup_cases T o s r t with ⟨l, _, h⟩ | ⟨_, _, h⟩ | ⟨ls, dk, hi, h⟩
  · rw [h]; exact ⟨hI, hdisk s.disk⟩
  · rw [h]; exact ⟨hI, hdisk s.disk⟩
  · rw [h]
    exact ls.foldlRecOn (motive := fun s' => Inv T s' ∧ P s') _ ⟨inv_disk hI dk, hdisk dk⟩
      fun s' hp dt hdt => ⟨resolve_inv o hp.1 hi hdt, hstep ls hi s' dt.1 dt.2 hdt hp.1 hp.2⟩

theorem lookup_inv_ext {T : Truth} (o : Oracle) {s : St} (r t : Nat) (hI : Inv T s) :
    Inv T (lookup T o s r t).1 ∧ Ext s (lookup T o s r t).1 :=
  lookup_induct o r t hI (Ext s) (ext_disk s)
    fun _ _ _ d t _ hI' hE => resolve_ext o r hI'.key hE d t

theorem info_state (T : Truth) (o : Oracle) (s : St) (r t : Nat) :
    ∃ dk, (info T o s r t).1 = { s with disk := dk } := by
  unfold info
  cases hl : loadRef T o s r with
  | none => exact ⟨s.disk, rfl⟩
  | some p =>
    obtain ⟨s1, ls⟩ := p
    obtain ⟨_, _, dk, rfl⟩ := loadRef_some hl
    refine ⟨dk, ?_⟩
    dsimp only
    split
    · rfl
    · split <;> rfl

theorem use_inv {T : Truth} {s : St} (r t : Nat) (hI : Inv T s) : Inv T (use s r t).1 := by
  refine inv_frame hI (by rw [use_eq]) (by rw [use_eq]) (by rw [use_eq]) ?_ ?_
  · intro r' t' c h
    rw [use_cnt] at h
    split at h
    · cases h; exact getD_succ_pos _ (hI.pos r t)
    · exact hI.pos _ _ _ h
  · intro r' c h
    rw [use_eq] at h
    have h := (get_poolUse ..).symm.trans h
    split at h
    · cases h; exact getD_succ_pos _ (hI.ppos r)
    · exact hI.ppos _ _ h

theorem release_inv {T : Truth} {s : St} (r t : Nat) (hI : Inv T s) : Inv T (release s r t).1 := by
  obtain ⟨f1, _, f3⟩ := release_frame s r t
  have hcnt : ∀ r' t' c, cnt (release s r t).1 r' t' = some c → 1 ≤ c := by
    intro r' t' c h
    rw [release_cnt] at h
    split at h
    · exact predCount_pos _ c h
    · exact hI.pos _ _ _ h
  have hpool : ∀ r' c, get (release s r t).1.pool r' = some c → 1 ≤ c := by
    intro r' c h
    rw [f3, get_poolRelease] at h
    split at h
    · exact predCount_pos _ c h
    · exact hI.ppos _ _ h
  rcases release_spec s r t with ⟨k1, k2⟩ | ⟨_, l, hd⟩
  · exact inv_frame hI k1 k2 f1 hcnt hpool
  · refine inv_shrink hI ?_ (Nat.le_of_eq f1.symm) ?_ hcnt hpool
    · intro r' t' l' h
      rw [hd.lay_eq] at h
      split at h
      · cases h
      · exact h
    · intro i hi
      rw [hd.done_eq] at hi
      rcases List.mem_cons.mp hi with e | e
      · exact Or.inr ⟨r, t, l, hd.cached, e.symm, by rw [hd.lay_eq, if_pos ⟨rfl, rfl⟩]⟩
      · exact Or.inl e

theorem step_inv {T : Truth} {s : St} (op : Op) (hI : Inv T s) : Inv T (step T s op).1 := by
  cases op with
  | lookup o r t => exact (lookup_inv_ext o r t hI).1
  | info o r t =>
    obtain ⟨dk, e⟩ := info_state T o s r t
    show Inv T (info T o s r t).1
    rw [e]; exact inv_disk hI dk
  | use r t => exact use_inv r t hI
  | release r t => exact release_inv r t hI

theorem step_cases (T : Truth) (s : St) (op : Op) :
    (∃ o r t, op = .lookup o r t) ∨ (∃ r t, op = .release r t) ∨
    ∃ dk pl rc, (step T s op).1 = { s with disk := dk, pool := pl, refcounter := rc } := by
  cases op with
  | lookup o r t => exact Or.inl ⟨o, r, t, rfl⟩
  | info o r t =>
    obtain ⟨dk, e⟩ := info_state T o s r t
    exact Or.inr (Or.inr ⟨dk, s.pool, s.refcounter, e⟩)
  | use r t => exact Or.inr (Or.inr ⟨s.disk, _, _, congrArg Prod.fst (use_eq s r t)⟩)
  | release r t => exact Or.inr (Or.inl ⟨r, t, rfl⟩)

theorem reach_induct (T : Truth) (P : St → Prop) (h : List Op)
    (hstep : ∀ s op, op ∈ h → Inv T s → P s → P (step T s op).1) (h0 : P init) :
    Inv T (run T init h) ∧ P (run T init h) :=
  h.foldlRecOn (motive := fun s => Inv T s ∧ P s) _ ⟨inv_init T, h0⟩
    fun s hp op hop => ⟨step_inv op hp.1, hstep s op hop hp.1 hp.2⟩

theorem reach_inv (T : Truth) (s : St) (h : Reachable T s) : Inv T s := by
  obtain ⟨ops, rfl⟩ := h
  exact (reach_induct T (fun _ => True) ops (fun _ _ _ _ _ => trivial) trivial).1

/-! ### Resolve-status invariants -/

def Truth.Functional (T : Truth) : Prop := ∀ r ls, T.images r = some ls → DigestFun ls

def Truth.Injective (T : Truth) : Prop :=
  ∀ r ls, T.images r = some ls → ∀ d d' t, (d, t) ∈ ls → (d', t) ∈ ls → d = d'

/-- `Oracle.healthy` of the model file is the one value that satisfies it; its second half is
`Oracle.LayersOk`, which is all that `Op.Healthy` asks of the operations of a history. -/
def Oracle.Healthy (o : Oracle) : Prop := (∀ r, o.manifest r = true) ∧ ∀ r d, o.layer r d = true

def Oracle.LayersOk (o : Oracle) : Prop := ∀ r d, o.layer r d = true

/-- an operation during which no layer resolution fails.  The manifest part of the oracle is
free: a manifest that cannot be fetched — registry error, or the client cancelled the context of
its lookup (the layers themselves are resolved on `context.Background()`) — fails the lookup but
is not memoised. -/
def Op.Healthy : Op → Prop
  | .lookup o _ _ => o.LayersOk
  | .info o _ _ => o.LayersOk
  | _ => True

def AllOk (s : St) : Prop := ∀ r d x, mem s r d = some x → x = .ok

/-- a manifest layer that is not cached is still pending: some layer with its TOC digest is not
marked resolved.  This holds under every oracle.  With `AllOk` that layer has no status at all (the
next lookup resolves it); under `Truth.Injective` it is the layer itself, i.e. "ok" implies cached. -/
def Pending (T : Truth) (s : St) : Prop :=
  ∀ r ls d t, T.images r = some ls → (d, t) ∈ ls → lay s r t = none →
    ∃ d', (d', t) ∈ ls ∧ mem s r d' ≠ some .ok

theorem resolve_allOk {o : Oracle} (ho : o.LayersOk) (r : Nat) {s : St} (d t : Nat)
    (hA : AllOk s) : AllOk (resolveLayer o r s (d, t)) := by
  intro r' d' x h
  rw [resolve_mem] at h
  split at h
  · rw [ho r d] at h; exact (Option.some.inj h).symm
  · exact hA _ _ _ h

theorem resolve_pending {T : Truth} (o : Oracle) {r : Nat} {s : St} (hI : Inv T s)
    {ls : List (Nat × Nat)} (hm : T.images r = some ls) (hfun : DigestFun ls) {d t : Nat}
    (hin : (d, t) ∈ ls) (hP : Pending T s) : Pending T (resolveLayer o r s (d, t)) := by
  intro r' ls' d' t' hm' hin' hnone
  have hnone0 : lay s r' t' = none :=
    Classical.byContradiction fun hq => resolve_lay_mono o r hI.key d t hq hnone
  obtain ⟨d2, hd2, hmem2⟩ := hP r' ls' d' t' hm' hin' hnone0
  refine ⟨d2, hd2, ?_⟩
  rw [resolve_mem]
  split
  · -- the pending layer is the one resolved now: had it become "ok", it would be cached
    rename_i hx
    obtain ⟨rfl, rfl, hn⟩ := hx
    cases hm.symm.trans hm'
    cases hfun d2 t' t hd2 hin
    intro hok
    by_cases ho : o.layer r' d2 = true
    · exact resolve_caches hI.key _ hn ho hnone
    · rw [if_neg ho] at hok; cases hok
  · exact hmem2

theorem lookup_pending {T : Truth} (hfun : T.Functional) (o : Oracle) {s : St} (r t : Nat)
    (hI : Inv T s) (hP : Pending T s) : Pending T (lookup T o s r t).1 :=
  (lookup_induct o r t hI (Pending T) (fun _ => hP)
    fun ls hi _ _ _ hin hI' hP' => resolve_pending o hI' hi (hfun r ls hi) hin hP').2

theorem lookup_allOk {T : Truth} {o : Oracle} (ho : o.LayersOk) {s : St} (r t : Nat) (hI : Inv T s)
    (hA : AllOk s) : AllOk (lookup T o s r t).1 :=
  (lookup_induct o r t hI AllOk (fun _ => hA) fun _ _ _ d t _ _ hA' => resolve_allOk ho r d t hA').2

theorem release_allOk {s : St} (r t : Nat) (hA : AllOk s) : AllOk (release s r t).1 := by
  intro r' d x h
  rcases release_mem_le s r t r' d with e | e
  · rw [e] at h; cases h
  · rw [e] at h; exact hA _ _ _ h

theorem release_pending {T : Truth} {s : St} (r t : Nat) (hI : Inv T s) (hP : Pending T s) :
    Pending T (release s r t).1 := by
  have shrink : ∀ r' d, mem s r' d ≠ some .ok → mem (release s r t).1 r' d ≠ some .ok :=
    fun r' d h => (release_mem_le s r t r' d).elim (fun e => e ▸ nofun) fun e => e ▸ h
  intro r' ls d' t' a b c
  rcases release_spec s r t with ⟨k1, _⟩ | ⟨_, l, hd⟩
  · have c : lay s r' t' = none := (congrArg (get2 · r' t') k1).symm.trans c
    obtain ⟨d2, p, q⟩ := hP r' ls d' t' a b c
    exact ⟨d2, p, shrink _ _ q⟩
  · by_cases hx : r' = r ∧ t' = t
    · -- the dropped layer itself: its own resolve status was reset
      obtain ⟨rfl, rfl⟩ := hx
      obtain ⟨ls', a', b'⟩ := hI.member _ _ _ hd.cached
      cases a.symm.trans a'
      exact ⟨l.digest, b', hd.mem_eq ▸ nofun⟩
    · rw [hd.lay_eq, if_neg hx] at c
      obtain ⟨d2, p, q⟩ := hP r' ls d' t' a b c
      exact ⟨d2, p, shrink _ _ q⟩

theorem step_status {T : Truth} (hfun : T.Functional) {s : St} (op : Op) (hI : Inv T s)
    (hP : Pending T s) :
    Pending T (step T s op).1 ∧ (op.Healthy → AllOk s → AllOk (step T s op).1) := by
  rcases step_cases T s op with ⟨o, r, t, rfl⟩ | ⟨r, t, rfl⟩ | ⟨_, _, _, e⟩
  · exact ⟨lookup_pending hfun o r t hI hP, fun ho => lookup_allOk ho r t hI⟩
  · exact ⟨release_pending r t hI hP, fun _ => release_allOk r t⟩
  · rw [e]; exact ⟨hP, fun _ h => h⟩

theorem reach_status (T : Truth) (hfun : T.Functional) (h : List Op) :
    Inv T (run T init h) ∧ Pending T (run T init h) ∧
      ((∀ op, op ∈ h → op.Healthy) → AllOk (run T init h)) :=
  reach_induct T (fun s => Pending T s ∧ ((∀ op, op ∈ h → op.Healthy) → AllOk s)) h
    (fun _ op hop hI hp =>
      have hs := step_status hfun op hI hp.1
      ⟨hs.1, fun hh => hs.2 (hh op hop) (hp.2 hh)⟩)
    ⟨fun _ _ d _ _ hin _ => ⟨d, hin, nofun⟩, fun _ _ _ _ c => nomatch c⟩

/-! ### The outcome of a lookup -/

theorem lookup_res {T : Truth} (o : Oracle) {s : St} (r t : Nat) (hI : Inv T s) :
    ((lookup T o s r t).2 = .err ∧ lay (lookup T o s r t).1 r t = none) ∨
    ∃ l, (lookup T o s r t).2 = .layer l ∧ lay (lookup T o s r t).1 r t = some l := by
  rw [lookup_res_eq, getCached_eq_lay (lookup_inv_ext o r t hI).1.key]
  cases lay (lookup T o s r t).1 r t with
  | none => exact Or.inl ⟨rfl, rfl⟩
  | some l => exact Or.inr ⟨l, rfl, rfl⟩

structure Found (T : Truth) (s' : St) (r t : Nat) (l : Layer) : Prop where
  toc : l.toc = t
  cached : lay s' r t = some l
  live : l.id ∉ s'.done
  member : ∃ ls, T.images r = some ls ∧ (l.digest, t) ∈ ls

theorem lookup_layer {T : Truth} {o : Oracle} {s : St} {r t : Nat} (hI : Inv T s) {l : Layer}
    (h : (lookup T o s r t).2 = .layer l) : Found T (lookup T o s r t).1 r t l := by
  have hI' := (lookup_inv_ext o r t hI).1
  rcases lookup_res o r t hI with ⟨he, _⟩ | ⟨l', hl', hlay⟩
  · rw [he] at h; cases h
  · rw [hl'] at h; cases h
    exact ⟨hI'.key _ _ _ hlay, hlay, hI'.live _ _ _ hlay, hI'.member _ _ _ hlay⟩

theorem lookup_of_cached {T : Truth} (o : Oracle) {s : St} {r t : Nat} (hI : Inv T s) {l : Layer}
    (h : lay s r t = some l) : lookup T o s r t = (s, .layer l) := by
  have hc : getCached s r t = some l := by rw [getCached_eq_lay hI.key]; exact h
  unfold lookup; rw [hc]

theorem lookup_of_resolvable {T : Truth} {o : Oracle} {s : St} {r t : Nat} (hI : Inv T s)
    {ls : List (Nat × Nat)} (hi : T.images r = some ls) (hfun : DigestFun ls)
    (hman : r ∈ s.disk ∨ o.manifest r = true) {d : Nat} (hin : (d, t) ∈ ls)
    (hmem : mem s r d = none) (ho : o.layer r d = true) :
    ∃ l, (lookup T o s r t).2 = .layer l := by
  rcases lookup_res o r t hI with ⟨he, hn⟩ | ⟨l, hl, _⟩
  · exfalso
    rcases lookup_cases T o s r t with ⟨l, _, h⟩ | ⟨_, hl, _⟩ | ⟨ls', dk, hi', h1⟩
    · rw [h] at he; cases he
    · obtain ⟨s1, h1⟩ := loadRef_avail hi hman
      rw [h1] at hl; cases hl
    · cases hi.symm.trans hi'
      rw [h1] at hn
      exact fold_caches hi hfun ls (fun _ h => h) (inv_disk hI dk) hin hmem ho hn
  · exact ⟨l, hl⟩

theorem lookup_err_cause {T : Truth} {o : Oracle} {s : St} {r t : Nat} (hI : Inv T s)
    (hP : Pending T s) {ls : List (Nat × Nat)} (hi : T.images r = some ls) (hfun : DigestFun ls)
    {d : Nat} (hin : (d, t) ∈ ls) (hman : r ∈ s.disk ∨ o.manifest r = true)
    (hfail : (lookup T o s r t).2 = .err) :
    ∃ d', (d', t) ∈ ls ∧ (mem s r d' = some .err ∨ (mem s r d' = none ∧ o.layer r d' = false)) := by
  cases hq : lay s r t with
  | some l => rw [lookup_of_cached o hI hq] at hfail; cases hfail
  | none =>
    obtain ⟨d', hin', hne⟩ := hP r ls d t hi hin hq
    refine ⟨d', hin', ?_⟩
    cases hm : mem s r d' with
    | some x =>
      cases x with
      | ok => exact absurd hm hne
      | err => exact Or.inl rfl
    | none =>
      refine Or.inr ⟨rfl, ?_⟩
      cases ho : o.layer r d' with
      | false => rfl
      | true =>
        obtain ⟨l, hl⟩ := lookup_of_resolvable hI hi hfun hman hin' hm ho
        rw [hl] at hfail; cases hfail

theorem lookup_err_of_nonmember {T : Truth} {o : Oracle} {s : St} {r t : Nat} (hI : Inv T s)
    (hn : ¬ ∃ ls d, T.images r = some ls ∧ (d, t) ∈ ls) : (lookup T o s r t).2 = .err := by
  rcases lookup_res o r t hI with ⟨he, _⟩ | ⟨l, hl, _⟩
  · exact he
  · obtain ⟨ls, hi, hin⟩ := (lookup_layer hI hl).member
    exact absurd ⟨ls, l.digest, hi, hin⟩ hn

theorem lookup_isOk_iff {T : Truth} (hfun : T.Functional) {o : Oracle} (ho : o.Healthy) {s : St}
    {r t : Nat} (hI : Inv T s) (hP : Pending T s) (hA : AllOk s) :
    (lookup T o s r t).2.isOk = true ↔ ∃ ls d, T.images r = some ls ∧ (d, t) ∈ ls := by
  constructor
  · intro hok
    refine Classical.byContradiction fun hn => ?_
    rw [lookup_err_of_nonmember hI hn] at hok; cases hok
  · rintro ⟨ls, d, hi, hin⟩
    cases hq : (lookup T o s r t).2 with
    | err =>
      -- nothing but "ok" is memoised, and the registry refuses nothing now
      obtain ⟨d', _, hm | ⟨_, hr⟩⟩ :=
        lookup_err_cause hI hP hi (hfun r ls hi) hin (Or.inr (ho.1 r)) hq
      · cases hA _ _ _ hm
      · rw [ho.2] at hr; cases hr
    | _ => rfl

theorem lookup_after_last_release {T : Truth} {s : St} (hI : Inv T s) {r t : Nat} {c : Int}
    {l : Layer} (hc : cnt s r t = some c) (h1 : c ≤ 1) (hl : lay s r t = some l)
    (hfun : T.Functional) {o : Oracle}
    (hman : r ∈ s.disk ∨ o.manifest r = true) (ho : o.layer r l.digest = true) :
    ∃ l', (lookup T o (release s r t).1 r t).2 = .layer l' ∧ l'.id ≠ l.id ∧
      l'.id ∉ (lookup T o (release s r t).1 r t).1.done := by
  have hd := release_dropped hc h1 hl
  obtain ⟨_, g3, _⟩ := release_frame s r t
  have hI' := release_inv r t hI
  obtain ⟨ls, hi, hin⟩ := hI.member _ _ _ hl
  obtain ⟨l', hl'⟩ := lookup_of_resolvable hI' hi (hfun r ls hi) (by rw [g3]; exact hman)
    hin hd.mem_eq ho
  have hlive := (lookup_layer hI' hl').live
  refine ⟨l', hl', fun e => hlive ?_, hlive⟩
  -- `Done()` was called on `l` and on no cached instance
  rw [e, (lookup_inv_ext o r t hI').2.dn, hd.done_eq]
  exact List.mem_cons_self ..

end SV.Store
