/-
The end-to-end composition (SV/Model/E2E.lean), under two premises: `Built` (what C03 proves of a built blob) and
`CodecInverse` (the compression is inverted on the members written).  The representations of the three models
commute - member table and blob bytes (`member_slice`, `blobRange_eq`), TOC groups and chunk tables
(`fileGroup_spec`, `wf_file`), the concrete `Under` (`under_read`, behind `under_exact` and
`under_honest_delivers`).  The two-level histories of the C02e2e statements are defined here (`Remote`, `Op`,
`Op.lower`, `threadState`).
-/
import SV.Model.E2E
import SV.Lemmas.Writer
import SV.Lemmas.Blob
import SV.Lemmas.LazyRead

namespace SV.E2E
open SV.Writer (Member TocEnt TarEnt Forall2 EntryToc Group keep IndexOK AllPos UniqueRegNames
  sumClen findMember expect specRead)

/-- The codec premise: on the members the Writer emitted, `enc` produces exactly `clen` bytes (the
count the Writer's counting writer saw) and `dec` is its inverse. Nothing else is assumed. -/
structure CodecInverse (C : Codec) (ms : List Member) : Prop where
  len : ∀ m ∈ ms, (C.enc m).length = m.clen
  inv : ∀ m ∈ ms, C.dec (C.enc m) = some m.payload

theorem flatMap_enc_length (C : Codec) : ∀ (ms : List Member),
    (∀ m ∈ ms, (C.enc m).length = m.clen) → (ms.flatMap C.enc).length = sumClen ms
  | [], _ => rfl
  | m :: ms, h => by
    simp only [List.flatMap_cons, List.length_append, Writer.sumClen_cons]
    rw [h m (by simp), flatMap_enc_length C ms (fun x hx => h x (by simp [hx]))]

/-- `member_slice` for a member given by its place in the list. -/
theorem slice_member (L : Layer) (init rest : List Member) (m : Member)
    (hms : L.members = init ++ m :: rest) (hlen : ∀ m ∈ L.members, (L.codec.enc m).length = m.clen) :
    Blob.slice L.bytes (sumClen init) m.clen = L.codec.enc m ∧
      sumClen init + m.clen ≤ L.bytes.length := by
  have hi : (init.flatMap L.codec.enc).length = sumClen init :=
    flatMap_enc_length _ init fun x hx => hlen x (hms ▸ List.mem_append_left _ hx)
  have hm : (L.codec.enc m).length = m.clen :=
    hlen m (hms ▸ List.mem_append_right _ List.mem_cons_self)
  have hb : L.bytes = init.flatMap L.codec.enc ++
      (L.codec.enc m ++ (rest.flatMap L.codec.enc ++ L.footer)) := by
    rw [Layer.bytes, hms, List.flatMap_append, List.flatMap_cons, List.append_assoc,
      List.append_assoc]
  refine ⟨?_, ?_⟩
  · rw [hb, Blob.slice, ← hi, List.drop_left, ← hm, List.take_left]
  · rw [hb, List.length_append, List.length_append, hi, hm]
    exact Nat.add_le_add_left (Nat.le_add_right _ _) _

theorem findMember_split : ∀ (ms : List Member) (s off : Nat) (m : Member),
    findMember ms s off = some m → ∃ init rest, ms = init ++ m :: rest ∧ s + sumClen init = off
  | [], _, _, _, h => by simp [findMember] at h
  | x :: xs, s, off, m, h => by
    rw [findMember] at h
    split at h
    · next he =>
      cases h
      exact ⟨[], xs, rfl, he.symm⟩
    · obtain ⟨init, rest, h1, h2⟩ := findMember_split xs _ off m h
      exact ⟨x :: init, rest, h1 ▸ rfl, by rw [Writer.sumClen_cons, ← Nat.add_assoc]; exact h2⟩

/-- The member found at `off` occupies `[off, off + clen)` of the blob bytes, which are `enc m`. -/
theorem member_slice (L : Layer) (hlen : ∀ m ∈ L.members, (L.codec.enc m).length = m.clen) {off : Nat}
    {m : Member} (h : findMember L.members 0 off = some m) :
    m ∈ L.members ∧ Blob.slice L.bytes off m.clen = L.codec.enc m ∧
      off + m.clen ≤ L.bytes.length := by
  obtain ⟨init, rest, hms, hoff⟩ := findMember_split _ _ _ _ h
  rw [Nat.zero_add] at hoff
  subst hoff
  exact ⟨by rw [hms]; simp, slice_member L init rest m hms hlen⟩

theorem blobRange_eq {P : Blob.Params} {B : Bytes} (hc : 0 < P.chunk) (hB : B.length = P.size)
    {s : Blob.St} (hs : Blob.InvQ P (Blob.QPrefix P B) s) {reply : Blob.Reply}
    (hr : Blob.HonestReply B reply) {o n : Nat} (hin : o + n ≤ P.size) :
    (blobRange P s reply o n).2 = (Blob.readAt P s o n reply).2.map fun _ => Blob.slice B o n := by
  obtain ⟨_, _, h3⟩ := Blob.readAt_specQ P B _ (Blob.goodQ_prefix P B) hc hB s hs o n reply hr
  unfold blobRange
  rcases hra : Blob.readAt P s o n reply with ⟨s', r⟩
  rw [hra] at h3
  have hmin : min n (P.size - o) = n := by omega
  rcases h3 with h3 | ⟨buf, h4, _, h5⟩
  · simp only at h3
    subst h3
    rfl
  · simp only at h4
    subst h4
    rw [hmin] at h5 ⊢
    simp [h5]

theorem blobRange_exact (P : Blob.Params) (B : Bytes) (hc : 0 < P.chunk) (hB : B.length = P.size)
    (s : Blob.St) (hs : Blob.InvQ P (Blob.QPrefix P B) s) (reply : Blob.Reply)
    (hr : Blob.HonestReply B reply) (o n : Nat) (hin : o + n ≤ P.size) (cb : Bytes)
    (h : (blobRange P s reply o n).2 = some cb) : cb = Blob.slice B o n := by
  rw [blobRange_eq hc hB hs hr hin] at h
  obtain ⟨_, _, h⟩ := Option.map_eq_some_iff.mp h
  exact h.symm

theorem splitGo_chunks (t rest : List TocEnt) (ht : ∀ x ∈ t, x.typ = .chunk) :
    splitGo (t ++ rest) = (t ++ (splitGo rest).1, (splitGo rest).2) := by
  induction t with
  | nil => simp
  | cons x t ih =>
    have hx : x.typ = .chunk := ht x (by simp)
    simp only [List.cons_append, splitGo, hx, if_true]
    rw [ih (fun y hy => ht y (by simp [hy]))]

theorem group_false_chunks {name : String} {total : Nat} :
    ∀ {pos : Nat} {g : List TocEnt}, Group name total false pos g → ∀ y ∈ g, y.typ = .chunk := by
  intro pos g
  induction g generalizing pos with
  | nil => intro _ y hy; simp at hy
  | cons e es ih =>
    intro hg y hy
    rcases List.mem_cons.mp hy with rfl | hy
    · simpa using hg.head.typ
    · exact ih hg.tail y hy

theorem entryToc_headGroup {e : TarEnt} {g : List TocEnt} (h : EntryToc e g) :
    ∃ x t, g = x :: t ∧ x.typ ≠ .chunk ∧ ∀ y ∈ t, y.typ = .chunk := by
  obtain ⟨hsup, h⟩ := h
  split at h
  · rename_i hc
    cases g with
    | nil =>
      simp only [Group] at h
      exact absurd (List.length_eq_zero_iff.mp h.symm) hc.2
    | cons x t =>
      exact ⟨x, t, rfl, by rw [h.head.typ]; simp, group_false_chunks h.tail⟩
  · subst h
    refine ⟨_, [], rfl, ?_, by simp⟩
    intro hc
    simp only at hc
    rw [hc] at hsup
    simp [Writer.supported] at hsup

theorem forall2_get {α β : Type} {R : α → β → Prop} :
    ∀ {as : List α} {bs : List β}, Forall2 R as bs → ∀ j : Nat,
      (as[j]? = none ∧ bs[j]? = none) ∨ ∃ a b, as[j]? = some a ∧ bs[j]? = some b ∧ R a b := by
  intro as bs h
  induction h with
  | nil => exact fun _ => Or.inl ⟨rfl, rfl⟩
  | cons hr _ ih =>
    intro j
    cases j with
    | zero => exact Or.inr ⟨_, _, rfl, rfl, hr⟩
    | succ j => exact ih j

theorem groupsOf_flatten {es : List TarEnt} {gs : List (List TocEnt)}
    (h : Forall2 EntryToc es gs) : groupsOf gs.flatten = gs := by
  have : splitGo gs.flatten = ([], gs) := by
    induction h with
    | nil => rfl
    | cons hr _ ih =>
      obtain ⟨x, t, rfl, hx, ht⟩ := entryToc_headGroup hr
      simp only [List.flatten_cons, List.cons_append, splitGo, hx, if_false]
      rw [splitGo_chunks t _ ht, ih, List.append_nil]
  rw [groupsOf, this]

theorem group_contig {name : String} {total : Nat} :
    ∀ {first : Bool} {pos : Nat} {g : List TocEnt}, Group name total first pos g →
      LazyRead.Contig pos (g.map (chunkOf total)) ∧
        pos + LazyRead.total (g.map (chunkOf total)) = total := by
  intro first pos g
  induction g generalizing first pos with
  | nil =>
    intro h
    exact ⟨trivial, h⟩
  | cons e es ih =>
    intro h
    obtain ⟨i1, i2⟩ := ih h.tail
    exact ⟨⟨h.head.off, h.head.nonempty, i1⟩, (Nat.add_assoc _ _ _).symm.trans i2⟩

/-- The facts about a built blob the composition uses; `built_of_build` / `built_of_writerRun`
(Props/C02e2e.lean) obtain them from C03's theorems. -/
structure Built (ents : List TarEnt) (ms : List Member) (toc : List TocEnt) : Prop where
  pos : AllPos ms
  index : IndexOK ms ents toc
  groups : ∃ gs, toc = gs.flatten ∧ Forall2 EntryToc (keep ents) gs
  uniq : UniqueRegNames ents

theorem content_eq (ents : List TarEnt) (j : Nat) :
    content ents j = match (keep ents)[j]? with
      | some e => if e.typ = .reg then e.data else []
      | none => [] := rfl

/-- File `j` is either "no data" on both sides, or a non-empty regular file whose TOC group is
its chunk list. -/
theorem fileGroup_spec {ents : List TarEnt} {ms : List Member} {toc : List TocEnt}
    (h : Built ents ms toc) (j : Nat) :
    (fileGroup toc j = [] ∧ content ents j = []) ∨
    (∃ e, (keep ents)[j]? = some e ∧ e.typ = .reg ∧ e.data ≠ [] ∧ content ents j = e.data ∧
      Group e.name e.data.length true 0 (fileGroup toc j) ∧ fileSize toc j = e.data.length ∧
      ∀ x ∈ fileGroup toc j, x ∈ toc) := by
  obtain ⟨gs, htoc, hfa⟩ := h.groups
  have hg : groupsOf toc = gs := by rw [htoc]; exact groupsOf_flatten hfa
  rcases forall2_get hfa j with ⟨h1, h2⟩ | ⟨e, g, h1, h2, hr⟩
  · left
    simp only [fileGroup, hg, h2, content_eq, h1, and_self]
  · obtain ⟨x, t, rfl, _, _⟩ := entryToc_headGroup hr
    obtain ⟨hsup, hr⟩ := hr
    split at hr
    · rename_i hc
      right
      have htyp := hr.head.typ
      have hsize := hr.head.size
      have hlen : 0 < e.data.length := List.length_pos_iff.mpr hc.2
      have hfg : fileGroup toc j = x :: t := by
        simp only [fileGroup, hg, h2]
        rw [if_pos]
        refine ⟨by rw [htyp]; simp, ?_⟩
        rw [hsize]; simpa using hlen
      refine ⟨e, h1, hc.1, hc.2, by simp only [content_eq, h1, hc.1, if_true], hfg ▸ hr, ?_, ?_⟩
      · simp only [fileSize, hfg]; rw [hsize]; simp
      · intro y hy
        rw [hfg] at hy
        exact htoc ▸ List.mem_flatten.mpr ⟨x :: t, List.mem_of_getElem? h2, hy⟩
    · rename_i hc
      left
      cases hr
      refine ⟨by simp only [fileGroup, hg, h2, Nat.lt_irrefl, and_false, if_false], ?_⟩
      simp only [content_eq, h1]
      split
      · rename_i hreg
        by_cases hd : e.data = []
        · exact hd
        · exact absurd ⟨hreg, hd⟩ hc
      · rfl

/-- C03's tiling gives C02's `WF` (Contig, cover, size) for EVERY file id. -/
theorem wf_file {ents : List TarEnt} {ms : List Member} {toc : List TocEnt}
    (h : Built ents ms toc) (v : LazyRead.Variant) (j : Nat) :
    LazyRead.WF (content ents) (fileInfo v toc j) := by
  rcases fileGroup_spec h j with ⟨hnil, hcont⟩ | ⟨e, _, _, _, hcont, hgrp, hsize, _⟩
  · refine ⟨?_, ?_, ?_⟩
    · simp only [fileInfo, fileTable, hnil, List.map_nil, LazyRead.Contig]
    · simp only [fileInfo, fileTable, hnil, List.map_nil, LazyRead.total, hcont, List.length_nil]
    · simp only [fileInfo, fileSize, hnil, hcont, List.length_nil]
  · obtain ⟨htiles, hsum⟩ := group_contig hgrp
    refine ⟨?_, ?_, ?_⟩
    · simpa [fileInfo, fileTable, hsize] using htiles
    · simp only [fileInfo, fileTable, hsize, hcont]; omega
    · simp only [fileInfo, hsize, hcont]

/-- Every entry of file `j`'s group reads, by the documented rule, its range of the file: the index
names some regular file of that name, and there is only one. -/
theorem fileGroup_read {ents : List TarEnt} {ms : List Member} {toc : List TocEnt}
    (h : Built ents ms toc) {j : Nat} {x : TocEnt} (hx : x ∈ fileGroup toc j) :
    specRead ms x (content ents j).length = some (expect (content ents j) x) := by
  rcases fileGroup_spec h j with ⟨hnil, _⟩ | ⟨e, he, hreg, _, hcont, hgrp, _, htoc⟩
  · rw [hnil] at hx
    cases hx
  · obtain ⟨hname, hdata, _, _⟩ := Writer.group_bounds hgrp x hx
    have hek := List.mem_filter.mp (List.mem_of_getElem? he)
    obtain ⟨e', he', hkept', hreg', hname', hread, _⟩ := h.index x (htoc x hx) hdata
    have hee : e' = e :=
      h.uniq e' he' e hek.1 hkept' (by simpa using hek.2) hreg' hreg (hname'.trans hname)
    rw [hcont, ← hee]
    exact hread

theorem under_eq {L : Layer} {s : Blob.St} {reply : Blob.Reply} {id : LazyRead.ChunkId} {x : TocEnt}
    {m : Member} (hfe : findEnt L.toc id = some x)
    (hfm : findMember L.members 0 x.offset = some m) :
    under L s reply id = ((blobRange L.params s reply x.offset m.clen).2.bind L.codec.dec).map
      fun p => (p.drop x.innerOffset).take id.size := by
  unfold under underSt
  simp only [hfe, hfm]
  rcases blobRange L.params s reply x.offset m.clen with ⟨s', _ | cb⟩
  · rfl
  · simp only [Option.bind_some]
    cases L.codec.dec cb <;> rfl

theorem member_chunk {ents : List TarEnt} {L : Layer} (h : Built ents L.members L.toc)
    {id : LazyRead.ChunkId} {x : TocEnt} {m : Member} (hfe : findEnt L.toc id = some x)
    (hfm : findMember L.members 0 x.offset = some m) :
    (m.payload.drop x.innerOffset).take id.size = LazyRead.trueChunk (content ents) id := by
  have hxp := List.find?_some hfe
  have hfs : fileSize L.toc id.file = (content ents id.file).length := (wf_file h .mem id.file).size
  simp only [Bool.and_eq_true, decide_eq_true_eq, hfs] at hxp
  have hsr := fileGroup_read h (List.mem_of_find?_eq_some hfe)
  unfold specRead at hsr
  rw [hfm] at hsr
  simp only [Option.some.injEq] at hsr
  rw [← hxp.2, hsr]
  unfold LazyRead.trueChunk LazyRead.slice expect
  rw [← hxp.1, ← hxp.2]

theorem under_read {ents : List TarEnt} {L : Layer} (h : Built ents L.members L.toc)
    (hcodec : CodecInverse L.codec L.members) (hc : 0 < L.blobChunk) {s : Blob.St}
    (hs : Blob.InvQ L.params (Blob.QPrefix L.params L.bytes) s) {reply : Blob.Reply}
    (hr : Blob.HonestReply L.bytes reply) {id : LazyRead.ChunkId} {x : TocEnt} {m : Member}
    (hfe : findEnt L.toc id = some x) (hfm : findMember L.members 0 x.offset = some m) :
    under L s reply id = (Blob.readAt L.params s x.offset m.clen reply).2.map
      fun _ => LazyRead.trueChunk (content ents) id := by
  obtain ⟨hmm, hsl, hle⟩ := member_slice L hcodec.len hfm
  rw [under_eq hfe hfm, blobRange_eq hc rfl hs hr hle]
  cases (Blob.readAt L.params s x.offset m.clen reply).2 with
  | none => rfl
  | some r =>
    rw [Option.map_some, hsl, Option.bind_some, hcodec.inv m hmm, Option.map_some, Option.map_some,
      member_chunk h hfe hfm]

theorem under_exact {ents : List TarEnt} {L : Layer} (h : Built ents L.members L.toc)
    (hcodec : CodecInverse L.codec L.members) (hc : 0 < L.blobChunk)
    (s : Blob.St) (hs : Blob.InvQ L.params (Blob.QPrefix L.params L.bytes) s)
    (reply : Blob.Reply) (hr : Blob.HonestReply L.bytes reply)
    (id : LazyRead.ChunkId) (b : Bytes) (hu : under L s reply id = some b) :
    b = LazyRead.trueChunk (content ents) id := by
  cases hfe : findEnt L.toc id with
  | none => simp [under, underSt, hfe] at hu
  | some x =>
    cases hfm : findMember L.members 0 x.offset with
    | none => simp [under, underSt, hfe, hfm] at hu
    | some m =>
      rw [under_read h hcodec hc hs hr hfe hfm] at hu
      obtain ⟨_, _, hb⟩ := Option.map_eq_some_iff.mp hu
      exact hb.symm

/-- The reply of a server that answers exactly the ranges `blob.ReadAt` requests when chunk `id` is
fetched with the remote cache in state `s` (multi-range or single-range mode). -/
def honestReplyFor (L : Layer) (s : Blob.St) (single : Bool) (id : LazyRead.ChunkId) : Blob.Reply :=
  match findEnt L.toc id with
  | none => .fail
  | some x =>
    match findMember L.members 0 x.offset with
    | none => .fail
    | some m =>
      match Blob.missingFor L.params s x.offset m.clen with
      | none => .fail
      | some ms => Blob.honestAnswer L.bytes (Blob.requestRanges single ms)

theorem honestReplyFor_honest (L : Layer) (s : Blob.St) (single : Bool) (id : LazyRead.ChunkId) :
    Blob.HonestReply L.bytes (honestReplyFor L s single id) := by
  unfold honestReplyFor
  split
  · trivial
  · split
    · trivial
    · split
      · trivial
      · exact Blob.honestAnswer_honest _ _

/-- Against such a server the concrete `Under` delivers the genuine chunk, of the right length,
for every chunk of every file and from every state of the remote cache (truncated entries
included). -/
theorem under_honest_delivers {ents : List TarEnt} {L : Layer} (h : Built ents L.members L.toc)
    (hcodec : CodecInverse L.codec L.members) (hc : 0 < L.blobChunk)
    (s : Blob.St) (hs : Blob.InvQ L.params (Blob.QPrefix L.params L.bytes) s) (single : Bool)
    (j : Nat) (ch : LazyRead.Chunk) (hch : ch ∈ fileTable L.toc j) :
    under L s (honestReplyFor L s single ⟨j, ch.off, ch.size⟩) ⟨j, ch.off, ch.size⟩ =
      some (LazyRead.trueChunk (content ents) ⟨j, ch.off, ch.size⟩) := by
  obtain ⟨x0, hx0, hx0c⟩ := List.mem_map.mp hch
  cases hfe : findEnt L.toc ⟨j, ch.off, ch.size⟩ with
  | none =>
    have := List.find?_eq_none.mp hfe x0 hx0
    simp [← hx0c, chunkOf] at this
  | some x =>
    have hsr := fileGroup_read h (List.mem_of_find?_eq_some hfe)
    cases hfm : findMember L.members 0 x.offset with
    | none => simp [specRead, hfm] at hsr
    | some m =>
      obtain ⟨ms, hmiss, hne⟩ :=
        Blob.readAt_honest_ok L.params L.bytes hc rfl s x.offset m.clen single
      obtain ⟨r, hr⟩ := Option.ne_none_iff_exists'.mp hne
      have hrep : honestReplyFor L s single ⟨j, ch.off, ch.size⟩ =
          Blob.honestAnswer L.bytes (Blob.requestRanges single ms) := by
        simp [honestReplyFor, hfe, hfm, hmiss]
      rw [hrep, under_read h hcodec hc hs (Blob.honestAnswer_honest _ _) hfe hfm, hr, Option.map_some]

/-- The remote side as one lazy-read operation meets it: for every chunk fetch of the operation,
the history of the remote blob cache up to that fetch (reads, `Cache` calls, entry loss, entry
truncation, each with its own server reply) and the server's reply to the fetch itself. -/
structure Remote where
  hist : LazyRead.ChunkId → List Blob.Op
  reply : LazyRead.ChunkId → Blob.Reply

def Remote.env (L : Layer) (R : Remote) : LazyRead.ChunkId → Blob.St × Blob.Reply :=
  fun id => (Blob.runOps L.params {} (R.hist id), R.reply id)

/-- The server never sends wrong bytes (it may fail, or send short bodies). -/
def Remote.Honest (B : Bytes) (R : Remote) : Prop :=
  ∀ id, (∀ op ∈ R.hist id, op.Honest B) ∧ Blob.HonestReply B (R.reply id)

/-- One operation of an access history of the mounted layer, at BOTH cache levels: the FUSE-side
operation on the uncompressed chunk cache together with what the remote blob cache went through. -/
inductive Op
  | read (j : Nat) (v : LazyRead.Variant) (off n : Nat) (R : Remote)
  | store (id : LazyRead.ChunkId) (R : Remote)
  | cacheFiles (filter : Nat → Bool) (js : List (Nat × LazyRead.Variant)) (R : Remote)
  | evict (id : LazyRead.ChunkId)
  | truncate (id : LazyRead.ChunkId) (k : Nat)

/-- The same operation in the vocabulary of the lazy-read model, `Under` made concrete. -/
def Op.lower (L : Layer) : Op → LazyRead.Op
  | .read j v off n R => .read (fileInfo v L.toc j) off n (underOf L (R.env L))
  | .store id R => .store id (underOf L (R.env L))
  | .cacheFiles fl js R =>
    .cacheFiles fl (js.map fun jv => fileInfo jv.2 L.toc jv.1) (underOf L (R.env L))
  | .evict id => .evict id
  | .truncate id k => .truncate id k

def Op.Honest (B : Bytes) : Op → Prop
  | .read _ _ _ _ R => R.Honest B
  | .store _ R => R.Honest B
  | .cacheFiles _ _ R => R.Honest B
  | .evict _ => True
  | .truncate _ _ => True

theorem hist_inv {L : Layer} (hc : 0 < L.blobChunk) {h : List Blob.Op}
    (hh : ∀ op ∈ h, op.Honest L.bytes) :
    Blob.InvQ L.params (Blob.QPrefix L.params L.bytes) (Blob.runOps L.params {} h) :=
  (Blob.runOps_prefix L.params L.bytes hc rfl h {} (Blob.invQ_init _ _) hh).1

/-- Every chunk the concrete `Under` delivers is the genuine one - whatever `verify` says. -/
theorem underOf_exact {ents : List TarEnt} {L : Layer} (h : Built ents L.members L.toc)
    (hcodec : CodecInverse L.codec L.members) (hc : 0 < L.blobChunk) (R : Remote)
    (hR : R.Honest L.bytes) (id : LazyRead.ChunkId) (b : Bytes)
    (hu : underOf L (R.env L) id = some b) : b = LazyRead.trueChunk (content ents) id :=
  under_exact h hcodec hc _ (hist_inv hc (hR id).1) _ (hR id).2 id b hu

theorem underOf_honest {ents : List TarEnt} {L : Layer} (h : Built ents L.members L.toc)
    (hcodec : CodecInverse L.codec L.members) (hc : 0 < L.blobChunk) (E : LazyRead.Env)
    (R : Remote) (hR : R.Honest L.bytes) :
    LazyRead.Honest (content ents) E (underOf L (R.env L)) :=
  fun id b hu _ _ => underOf_exact h hcodec hc R hR id b hu

theorem lower_ok {ents : List TarEnt} {L : Layer} (h : Built ents L.members L.toc)
    (hcodec : CodecInverse L.codec L.members) (hc : 0 < L.blobChunk) (E : LazyRead.Env)
    (op : Op) (ho : op.Honest L.bytes) : LazyRead.OpOK (content ents) E (op.lower L) := by
  cases op with
  | read j v off n R => exact ⟨wf_file h v j, underOf_honest h hcodec hc E R ho⟩
  | store id R => exact underOf_honest h hcodec hc E R ho
  | cacheFiles fl js R => exact underOf_honest h hcodec hc E R ho
  | evict id => trivial
  | truncate id k => trivial

/-- What a chunk fetch does to the remote blob cache, as a blob-level history: one `ReadAt` of the
member range (nothing when the chunk or its member is not found). -/
def fetchOps (L : Layer) (reply : Blob.Reply) (id : LazyRead.ChunkId) : List Blob.Op :=
  match findEnt L.toc id with
  | none => []
  | some x =>
    match findMember L.members 0 x.offset with
    | none => []
    | some m => [.read x.offset m.clen reply]

theorem underSt_state (L : Layer) (s : Blob.St) (reply : Blob.Reply) (id : LazyRead.ChunkId) :
    (underSt L s reply id).1 = Blob.runOps L.params s (fetchOps L reply id) := by
  unfold underSt fetchOps
  cases findEnt L.toc id with
  | none => rfl
  | some x =>
    simp only
    cases findMember L.members 0 x.offset with
    | none => rfl
    | some m =>
      simp only [Blob.runOps, List.foldl_cons, List.foldl_nil, Blob.stepOp, blobRange]
      rcases Blob.readAt L.params s x.offset m.clen reply with ⟨s', _ | ⟨k, buf⟩⟩
      · rfl
      · simp only
        by_cases hk : k = m.clen
        · rw [if_pos hk]
          simp only
          cases L.codec.dec (buf.take k) <;> rfl
        · rw [if_neg hk]

/-- The remote state the fetch of `id` meets when the operation fetches the chunks `order` one after
the other, each fetch leaving the remote cache as `underSt` says (the first occurrence of `id` in
`order` counts; an id not in `order` meets the state after all of them). -/
def threadState (L : Layer) (rs : LazyRead.ChunkId → Blob.Reply) :
    Blob.St → List LazyRead.ChunkId → LazyRead.ChunkId → Blob.St
  | s, [], _ => s
  | s, k :: ks, id => if k = id then s else threadState L rs (underSt L s (rs k) k).1 ks id

/-- The same as blob-level histories. -/
def threadHist (L : Layer) (rs : LazyRead.ChunkId → Blob.Reply) :
    List Blob.Op → List LazyRead.ChunkId → LazyRead.ChunkId → List Blob.Op
  | h, [], _ => h
  | h, k :: ks, id => if k = id then h else threadHist L rs (h ++ fetchOps L (rs k) k) ks id

/-- The remote side of an operation that starts after the remote history `h0` and threads the
remote state through its fetches in the order `order`. -/
def Remote.threaded (L : Layer) (h0 : List Blob.Op) (order : List LazyRead.ChunkId)
    (rs : LazyRead.ChunkId → Blob.Reply) : Remote :=
  ⟨threadHist L rs h0 order, rs⟩

theorem threadState_eq (L : Layer) (rs : LazyRead.ChunkId → Blob.Reply) :
    ∀ (order : List LazyRead.ChunkId) (h : List Blob.Op) (id : LazyRead.ChunkId),
      threadState L rs (Blob.runOps L.params {} h) order id =
        Blob.runOps L.params {} (threadHist L rs h order id) := by
  intro order
  induction order with
  | nil => intro h id; rfl
  | cons k ks ih =>
    intro h id
    simp only [threadState, threadHist]
    split
    · rfl
    · rw [underSt_state, ← ih]
      simp [Blob.runOps, List.foldl_append]

theorem fetchOps_honest (L : Layer) (reply : Blob.Reply) (hr : Blob.HonestReply L.bytes reply)
    (id : LazyRead.ChunkId) : ∀ op ∈ fetchOps L reply id, op.Honest L.bytes := by
  unfold fetchOps
  cases findEnt L.toc id with
  | none => intro op h; simp at h
  | some x =>
    simp only
    cases findMember L.members 0 x.offset with
    | none => intro op h; simp at h
    | some m => intro op h; simp only [List.mem_singleton] at h; subst h; exact hr

theorem threadHist_honest (L : Layer) (rs : LazyRead.ChunkId → Blob.Reply)
    (hrs : ∀ id, Blob.HonestReply L.bytes (rs id)) :
    ∀ (order : List LazyRead.ChunkId) (h : List Blob.Op) (id : LazyRead.ChunkId),
      (∀ op ∈ h, op.Honest L.bytes) → ∀ op ∈ threadHist L rs h order id, op.Honest L.bytes := by
  intro order
  induction order with
  | nil => intro h id hh; exact hh
  | cons k ks ih =>
    intro h id hh
    simp only [threadHist]
    split
    · exact hh
    · exact ih _ _ (List.forall_mem_append.mpr ⟨hh, fetchOps_honest L (rs k) (hrs k) k⟩)

theorem threaded_honest (L : Layer) (h0 : List Blob.Op) (order : List LazyRead.ChunkId)
    (rs : LazyRead.ChunkId → Blob.Reply) (hh : ∀ op ∈ h0, op.Honest L.bytes)
    (hrs : ∀ id, Blob.HonestReply L.bytes (rs id)) : (Remote.threaded L h0 order rs).Honest L.bytes :=
  fun id => ⟨threadHist_honest L rs hrs order h0 id hh, hrs id⟩

end SV.E2E
