import SV.Model.Refcount
/-
Lemmas for C10.  `RCok` is the invariant of one refCounter, `CInv` that of the shared `Core`.  `Stores mem c` is
what both caches share (a value is stored iff its `finalizeOnce` has not fired); `TInv` and `LInv0` are it,
written out for the map and for the list (other files read their fields by name), and every operation of either
cache is one of its moves `newTok`, `release`, `evict`, `addNew`, as the case equations of the operations show.
"Nothing leaks" is `drain_spec`.
-/
namespace SV.Refcount

/-! ## refCounter -/

@[simp] theorem RC.inc_key (r : RC) : r.inc.key = r.key := rfl
@[simp] theorem RC.inc_val (r : RC) : r.inc.val = r.val := rfl
@[simp] theorem RC.inc_finDone (r : RC) : r.inc.finDone = r.finDone := rfl

theorem RC.dec_eq (r : RC) :
    r.dec = { r with refs := r.refs - 1, calls := r.calls + if r.refs ≤ 1 then 1 else 0 } := by
  unfold RC.dec
  split
  · rw [if_pos (by omega)]
  · rw [if_neg (by omega)]; rfl

@[simp] theorem RC.dec_key (r : RC) : r.dec.key = r.key := by rw [RC.dec_eq]
@[simp] theorem RC.dec_val (r : RC) : r.dec.val = r.val := by rw [RC.dec_eq]
@[simp] theorem RC.dec_finDone (r : RC) : r.dec.finDone = r.finDone := by rw [RC.dec_eq]

theorem RC.finalize_of_finDone (r : RC) (h : r.finDone = true) : r.finalize = r := by
  rw [RC.finalize, if_pos h]

theorem RC.finalize_of_live (r : RC) (h : r.finDone = false) :
    r.finalize = RC.dec { r with finDone := true } := by
  rw [RC.finalize, if_neg (by simp [h]), RC.dec_eq, RC.dec_eq]

@[simp] theorem RC.finalize_key (r : RC) : r.finalize.key = r.key := by
  unfold RC.finalize; split <;> simp
@[simp] theorem RC.finalize_val (r : RC) : r.finalize.val = r.val := by
  unfold RC.finalize; split <;> simp
@[simp] theorem RC.finalize_finDone (r : RC) : r.finalize.finDone = true := by
  unfold RC.finalize; split <;> simp_all

/-- The per-value invariant, `h` being the number of unreleased closures of the value:
one reference for the cache membership (dropped by `finalize`) plus one per holder; the callback
has run iff both are gone, and then exactly once. -/
def RCok (r : RC) (h : Nat) : Prop :=
  r.initDone = true ∧
  r.refs = (if r.finDone then 0 else 1) + (h : Int) ∧
  r.calls = if r.finDone = true ∧ h = 0 then 1 else 0

theorem RCok.calls_eq_zero {r : RC} {h : Nat} (ok : RCok r h) (hl : r.finDone = false ∨ 0 < h) :
    r.calls = 0 := by
  rw [ok.2.2, if_neg]
  intro ⟨hf, h0⟩
  rcases hl with hl | hl
  · rw [hf] at hl; cases hl
  · omega

theorem RCok.inc {r : RC} {h : Nat} (ok : RCok r h) (nf : r.finDone = false) : RCok r.inc (h + 1) := by
  refine ⟨ok.1, ?_, ?_⟩
  · show r.refs + 1 = _
    rw [ok.2.1, RC.inc_finDone]; omega
  · show r.calls = _
    rw [ok.calls_eq_zero (Or.inl nf), if_neg (by omega)]

/-- `dec` of a counted reference: the count was positive, so the callback had not run, and it runs
now iff this was the last reference. -/
theorem RCok.dec {r : RC} {h : Nat} (ok : RCok r (h + 1)) : RCok r.dec h := by
  have hc := ok.calls_eq_zero (Or.inr (Nat.succ_pos h))
  obtain ⟨hi, hr, -⟩ := ok
  have last : r.refs ≤ 1 ↔ r.finDone = true ∧ h = 0 := by
    rw [hr]; cases r.finDone <;> simp <;> omega
  rw [RC.dec_eq]
  refine ⟨hi, ?_, ?_⟩
  · show r.refs - 1 = (if r.finDone then 0 else 1) + (h : Int)
    rw [hr]; omega
  · show r.calls + (if r.refs ≤ 1 then 1 else 0) = _
    rw [hc, Nat.zero_add]
    simp only [last]

theorem RCok.finalize {r : RC} {h : Nat} (ok : RCok r h) : RCok r.finalize h := by
  cases hf : r.finDone
  · -- `finalize` of a live value is `dec` of that value with the flag set: there the membership
    -- reference counts like that of one more holder
    rw [RC.finalize_of_live r hf]
    apply RCok.dec
    refine ⟨ok.1, ?_, ?_⟩
    · show r.refs = 0 + ((h + 1 : Nat) : Int)
      rw [ok.2.1, hf]; simp only [Bool.false_eq_true, if_false]; omega
    · show r.calls = _
      rw [ok.calls_eq_zero (Or.inl hf), if_neg (by omega)]
  · rw [RC.finalize_of_finDone r hf]; exact ok

theorem RCok.fresh (k v : Nat) : RCok (RC.initialize { key := k, val := v }) 0 := by
  simp [RCok, RC.initialize, RC.inc]

theorem RCok.calls_le_one {r : RC} {h : Nat} (ok : RCok r h) : r.calls ≤ 1 := by
  have := ok.2.2; split at this <;> omega

theorem RCok.calls_iff {r : RC} {h : Nat} (ok : RCok r h) : r.calls = 1 ↔ (r.finDone = true ∧ h = 0) := by
  rw [ok.2.2]
  split <;> simp [*]

theorem RCok.refs_eq {r : RC} {h : Nat} (ok : RCok r h) :
    r.refs = (if r.finDone = false then 1 else 0) + (h : Int) := by
  rw [ok.2.1]
  cases r.finDone <;> rfl

/-! ## closures held -/

theorem held_append_one (toks : List Tok) (id id' : Nat) :
    held (toks ++ [{ rc := id' }]) id = held toks id + (if id' = id then 1 else 0) := by
  simp [held, List.countP_append, List.countP_cons]

theorem held_eq_zero_of_fresh (toks : List Tok) (id : Nat) (h : ∀ t ∈ toks, t.rc < id) :
    held toks id = 0 := by
  simp only [held, List.countP_eq_zero]
  intro t ht
  have := h t ht
  simp; intro e; omega

theorem held_pos_of_tok {toks : List Tok} {tok : Nat} {t : Tok} (ht : toks[tok]? = some t)
    (hn : t.once = false) : 0 < held toks t.rc := by
  simp only [held, List.countP_pos_iff]
  exact ⟨t, List.mem_of_getElem? ht, by simp [hn]⟩

theorem held_set_released {toks : List Tok} {tok : Nat} {t : Tok} (ht : toks[tok]? = some t)
    (hn : t.once = false) (id : Nat) :
    held (toks.set tok { t with once := true }) id = held toks id - (if t.rc = id then 1 else 0) := by
  obtain ⟨hlt, hget⟩ := List.getElem_of_getElem? ht
  simp only [held]
  rw [List.countP_set hlt]
  simp [hget, hn]

theorem held_zero_of_all_released {toks : List Tok} (h : ∀ t ∈ toks, t.once = true) (id : Nat) :
    held toks id = 0 := by
  simp only [held, List.countP_eq_zero]
  intro t ht
  simp [h t ht]

/-! ## the shared core -/

theorem getElem?_concat_some {α} {l : List α} {x r : α} {j : Nat} (h : (l ++ [x])[j]? = some r) :
    l[j]? = some r ∨ (j = l.length ∧ r = x) := by
  rcases Nat.lt_trichotomy j l.length with hlt | heq | hgt
  · rw [List.getElem?_append_left hlt] at h; exact Or.inl h
  · subst heq; rw [List.getElem?_concat_length] at h; cases h; exact Or.inr ⟨rfl, rfl⟩
  · rw [List.getElem?_eq_none (by simp; omega)] at h; cases h

theorem getElem?_concat_of {α} {l : List α} {x : α} {i : Nat} (h : l[i]? = some x) (a : α) :
    (l ++ [a])[i]? = some x := by
  rw [List.getElem?_append_left (List.getElem_of_getElem? h).1]; exact h

theorem modify_eq_self_of {α} {l : List α} {i : Nat} {f : α → α} (h : ∀ a, l[i]? = some a → f a = a) :
    l.modify i f = l := by
  apply List.ext_getElem?
  intro j
  rw [List.getElem?_modify]
  cases hj : l[j]? with
  | none => rfl
  | some a =>
    by_cases e : i = j
    · subst e; simp [h a hj]
    · simp [e]

structure CInv (c : Core) : Prop where
  ok : ∀ id r, c.rcs[id]? = some r → RCok r (held c.toks id)
  tokLt : ∀ t ∈ c.toks, t.rc < c.rcs.length

theorem CInv.init : CInv {} := ⟨by intro id r h; simp at h, by intro t h; simp at h⟩

theorem CInv.modify {c : Core} (inv : CInv c) {id : Nat} {f : RC → RC} {toks' : List Tok}
    (hf : ∀ r, c.rcs[id]? = some r → RCok (f r) (held toks' id))
    (hheld : ∀ j, j ≠ id → held toks' j = held c.toks j)
    (hlt : ∀ t ∈ toks', t.rc < c.rcs.length) :
    CInv { rcs := c.rcs.modify id f, toks := toks' } := by
  refine ⟨?_, by simpa using hlt⟩
  intro j r' h
  rw [List.getElem?_modify] at h
  obtain ⟨r, hr, rfl⟩ := Option.map_eq_some_iff.mp h
  by_cases e : id = j
  · subst e; rw [if_pos rfl]; exact hf r hr
  · rw [if_neg e]
    show RCok r (held toks' j)
    rw [hheld j (Ne.symm e)]; exact inv.ok j r hr

theorem CInv.newTok {c : Core} (inv : CInv c) {id : Nat} {r : RC} (hr : c.rcs[id]? = some r)
    (nf : r.finDone = false) : CInv (c.newTok id) := by
  refine inv.modify (toks' := c.toks ++ [{ rc := id }]) ?_ ?_ ?_
  · intro r' hr'
    rw [hr] at hr'; cases hr'
    rw [held_append_one, if_pos rfl]; exact (inv.ok id r hr).inc nf
  · intro j hj
    rw [held_append_one, if_neg (Ne.symm hj)]; rfl
  · intro t ht
    rcases List.mem_append.mp ht with h | h
    · exact inv.tokLt t h
    · cases List.mem_singleton.mp h
      exact (List.getElem_of_getElem? hr).1

theorem CInv.newRc {c : Core} (inv : CInv c) (k v : Nat) : CInv (c.newRc k v) := by
  constructor
  · intro j r h
    rcases getElem?_concat_some h with h | ⟨rfl, rfl⟩
    · exact inv.ok j r h
    · show RCok _ (held c.toks _)
      rw [held_eq_zero_of_fresh _ _ inv.tokLt]
      exact RCok.fresh k v
  · intro t ht
    have := inv.tokLt t ht
    show t.rc < (c.rcs ++ [_]).length
    rw [List.length_append]; omega

theorem CInv.fin {c : Core} (inv : CInv c) (id : Nat) : CInv (c.fin id) :=
  inv.modify (fun r hr => (inv.ok id r hr).finalize) (fun _ _ => rfl) inv.tokLt

theorem CInv.finOpt {c : Core} (inv : CInv c) (o : Option Nat) : CInv (c.finOpt o) := by
  cases o with
  | none => exact inv
  | some id => exact inv.fin id

theorem Core.release_of_none {c : Core} {tok : Nat} (ht : c.toks[tok]? = none) : c.release tok = c := by
  simp [Core.release, ht]

theorem release_of_released {c : Core} {tok : Nat} {t : Tok} (ht : c.toks[tok]? = some t)
    (ho : t.once = true) : c.release tok = c := by
  simp [Core.release, ht, ho]

theorem Core.release_of_open {c : Core} {tok : Nat} {t : Tok} (ht : c.toks[tok]? = some t)
    (hn : t.once = false) :
    c.release tok = { rcs := c.rcs.modify t.rc RC.dec, toks := c.toks.set tok { t with once := true } } := by
  simp [Core.release, ht, hn]

theorem release_toks {c : Core} {tok : Nat} {t : Tok} (ht : c.toks[tok]? = some t) :
    (c.release tok).toks = c.toks.set tok { t with once := true } := by
  cases ho : t.once with
  | false => rw [Core.release_of_open ht ho]
  | true =>
    obtain ⟨hlt, rfl⟩ := List.getElem_of_getElem? ht
    rw [release_of_released ht ho, ← ho]
    exact (List.set_getElem_self hlt).symm

def Released (c : Core) (i : Nat) : Prop := ∀ t, c.toks[i]? = some t → t.once = true

theorem Core.release_cases (c : Core) (tok : Nat) :
    (Released c tok ∧ c.release tok = c) ∨ ∃ t, c.toks[tok]? = some t ∧ t.once = false ∧
      c.release tok = { rcs := c.rcs.modify t.rc RC.dec, toks := c.toks.set tok { t with once := true } } := by
  cases ht : c.toks[tok]? with
  | none => exact Or.inl ⟨fun _ h => (by rw [ht] at h; cases h), Core.release_of_none ht⟩
  | some t =>
    cases ho : t.once with
    | true => exact Or.inl ⟨fun _ h => (by rw [ht] at h; cases h; exact ho), release_of_released ht ho⟩
    | false => exact Or.inr ⟨t, rfl, ho, Core.release_of_open ht ho⟩

theorem CInv.release {c : Core} (inv : CInv c) (tok : Nat) : CInv (c.release tok) := by
  rcases c.release_cases tok with ⟨-, h⟩ | ⟨t, ht, hn, h⟩ <;> rw [h]
  · exact inv
  · refine inv.modify ?_ ?_ ?_
    · intro r hr
      rw [held_set_released ht hn, if_pos rfl]
      have hp := held_pos_of_tok ht hn
      have ok := inv.ok t.rc r hr
      rw [show held c.toks t.rc = held c.toks t.rc - 1 + 1 by omega] at ok
      exact ok.dec
    · intro j hj
      rw [held_set_released ht hn, if_neg (Ne.symm hj)]; rfl
    · intro t' ht'
      rcases List.mem_or_eq_of_mem_set ht' with h | h
      · exact inv.tokLt t' h
      · subst h; exact inv.tokLt t (List.mem_of_getElem? ht)

theorem release_released_self (c : Core) (tok : Nat) : Released (c.release tok) tok := by
  rcases c.release_cases tok with ⟨hrel, h⟩ | ⟨t, ht, -, h⟩ <;> rw [h]
  · exact hrel
  · intro t' ht'
    rw [List.getElem?_set_self (List.getElem_of_getElem? ht).1] at ht'
    cases ht'; rfl

theorem release_released_mono (c : Core) (tok i : Nat) (hi : Released c i) : Released (c.release tok) i := by
  by_cases e : tok = i
  · exact e ▸ release_released_self c tok
  · rcases c.release_cases tok with ⟨-, h⟩ | ⟨t, -, -, h⟩ <;> rw [h]
    · exact hi
    · intro t' ht'
      rw [List.getElem?_set_ne e] at ht'
      exact hi t' ht'

theorem release_tok_lookup {c : Core} {tok : Nat} {t : Tok} (ht : c.toks[tok]? = some t) :
    (c.release tok).toks[tok]? = some { t with once := true } := by
  rw [release_toks ht]; exact List.getElem?_set_self (List.getElem_of_getElem? ht).1

theorem release_release (c : Core) (tok : Nat) : (c.release tok).release tok = c.release tok := by
  cases ht : (c.release tok).toks[tok]? with
  | none => exact Core.release_of_none ht
  | some t => exact release_of_released ht (release_released_self c tok t ht)

theorem CInv.held_calls {c : Core} (inv : CInv c) {tok : Nat} {t : Tok} (ht : c.toks[tok]? = some t)
    (hn : t.once = false) : ∃ r, c.rcs[t.rc]? = some r ∧ r.calls = 0 := by
  have hlt := inv.tokLt t (List.mem_of_getElem? ht)
  exact ⟨_, List.getElem?_eq_getElem hlt,
    (inv.ok t.rc _ (List.getElem?_eq_getElem hlt)).calls_eq_zero (Or.inr (held_pos_of_tok ht hn))⟩

/-- What the caches look at in a refCounter: key, payload, `finalizeOnce` state. -/
def RC.view (r : RC) : Nat × Nat × Bool := (r.key, r.val, r.finDone)

/-- `l'` differs from `l` in reference counts and callback counters only (`Stores.view`). -/
def ViewEq (l l' : List RC) : Prop := l'.map RC.view = l.map RC.view

theorem ViewEq.symm {a b : List RC} (h : ViewEq a b) : ViewEq b a := Eq.symm h

theorem ViewEq.get {l l' : List RC} (h : ViewEq l l') {j : Nat} {r : RC} (hr : l[j]? = some r) :
    ∃ r', l'[j]? = some r' ∧ r'.key = r.key ∧ r'.val = r.val ∧ r'.finDone = r.finDone := by
  have hj := congrArg (·[j]?) h
  simp only [List.getElem?_map, hr, Option.map_some] at hj
  obtain ⟨r', hr', hv⟩ := Option.map_eq_some_iff.mp hj
  simp only [RC.view, Prod.mk.injEq] at hv
  exact ⟨r', hr', hv⟩

theorem ViewEq.keys {l l' : List RC} (h : ViewEq l l') : l'.map (·.key) = l.map (·.key) := by
  have := congrArg (List.map (·.1)) h
  rw [List.map_map, List.map_map] at this
  exact this

theorem viewEq_modify {l : List RC} {i : Nat} {f : RC → RC} (hf : ∀ r, (f r).view = r.view) :
    ViewEq l (l.modify i f) := by
  apply List.ext_getElem?
  intro j
  rw [List.getElem?_map, List.getElem?_map, List.getElem?_modify]
  cases l[j]? with
  | none => rfl
  | some r => by_cases e : i = j <;> simp [e, hf]

theorem viewEq_newTok (c : Core) (id : Nat) : ViewEq c.rcs (c.newTok id).rcs :=
  viewEq_modify fun _ => rfl

theorem viewEq_release (c : Core) (tok : Nat) : ViewEq c.rcs (c.release tok).rcs := by
  rcases c.release_cases tok with ⟨-, h⟩ | ⟨t, -, -, h⟩ <;> rw [h]
  · exact rfl
  · exact viewEq_modify fun r => by simp [RC.view]

theorem fin_lookup (c : Core) (id j : Nat) :
    (c.fin id).rcs[j]? = (c.rcs[j]?).map (fun a => if id = j then a.finalize else a) :=
  List.getElem?_modify ..

theorem Core.fin_of_finDone {c : Core} {id : Nat} (h : ∀ r, c.rcs[id]? = some r → r.finDone = true) :
    c.fin id = c := by
  show ({ c with rcs := c.rcs.modify id RC.finalize } : Core) = c
  rw [modify_eq_self_of (fun r hr => RC.finalize_of_finDone r (h r hr))]

theorem fin_fin (c : Core) (id : Nat) : (c.fin id).fin id = c.fin id := by
  apply Core.fin_of_finDone
  intro r hr
  rw [fin_lookup] at hr
  obtain ⟨r0, -, rfl⟩ := Option.map_eq_some_iff.mp hr
  rw [if_pos rfl]; exact RC.finalize_finDone r0

theorem fin_keys (c : Core) (id : Nat) : (c.fin id).rcs.map (·.key) = c.rcs.map (·.key) := by
  apply List.ext_getElem?
  intro j
  simp only [List.getElem?_map, fin_lookup]
  cases c.rcs[j]? with
  | none => rfl
  | some r => by_cases e : id = j <;> simp [e]

@[simp] theorem newTok_length (c : Core) (id : Nat) : (c.newTok id).rcs.length = c.rcs.length := by
  simp [Core.newTok]
@[simp] theorem fin_length (c : Core) (id : Nat) : (c.fin id).rcs.length = c.rcs.length := by
  simp [Core.fin]
@[simp] theorem fin_toks (c : Core) (id : Nat) : (c.fin id).toks = c.toks := rfl
@[simp] theorem finOpt_toks (c : Core) (o : Option Nat) : (c.finOpt o).toks = c.toks := by
  cases o <;> rfl
@[simp] theorem newRc_toks (c : Core) (k v : Nat) : (c.newRc k v).toks = c.toks := rfl
@[simp] theorem newTok_toks (c : Core) (id : Nat) : (c.newTok id).toks = c.toks ++ [{ rc := id }] := rfl

theorem valOf_of {c : Core} {id : Nat} {r : RC} (h : c.rcs[id]? = some r) : c.valOf id = r.val := by
  simp [Core.valOf, h]

/-! ## what both caches share -/

/-- `mem k id`: the cache stores value `id` under key `k`.  The stored values are exactly the
refCounters whose `finalizeOnce` has not fired, each under its own key. -/
structure Stores (mem : Nat → Nat → Prop) (c : Core) : Prop where
  core : CInv c
  ok : ∀ k id, mem k id → ∃ r, c.rcs[id]? = some r ∧ r.key = k ∧ r.finDone = false
  live : ∀ id r, c.rcs[id]? = some r → r.finDone = false → mem r.key id

namespace Stores
variable {mem mem' : Nat → Nat → Prop} {c c' : Core}

theorem congr (st : Stores mem c) (h : ∀ k id, mem' k id ↔ mem k id) : Stores mem' c :=
  ⟨st.core, fun k id hm => st.ok k id ((h k id).mp hm), fun id r hr hf => (h _ _).mpr (st.live id r hr hf)⟩

theorem view (st : Stores mem c) (hc : CInv c') (hv : ViewEq c.rcs c'.rcs) : Stores mem c' := by
  refine ⟨hc, ?_, ?_⟩
  · intro k id hm
    obtain ⟨r, hr, hk, hf⟩ := st.ok k id hm
    obtain ⟨r', hr', k', -, f'⟩ := hv.get hr
    exact ⟨r', hr', k'.trans hk, f'.trans hf⟩
  · intro id r' hr' hf'
    obtain ⟨r, hr, k', -, f'⟩ := hv.symm.get hr'
    exact k' ▸ st.live id r hr (f'.trans hf')

theorem newTok (st : Stores mem c) {k id : Nat} (hm : mem k id) : Stores mem (c.newTok id) := by
  obtain ⟨r, hr, -, hf⟩ := st.ok k id hm
  exact st.view (st.core.newTok hr hf) (viewEq_newTok c id)

theorem release (st : Stores mem c) (tok : Nat) : Stores mem (c.release tok) :=
  st.view (st.core.release tok) (viewEq_release c tok)

theorem evict (st : Stores mem c) {k id : Nat} (hm : mem k id) (uniq : ∀ id', mem k id' → id' = id) :
    Stores (fun k' id' => mem k' id' ∧ k' ≠ k) (c.fin id) := by
  obtain ⟨r0, hr0, hk0, -⟩ := st.ok k id hm
  refine ⟨st.core.fin id, ?_, ?_⟩
  · intro k' id' ⟨hm', hne⟩
    obtain ⟨r, hr, hk, hf⟩ := st.ok k' id' hm'
    have hid : id ≠ id' := by
      intro e; subst e
      rw [hr0] at hr; cases hr
      exact hne (hk.symm.trans hk0)
    exact ⟨r, by rw [fin_lookup, hr, Option.map_some, if_neg hid], hk, hf⟩
  · intro j r' hr' hf'
    rw [fin_lookup] at hr'
    obtain ⟨r, hr, rfl⟩ := Option.map_eq_some_iff.mp hr'
    by_cases e : id = j
    · rw [if_pos e, RC.finalize_finDone] at hf'; cases hf'
    · rw [if_neg e] at hf' ⊢
      have hm' := st.live j r hr hf'
      exact ⟨hm', fun ek => e (uniq j (ek ▸ hm')).symm⟩

theorem addNew (st : Stores mem c) (k v : Nat) :
    Stores (fun k' id' => (k' = k ∧ id' = c.rcs.length) ∨ mem k' id')
      ((c.newRc k v).newTok c.rcs.length) := by
  have st1 : Stores (fun k' id' => (k' = k ∧ id' = c.rcs.length) ∨ mem k' id') (c.newRc k v) := by
    refine ⟨st.core.newRc k v, ?_, ?_⟩
    · rintro k' id' (⟨rfl, rfl⟩ | hm)
      · exact ⟨_, List.getElem?_concat_length, rfl, rfl⟩
      · obtain ⟨r, hr, h⟩ := st.ok k' id' hm
        exact ⟨r, getElem?_concat_of hr _, h⟩
    · intro j r hr hf
      rcases getElem?_concat_some hr with h | ⟨rfl, rfl⟩
      · exact Or.inr (st.live j r h hf)
      · exact Or.inl ⟨rfl, rfl⟩
  exact st1.newTok (k := k) (Or.inl ⟨rfl, rfl⟩)

theorem mem_iff (st : Stores mem c) {id : Nat} {r : RC} (hr : c.rcs[id]? = some r) :
    mem r.key id ↔ r.finDone = false := by
  constructor
  · intro hm
    obtain ⟨r', hr', -, hf⟩ := st.ok _ _ hm
    rw [hr] at hr'; cases hr'; exact hf
  · exact st.live id r hr

theorem refs_eq (st : Stores mem c) {id : Nat} {r : RC} (hr : c.rcs[id]? = some r)
    [Decidable (mem r.key id)] :
    r.refs = (if mem r.key id then 1 else 0) + (held c.toks id : Int) := by
  rw [(st.core.ok id r hr).refs_eq]
  simp only [st.mem_iff hr]

theorem calls_iff (st : Stores mem c) {id : Nat} {r : RC} (hr : c.rcs[id]? = some r) :
    r.calls = 1 ↔ (¬ mem r.key id ∧ held c.toks id = 0) := by
  rw [(st.core.ok id r hr).calls_iff, st.mem_iff hr, Bool.not_eq_false]

theorem cached_calls (st : Stores mem c) {k id : Nat} (hm : mem k id) :
    ∃ r, c.rcs[id]? = some r ∧ r.key = k ∧ r.calls = 0 := by
  obtain ⟨r, hr, hk, hf⟩ := st.ok k id hm
  exact ⟨r, hr, hk, (st.core.ok id r hr).calls_eq_zero (Or.inl hf)⟩

theorem newTok_cached (st : Stores mem c) {k id : Nat} (hm : mem k id) :
    ∃ r r', c.rcs[id]? = some r ∧ c.valOf id = r.val ∧
      (c.newTok id).rcs[id]? = some r' ∧ r'.val = r.val ∧ r'.key = k ∧ r'.calls = 0 := by
  obtain ⟨r, hr, -, -⟩ := st.ok k id hm
  obtain ⟨r', hr', hk', hc'⟩ := (st.newTok hm).cached_calls hm
  obtain ⟨r'', hr'', -, hv, -⟩ := (viewEq_newTok c id).get hr
  rw [hr'] at hr''; cases hr''
  exact ⟨r, r', hr, valOf_of hr, hr', hv, hk', hc'⟩

theorem drained (st : Stores mem c) (hrel : ∀ t ∈ c.toks, t.once = true)
    (hvac : ∀ r ∈ c.rcs, ∀ id, ¬ mem r.key id) :
    ∀ (id : Nat) (r : RC), c.rcs[id]? = some r → r.calls = 1 := by
  intro id r hr
  exact (st.calls_iff hr).mpr ⟨hvac r (List.mem_of_getElem? hr) id, held_zero_of_all_released hrel id⟩

end Stores

/-! ## TTLCache -/

/-- Invariant of the TTL cache: `Stores` for the map `m`, written out. -/
structure TInv (s : TTL) : Prop where
  core : CInv s.core
  mOk : ∀ k id, s.m k = some id → ∃ r, s.core.rcs[id]? = some r ∧ r.key = k ∧ r.finDone = false
  live : ∀ id r, s.core.rcs[id]? = some r → r.finDone = false → s.m r.key = some id

theorem TInv.stores {s : TTL} (inv : TInv s) : Stores (fun k id => s.m k = some id) s.core :=
  ⟨inv.core, inv.mOk, inv.live⟩

theorem Stores.tInv {s : TTL} (st : Stores (fun k id => s.m k = some id) s.core) : TInv s :=
  ⟨st.core, st.ok, st.live⟩

theorem TInv.init : TInv {} :=
  ⟨CInv.init, by intro k id h; simp at h, by intro id r h; simp at h⟩

theorem TTL.add_cached {s : TTL} {k id : Nat} (v : Nat) (h : s.m k = some id) :
    s.add k v = ({ s with core := s.core.newTok id }, .got (s.core.valOf id) s.core.toks.length false) := by
  simp [TTL.add, h]

theorem TTL.add_vacant {s : TTL} {k : Nat} (v : Nat) (h : s.m k = none) :
    s.add k v = ({ m := fun k' => if k' = k then some s.core.rcs.length else s.m k',
                   core := (s.core.newRc k v).newTok s.core.rcs.length },
                 .got v s.core.toks.length true) := by
  simp [TTL.add, h]

theorem TTL.get_cached {s : TTL} {k id : Nat} (h : s.m k = some id) :
    s.get k = ({ s with core := s.core.newTok id }, .got (s.core.valOf id) s.core.toks.length true) := by
  simp [TTL.get, h]

theorem TTL.get_vacant {s : TTL} {k : Nat} (h : s.m k = none) : s.get k = (s, .miss) := by
  simp [TTL.get, h]

theorem TTL.evictLocked_of_mem {s : TTL} {k id : Nat} (h : s.m k = some id) :
    s.evictLocked k = { m := fun k' => if k' = k then none else s.m k', core := s.core.fin id } := by
  simp [TTL.evictLocked, h]

theorem TTL.evictLocked_vacant {s : TTL} {k : Nat} (h : s.m k = none) : s.evictLocked k = s := by
  simp [TTL.evictLocked, h]

theorem TTL.evictLocked_toks (s : TTL) (k : Nat) : (s.evictLocked k).core.toks = s.core.toks := by
  unfold TTL.evictLocked; split <;> rfl

theorem TTL.evictLocked_keys (s : TTL) (k : Nat) :
    (s.evictLocked k).core.rcs.map (·.key) = s.core.rcs.map (·.key) := by
  unfold TTL.evictLocked; split
  · exact fin_keys _ _
  · rfl

theorem TTL.evictLocked_m (s : TTL) (k k' : Nat) : (s.evictLocked k).m k' = if k' = k then none else s.m k' := by
  unfold TTL.evictLocked
  split
  · rfl
  · split
    · subst k'; assumption
    · rfl

theorem TTL.evictLocked_none_self (s : TTL) (k : Nat) : (s.evictLocked k).m k = none := by
  rw [TTL.evictLocked_m, if_pos rfl]

theorem TTL.done_none {s : TTL} {tok : Nat} (h : s.core.toks[tok]? = none) (e : Bool) :
    s.done tok e = (s, .badTok) := by
  simp [TTL.done, h]

theorem TTL.done_false_eq (s : TTL) (tok : Nat) :
    (s.done tok false).1 = { s with core := s.core.release tok } := by
  cases h : s.core.toks[tok]? with
  | none => rw [TTL.done_none h, Core.release_of_none h]
  | some t => simp [TTL.done, h]

theorem TTL.done_true_cases {s : TTL} {tok : Nat} {t : Tok} (ht : s.core.toks[tok]? = some t) :
    (∃ r, (s.core.release tok).rcs[t.rc]? = some r ∧ s.m r.key = some t.rc ∧
      (s.done tok true).1 = TTL.evictLocked { s with core := s.core.release tok } r.key) ∨
    ((∀ r, (s.core.release tok).rcs[t.rc]? = some r → s.m r.key ≠ some t.rc) ∧
      (s.done tok true).1 = { s with core := (s.core.release tok).fin t.rc }) := by
  cases hr : (s.core.release tok).rcs[t.rc]? with
  | none =>
    refine Or.inr ⟨fun _ h => (nomatch h), ?_⟩
    simp [TTL.done, ht, fin_lookup, hr]
  | some r =>
    by_cases hm : s.m r.key = some t.rc
    · refine Or.inl ⟨r, rfl, hm, ?_⟩
      rw [TTL.evictLocked_of_mem (s := { s with core := s.core.release tok }) hm]
      simp [TTL.done, ht, fin_lookup, hr, hm]
    · refine Or.inr ⟨fun r' h => (Option.some.inj h) ▸ hm, ?_⟩
      simp [TTL.done, ht, fin_lookup, hr, hm]

theorem TTL.done_true_core {s : TTL} {tok : Nat} {t : Tok} (ht : s.core.toks[tok]? = some t) :
    (s.done tok true).1.core = (s.core.release tok).fin t.rc := by
  rcases TTL.done_true_cases ht with ⟨r, -, hm, h⟩ | ⟨-, h⟩ <;> rw [h]
  rw [TTL.evictLocked_of_mem (s := { s with core := s.core.release tok }) hm]

theorem TTL.done_toks {t : TTL} {tok : Nat} {tk : Tok} (e : Bool) (ht : t.core.toks[tok]? = some tk) :
    (t.done tok e).1.core.toks = t.core.toks.set tok { tk with once := true } := by
  cases e with
  | false => rw [TTL.done_false_eq]; exact release_toks ht
  | true => rw [TTL.done_true_core ht]; exact release_toks ht

/-- `Add` of a key that is not cached, as readings of `TTL.add_vacant` that leave `(t.add k v).1` closed (the
state sits inside larger records where the equation is awkward to rewrite with). -/
structure TTL.AddedNew (t : TTL) (k v : Nat) : Prop where
  res : (t.add k v).2 = .got v t.core.toks.length true
  self : (t.add k v).1.m k = some t.core.rcs.length
  toks : (t.add k v).1.core.toks = t.core.toks ++ [{ rc := t.core.rcs.length }]
  other : ∀ k', k' ≠ k → (t.add k v).1.m k' = t.m k'

theorem TTL.add_vacant_spec {t : TTL} {k : Nat} (v : Nat) (hm : t.m k = none) : TTL.AddedNew t k v := by
  have e := TTL.add_vacant v hm
  exact ⟨by rw [e], by rw [e]; exact if_pos rfl, by rw [e]; rfl, fun k' h => by rw [e]; exact if_neg h⟩

theorem TTL.evict_m_sub {t : TTL} {k : Nat} {k' id : Nat}
    (h : (t.evictLocked k).m k' = some id) : t.m k' = some id := by
  rw [TTL.evictLocked_m] at h
  split at h
  · cases h
  · exact h

theorem TTL.done_m_sub {t : TTL} {tok : Nat} (e : Bool) {k id : Nat}
    (h : (t.done tok e).1.m k = some id) : t.m k = some id := by
  cases ht : t.core.toks[tok]? with
  | none => rwa [TTL.done_none ht] at h
  | some tk =>
    cases e with
    | false => rwa [TTL.done_false_eq] at h
    | true =>
      rcases TTL.done_true_cases ht with ⟨r, -, -, he⟩ | ⟨-, he⟩ <;> rw [he] at h
      · exact TTL.evict_m_sub (t := { t with core := t.core.release tok }) h
      · exact h

theorem TTL.evictLocked_m_other (t : TTL) {k k' : Nat} (hne : k' ≠ k) : (t.evictLocked k).m k' = t.m k' := by
  rw [TTL.evictLocked_m, if_neg hne]

theorem TTL.done_true_spares {s : TTL} {tok : Nat} {t : Tok} (ht : s.core.toks[tok]? = some t)
    {k id' : Nat} (hm : s.m k = some id') (hne : id' ≠ t.rc) : (s.done tok true).1.m k = some id' := by
  rcases TTL.done_true_cases ht with ⟨r, -, hmr, h⟩ | ⟨-, h⟩ <;> rw [h]
  · -- the key evicted is that of the released value, which `k` is not
    refine (TTL.evictLocked_m_other _ fun e => ?_).trans hm
    rw [e, hmr] at hm
    exact hne (Option.some.inj hm).symm
  · exact hm

theorem TTL.done_false_released {s : TTL} {tok : Nat} {t : Tok} (ht : s.core.toks[tok]? = some t)
    (ho : t.once = true) : s.done tok false = (s, .unit) := by
  simp [TTL.done, ht, release_of_released ht ho]

theorem TTL.done_done (s : TTL) (tok : Nat) (e : Bool) :
    ((s.done tok e).1.done tok e).1 = (s.done tok e).1 := by
  cases ht : s.core.toks[tok]? with
  | none => simp only [TTL.done_none ht]
  | some t =>
    cases e with
    | false =>
      rw [TTL.done_false_eq, TTL.done_false_eq]
      show ({ s with core := (s.core.release tok).release tok } : TTL) = _
      rw [release_release]
    | true =>
      -- the first call left the closure released and its value finalised and not stored
      have hcore := TTL.done_true_core ht
      have ht' : (s.done tok true).1.core.toks[tok]? = some { t with once := true } := by
        rw [hcore]; exact release_tok_lookup ht
      have hrel := release_of_released ht' rfl
      rcases TTL.done_true_cases ht' with ⟨r', hr', hm', -⟩ | ⟨-, h⟩
      · exfalso
        rw [hrel, hcore, fin_lookup] at hr'
        obtain ⟨r, hr, rfl⟩ := Option.map_eq_some_iff.mp hr'
        rw [if_pos rfl, RC.finalize_key] at hm'
        rcases TTL.done_true_cases ht with ⟨r1, hr1, -, h⟩ | ⟨hn, h⟩ <;> rw [h] at hm'
        · rw [hr] at hr1; cases hr1
          rw [TTL.evictLocked_none_self] at hm'; cases hm'
        · exact hn r hr hm'
      · have hfin : (s.done tok true).1.core.fin t.rc = (s.done tok true).1.core := by
          rw [hcore, fin_fin]
        rw [h, hrel, hfin]

theorem TInv.evictLocked {s : TTL} (inv : TInv s) (k : Nat) : TInv (s.evictLocked k) := by
  cases hm : s.m k with
  | none => rw [TTL.evictLocked_vacant hm]; exact inv
  | some id =>
    rw [TTL.evictLocked_of_mem hm]
    have st := inv.stores.evict hm (fun id' h => by rw [hm] at h; cases h; rfl)
    refine (st.congr fun k' id' => ?_).tInv
    show (if k' = k then none else s.m k') = some id' ↔ _
    split <;> simp [*]

theorem TInv.add {s : TTL} (inv : TInv s) (k v : Nat) : TInv (s.add k v).1 := by
  cases hm : s.m k with
  | some id => rw [TTL.add_cached v hm]; exact (inv.stores.newTok hm).tInv
  | none =>
    rw [TTL.add_vacant v hm]
    have st := inv.stores.addNew k v
    refine (st.congr fun k' id' => ?_).tInv
    by_cases e : k' = k
    · subst e; simp [hm, eq_comm]
    · simp [e]

theorem TInv.get {s : TTL} (inv : TInv s) (k : Nat) : TInv (s.get k).1 := by
  cases hm : s.m k with
  | some id => rw [TTL.get_cached hm]; exact (inv.stores.newTok hm).tInv
  | none => rw [TTL.get_vacant hm]; exact inv

theorem TInv.done {s : TTL} (inv : TInv s) (tok : Nat) (e : Bool) : TInv (s.done tok e).1 := by
  have inv1 : TInv { s with core := s.core.release tok } := (inv.stores.release tok).tInv
  cases e with
  | false => rw [TTL.done_false_eq]; exact inv1
  | true =>
    cases ht : s.core.toks[tok]? with
    | none => rw [TTL.done_none ht]; exact inv
    | some t =>
      rcases TTL.done_true_cases ht with ⟨r, -, -, h⟩ | ⟨hm, h⟩ <;> rw [h]
      · exact inv1.evictLocked r.key
      · -- not stored, hence finalised already
        rw [Core.fin_of_finDone]
        · exact inv1
        · intro r hr
          cases hf : r.finDone with
          | true => rfl
          | false => exact absurd (inv1.live t.rc r hr hf) (hm r hr)

theorem TInv.done_true_removes_own {s : TTL} (inv : TInv s) {tok : Nat} {t : Tok} {k : Nat}
    (ht : s.core.toks[tok]? = some t) (hm : s.m k = some t.rc) : (s.done tok true).1.m k = none := by
  obtain ⟨r1, hr1, hk1, -⟩ := (inv.stores.release tok).ok k t.rc hm
  rcases TTL.done_true_cases ht with ⟨r, hr, -, h⟩ | ⟨hn, -⟩
  · rw [hr1] at hr; cases hr
    rw [h, hk1]; exact TTL.evictLocked_none_self _ _
  · exact absurd (hk1 ▸ hm) (hn r1 hr1)

theorem TInv.step {s : TTL} (inv : TInv s) (op : TOp) : TInv (s.step op).1 := by
  cases op with
  | add k v => exact inv.add k v
  | get k => exact inv.get k
  | remove k => exact inv.evictLocked k
  | expire k => exact inv.evictLocked k
  | done tok e => exact inv.done tok e

theorem TInv.foldl (ops : List TOp) {s : TTL} (h : TInv s) : TInv (ops.foldl (fun s o => (s.step o).1) s) :=
  List.foldlRecOn ops _ h fun _ h o _ => h.step o

theorem TInv.run (ops : List TOp) : TInv (TTL.run ops) := TInv.foldl ops TInv.init

theorem TTL.run_append (ops ops' : List TOp) :
    TTL.run (ops ++ ops') = ops'.foldl (fun s o => (s.step o).1) (TTL.run ops) :=
  List.foldl_append

/-- The cache still stores value `id` under its key. -/
def TTL.member (s : TTL) (id : Nat) (r : RC) : Prop := s.m r.key = some id

/-! ## LRUCache over groupcache/lru -/

theorem find_some_mem {k id : Nat} : ∀ {o : List (Nat × Nat)}, find k o = some id → (k, id) ∈ o := by
  intro o
  induction o with
  | nil => intro h; cases h
  | cons e o ih =>
    obtain ⟨k', id'⟩ := e
    intro h
    simp only [find] at h
    split at h
    · rename_i ek; cases h; subst ek; exact List.mem_cons_self
    · exact List.mem_cons_of_mem _ (ih h)

theorem find_none_not_mem {k : Nat} : ∀ {o : List (Nat × Nat)}, find k o = none → ∀ id, (k, id) ∉ o := by
  intro o
  induction o with
  | nil => intro _ id h; cases h
  | cons e o ih =>
    obtain ⟨k', id'⟩ := e
    intro h id hm
    simp only [find] at h
    split at h
    · cases h
    · rename_i hne
      rcases List.mem_cons.mp hm with e | e
      · cases e; exact hne rfl
      · exact ih h id e

/-- keys of the list are pairwise distinct (`lru.Cache.cache` is a map). -/
def KeysNodup (o : List (Nat × Nat)) : Prop := o.Pairwise (fun a b => a.1 ≠ b.1)

theorem KeysNodup.unique {o : List (Nat × Nat)} (h : KeysNodup o) {k id id' : Nat}
    (h1 : (k, id) ∈ o) (h2 : (k, id') ∈ o) : id = id' := by
  induction o with
  | nil => cases h1
  | cons e o ih =>
    have hp := List.pairwise_cons.mp h
    rcases List.mem_cons.mp h1 with e1 | e1 <;> rcases List.mem_cons.mp h2 with e2 | e2
    · rw [← e1] at e2; cases e2; rfl
    · subst e1; exact absurd rfl (hp.1 (k, id') e2)
    · subst e2; exact absurd rfl (hp.1 (k, id) e1)
    · exact ih hp.2 e1 e2

theorem find_of_mem {o : List (Nat × Nat)} (h : KeysNodup o) {k id : Nat} (hm : (k, id) ∈ o) :
    find k o = some id := by
  cases hf : find k o with
  | none => exact absurd hm (find_none_not_mem hf id)
  | some id' => rw [h.unique hm (find_some_mem hf)]

theorem mem_eraseKey {k : Nat} {o : List (Nat × Nat)} {e : Nat × Nat} :
    e ∈ eraseKey k o ↔ e ∈ o ∧ e.1 ≠ k := by
  simp [eraseKey, List.mem_filter]

theorem KeysNodup.eraseKey {o : List (Nat × Nat)} (h : KeysNodup o) (k : Nat) : KeysNodup (eraseKey k o) :=
  List.Pairwise.filter _ h

theorem eraseKey_length_lt {k id : Nat} {o : List (Nat × Nat)} (h : (k, id) ∈ o) :
    (eraseKey k o).length < o.length := by
  unfold eraseKey
  rw [List.length_filter_lt_length_iff_exists]
  exact ⟨(k, id), h, by simp⟩

theorem moveToFront_mem {o : List (Nat × Nat)} (hn : KeysNodup o) {k id : Nat} (hm : (k, id) ∈ o)
    (e : Nat × Nat) : e ∈ (k, id) :: eraseKey k o ↔ e ∈ o := by
  rw [List.mem_cons, mem_eraseKey]
  constructor
  · rintro (h | h)
    · exact h ▸ hm
    · exact h.1
  · intro h
    by_cases ek : e.1 = k
    · obtain ⟨k', id'⟩ := e
      cases ek
      exact Or.inl (by rw [hn.unique h hm])
    · exact Or.inr ⟨h, ek⟩

theorem moveToFront_nodup {o : List (Nat × Nat)} (hn : KeysNodup o) (k id : Nat) :
    KeysNodup ((k, id) :: eraseKey k o) :=
  List.pairwise_cons.mpr ⟨fun _ he h => (mem_eraseKey.mp he).2 h.symm, hn.eraseKey k⟩

theorem eraseKey_last {ys : List (Nat × Nat)} {a : Nat × Nat} (h : KeysNodup (ys ++ [a])) :
    eraseKey a.1 (ys ++ [a]) = ys := by
  have hp := List.pairwise_append.mp h
  unfold eraseKey
  rw [List.filter_append]
  have h1 : List.filter (fun e => e.1 != a.1) ys = ys := by
    rw [List.filter_eq_self]
    intro e he
    have := hp.2.2 e he a (by simp)
    simpa using this
  have h2 : List.filter (fun e => e.1 != a.1) [a] = [] := by simp
  rw [h1, h2, List.append_nil]

theorem innerGet_of_find_some {o : List (Nat × Nat)} {k id : Nat} (h : find k o = some id) :
    innerGet o k = ((k, id) :: eraseKey k o, some id) := by simp [innerGet, h]

theorem innerGet_of_find_none {o : List (Nat × Nat)} {k : Nat} (h : find k o = none) :
    innerGet o k = (o, none) := by simp [innerGet, h]

theorem LRU.add_cached {s : LRU} {k id : Nat} (v : Nat) (h : find k s.order = some id) :
    s.add k v = ({ s with order := (k, id) :: eraseKey k s.order, core := s.core.newTok id },
      .got (s.core.valOf id) s.core.toks.length false) := by
  simp [LRU.add, innerGet_of_find_some h]

theorem LRU.add_vacant_cases {s : LRU} {k : Nat} (v : Nat) (h : find k s.order = none) :
    (s.cap ≠ 0 ∧ s.order.length + 1 > s.cap ∧ ∃ ys a, (k, s.core.rcs.length) :: s.order = ys ++ [a] ∧
      (s.add k v).1 =
        { s with order := ys, core := ((s.core.newRc k v).newTok s.core.rcs.length).fin a.2 }) ∨
    (¬ (s.cap ≠ 0 ∧ s.order.length + 1 > s.cap) ∧
      (s.add k v).1 =
        { s with order := (k, s.core.rcs.length) :: s.order, core := (s.core.newRc k v).newTok s.core.rcs.length }) := by
  simp only [LRU.add, innerGet_of_find_none h, innerAdd, h, List.length_cons]
  split
  · rename_i hcap
    obtain ⟨ys, a, e⟩ : ∃ ys a, (k, s.core.rcs.length) :: s.order = ys ++ [a] :=
      ⟨_, _, (List.dropLast_concat_getLast (List.cons_ne_nil _ _)).symm⟩
    refine Or.inl ⟨hcap.1, hcap.2, ys, a, e, ?_⟩
    rw [e, List.dropLast_concat, List.getLast?_concat]; rfl
  · rename_i hcap
    exact Or.inr ⟨hcap, rfl⟩

theorem LRU.done_eq (s : LRU) (tok : Nat) : (s.done tok).1 = { s with core := s.core.release tok } := by
  cases h : s.core.toks[tok]? with
  | none => simp [LRU.done, h, Core.release_of_none h]
  | some t => simp [LRU.done, h]

theorem LRU.done_order (s : LRU) (tok : Nat) : (s.done tok).1.order = s.order := by
  rw [LRU.done_eq]

theorem LRU.done_released {s : LRU} {tok : Nat} {t : Tok} (ht : s.core.toks[tok]? = some t)
    (ho : t.once = true) : s.done tok = (s, .unit) := by
  simp [LRU.done, ht, release_of_released ht ho]

theorem LRU.done_done (s : LRU) (tok : Nat) : ((s.done tok).1.done tok).1 = (s.done tok).1 := by
  rw [LRU.done_eq, LRU.done_eq]
  show ({ s with core := (s.core.release tok).release tok } : LRU) = _
  rw [release_release]

theorem LRU.remove_toks (s : LRU) (k : Nat) : (s.remove k).core.toks = s.core.toks := by
  unfold LRU.remove; split <;> rfl

theorem LRU.remove_keys (s : LRU) (k : Nat) :
    (s.remove k).core.rcs.map (·.key) = s.core.rcs.map (·.key) := by
  unfold LRU.remove; split
  · exact fin_keys _ _
  · rfl

theorem LRU.remove_vacant_self (s : LRU) (k : Nat) : ∀ id, (k, id) ∉ (s.remove k).order := by
  unfold LRU.remove; split
  · intro id h; exact (mem_eraseKey.mp h).2 rfl
  · rename_i h; exact find_none_not_mem h

theorem LRU.remove_vacant_mono (s : LRU) (k k' : Nat) (h : ∀ id, (k', id) ∉ s.order) :
    ∀ id, (k', id) ∉ (s.remove k).order := by
  unfold LRU.remove; split
  · intro id hm; exact h id (mem_eraseKey.mp hm).1
  · exact h

/-- The part of the invariant that does not mention the capacity. -/
structure LInv0 (o : List (Nat × Nat)) (c : Core) : Prop where
  core : CInv c
  nodup : KeysNodup o
  oOk : ∀ k id, (k, id) ∈ o → ∃ r, c.rcs[id]? = some r ∧ r.key = k ∧ r.finDone = false
  live : ∀ id r, c.rcs[id]? = some r → r.finDone = false → (r.key, id) ∈ o

structure LInv (s : LRU) : Prop where
  inv0 : LInv0 s.order s.core
  capOk : s.cap ≠ 0 → s.order.length ≤ s.cap

theorem LInv0.stores {o : List (Nat × Nat)} {c : Core} (inv : LInv0 o c) :
    Stores (fun k id => (k, id) ∈ o) c :=
  ⟨inv.core, inv.oOk, inv.live⟩

theorem Stores.lInv0 {o : List (Nat × Nat)} {c : Core} (st : Stores (fun k id => (k, id) ∈ o) c)
    (hn : KeysNodup o) : LInv0 o c :=
  ⟨st.core, hn, st.ok, st.live⟩

theorem LInv.init (cap : Nat) : LInv { cap := cap } :=
  ⟨⟨CInv.init, List.Pairwise.nil, fun _ _ h => (nomatch h), fun _ _ h => (nomatch h)⟩, fun _ => Nat.zero_le _⟩

/-- `removeElement` of a present entry followed by `OnEvicted` (= `finalize`). -/
theorem LInv0.evict {o : List (Nat × Nat)} {c : Core} (inv : LInv0 o c) {k id : Nat}
    (hmem : (k, id) ∈ o) : LInv0 (eraseKey k o) (c.fin id) :=
  ((inv.stores.evict hmem fun _ h => inv.nodup.unique h hmem).congr fun _ _ => mem_eraseKey).lInv0
    (inv.nodup.eraseKey k)

theorem LInv0.push {o : List (Nat × Nat)} {c : Core} (inv : LInv0 o c) {k : Nat} (v : Nat)
    (hk : ∀ id, (k, id) ∉ o) :
    LInv0 ((k, c.rcs.length) :: o) ((c.newRc k v).newTok c.rcs.length) := by
  refine ((inv.stores.addNew k v).congr fun k' id' => ?_).lInv0 ?_
  · rw [List.mem_cons, Prod.mk.injEq]
  · exact List.pairwise_cons.mpr ⟨fun e he ek => hk e.2 (by cases e; cases ek; exact he), inv.nodup⟩

theorem LInv.hit {s : LRU} (inv : LInv s) {k id : Nat} (h : find k s.order = some id) :
    LInv { s with order := (k, id) :: eraseKey k s.order, core := s.core.newTok id } := by
  have hmem := find_some_mem h
  refine ⟨((inv.inv0.stores.newTok hmem).congr fun k' id' =>
    moveToFront_mem inv.inv0.nodup hmem (k', id')).lInv0 (moveToFront_nodup inv.inv0.nodup k id), ?_⟩
  intro hc
  exact Nat.le_trans (eraseKey_length_lt hmem) (inv.capOk hc)

theorem LInv.add {s : LRU} (inv : LInv s) (k v : Nat) : LInv (s.add k v).1 := by
  cases hf : find k s.order with
  | some id => rw [LRU.add_cached v hf]; exact inv.hit hf
  | none =>
    -- a miss is a `push`, followed by an `evict` of the oldest entry when the capacity is exceeded
    have hpush := inv.inv0.push v (find_none_not_mem hf)
    rcases LRU.add_vacant_cases v hf with ⟨_, _, ys, a, e, h⟩ | ⟨hcap, h⟩ <;> rw [h]
    · rw [e] at hpush
      refine ⟨?_, fun hc => ?_⟩
      · have hev := hpush.evict (k := a.1) (id := a.2) (List.mem_append_right ys (List.mem_singleton.mpr rfl))
        rwa [eraseKey_last hpush.nodup] at hev
      · have hlen := congrArg List.length e
        rw [List.length_cons, List.length_append, List.length_singleton] at hlen
        have := inv.capOk hc
        show ys.length ≤ s.cap
        omega
    · refine ⟨hpush, fun hc => ?_⟩
      have hc : s.cap ≠ 0 := hc
      show s.order.length + 1 ≤ s.cap
      omega

theorem LInv.get {s : LRU} (inv : LInv s) (k : Nat) : LInv (s.get k).1 := by
  unfold LRU.get
  cases hf : find k s.order with
  | some id => rw [innerGet_of_find_some hf]; exact inv.hit hf
  | none => rw [innerGet_of_find_none hf]; exact inv

theorem LInv.remove {s : LRU} (inv : LInv s) (k : Nat) : LInv (s.remove k) := by
  unfold LRU.remove
  split
  · rename_i id hf
    exact ⟨inv.inv0.evict (find_some_mem hf), fun hc =>
      Nat.le_trans (List.length_filter_le _ _) (inv.capOk hc)⟩
  · exact inv

theorem LInv.done {s : LRU} (inv : LInv s) (tok : Nat) : LInv (s.done tok).1 := by
  rw [LRU.done_eq]
  exact ⟨(inv.inv0.stores.release tok).lInv0 inv.inv0.nodup, inv.capOk⟩

theorem LInv.step {s : LRU} (inv : LInv s) (op : LOp) : LInv (s.step op).1 := by
  cases op with
  | add k v => exact inv.add k v
  | get k => exact inv.get k
  | remove k => exact inv.remove k
  | done tok => exact inv.done tok

theorem LInv.foldl (ops : List LOp) {s : LRU} (h : LInv s) : LInv (ops.foldl (fun s o => (s.step o).1) s) :=
  List.foldlRecOn ops _ h fun _ h o _ => h.step o

theorem LInv.run (cap : Nat) (ops : List LOp) : LInv (LRU.run cap ops) := LInv.foldl ops (LInv.init cap)

theorem LRU.run_append (cap : Nat) (ops ops' : List LOp) :
    LRU.run cap (ops ++ ops') = ops'.foldl (fun s o => (s.step o).1) (LRU.run cap ops) :=
  List.foldl_append

def LRU.member (s : LRU) (id : Nat) (r : RC) : Prop := (r.key, id) ∈ s.order

theorem LRU.step_cap (s : LRU) (op : LOp) : (s.step op).1.cap = s.cap := by
  cases op with
  | add k v => simp only [LRU.step, LRU.add]; split <;> rfl
  | get k => simp only [LRU.step, LRU.get]; split <;> rfl
  | remove k => simp only [LRU.step, LRU.remove]; split <;> rfl
  | done tok => simp only [LRU.step, LRU.done]; split <;> rfl

theorem LRU.run_cap (cap : Nat) (ops : List LOp) : (LRU.run cap ops).cap = cap :=
  List.foldlRecOn (motive := (·.cap = cap)) ops _ rfl fun s h o _ => (LRU.step_cap s o).trans h

/-! ## draining -/

/-- A run of steps `f`: a quantity `g` that no step changes is unchanged; what each step establishes
for its own index, and no step destroys, holds afterwards for all their indices. -/
theorem foldl_spec {σ ι β : Type} (f : σ → ι → σ) (g : σ → β) (P : σ → ι → Prop)
    (hg : ∀ s i, g (f s i) = g s) (hself : ∀ s i, P (f s i) i) (hmono : ∀ s i j, P s j → P (f s i) j)
    (is : List ι) : ∀ s, g (is.foldl f s) = g s ∧ ∀ i, (i ∈ is ∨ P s i) → P (is.foldl f s) i := by
  induction is with
  | nil => exact fun s => ⟨rfl, fun i hi => hi.resolve_left List.not_mem_nil⟩
  | cons a is ih =>
    intro s
    obtain ⟨h1, h2⟩ := ih (f s a)
    refine ⟨h1.trans (hg s a), fun i hi => h2 i ?_⟩
    rcases hi with hi | hi
    · rcases List.mem_cons.mp hi with rfl | e
      · exact Or.inr (hself s i)
      · exact Or.inl e
    · exact Or.inr (hmono s a i hi)

/-- Draining a cache, for both caches at once.  `done t` calls closure `t`: a `release` on the core.
`remove k` removes a key (`vac s k`: nothing is stored under `k`) and touches neither the closures
nor the keys of the refCounters. -/
theorem drain_spec {σ ι : Type} (core : σ → Core) (vac : σ → Nat → Prop) (step : σ → ι → σ)
    (done remove : Nat → ι)
    (hrel : ∀ s t, core (step s (done t)) = (core s).release t)
    (rm_toks : ∀ s k, (core (step s (remove k))).toks = (core s).toks)
    (rm_keys : ∀ s k, (core (step s (remove k))).rcs.map (·.key) = (core s).rcs.map (·.key))
    (rm_self : ∀ s k, vac (step s (remove k)) k)
    (rm_mono : ∀ s k k', vac s k' → vac (step s (remove k)) k') (s : σ) :
    let d := ((List.range (core s).toks.length).map done ++
      (core s).rcs.map fun r => remove r.key).foldl step s
    (core d).rcs.map (·.key) = (core s).rcs.map (·.key) ∧ (∀ t ∈ (core d).toks, t.once = true) ∧
      ∀ r ∈ (core d).rcs, vac d r.key := by
  intro d
  have hd : d = (core s).rcs.foldl (fun s r => step s (remove r.key))
      ((List.range (core s).toks.length).foldl (fun s t => step s (done t)) s) := by
    simp only [d, List.foldl_append, List.foldl_map]
  rw [hd]
  obtain ⟨k1, r1⟩ := foldl_spec (fun s t => step s (done t)) (fun s => (core s).rcs.map (·.key))
    (fun s i => Released (core s) i)
    (fun s t => by rw [hrel]; exact (viewEq_release _ t).keys)
    (fun s t => by rw [hrel]; exact release_released_self _ t)
    (fun s t i h => by rw [hrel]; exact release_released_mono _ t i h)
    (List.range (core s).toks.length) s
  obtain ⟨g2, v2⟩ := foldl_spec (fun s (r : RC) => step s (remove r.key))
    (fun s => ((core s).toks, (core s).rcs.map (·.key))) (fun s r => vac s r.key)
    (fun s r => Prod.ext (rm_toks s r.key) (rm_keys s r.key)) (fun s r => rm_self s r.key)
    (fun s r r' h => rm_mono s r.key r'.key h) (core s).rcs
    ((List.range (core s).toks.length).foldl (fun s t => step s (done t)) s)
  obtain ⟨t2, k2⟩ := Prod.mk.inj g2
  refine ⟨k2.trans k1, ?_, ?_⟩
  · intro t ht
    obtain ⟨i, hi⟩ := List.mem_iff_getElem?.mp (t2 ▸ ht)
    refine r1 i ?_ t hi
    -- an index beyond the closures handed out names no closure
    by_cases h : i < (core s).toks.length
    · exact Or.inl (List.mem_range.mpr h)
    · exact Or.inr fun t ht => absurd (List.getElem_of_getElem? ht).1 h
  · intro r hr
    have hk : r.key ∈ (core s).rcs.map (·.key) := k1 ▸ k2 ▸ List.mem_map_of_mem hr
    obtain ⟨r0, hr0, e⟩ := List.mem_map.mp hk
    exact e ▸ v2 r0 (Or.inl hr0)

theorem TInv.drained {s : TTL} (inv : TInv s) :
    let d := s.drainOps.foldl (fun s o => (s.step o).1) s
    d.core.rcs.length = s.core.rcs.length ∧ ∀ (id : Nat) (r : RC), d.core.rcs[id]? = some r → r.calls = 1 := by
  unfold TTL.drainOps
  obtain ⟨hkeys, hrel, hvac⟩ := drain_spec TTL.core (fun s k => s.m k = none) (fun s o => (s.step o).1)
    (fun t => .done t false) .remove (fun s t => congrArg TTL.core (TTL.done_false_eq s t))
    TTL.evictLocked_toks TTL.evictLocked_keys TTL.evictLocked_none_self
    (fun s k k' h => (TTL.evictLocked_m s k k').trans (by rw [h, ite_self])) s
  refine ⟨by simpa only [List.length_map] using congrArg List.length hkeys, ?_⟩
  exact (TInv.foldl _ inv).stores.drained hrel fun r hr id h => nomatch (hvac r hr).symm.trans h

theorem LInv.drained {s : LRU} (inv : LInv s) :
    let d := s.drainOps.foldl (fun s o => (s.step o).1) s
    d.core.rcs.length = s.core.rcs.length ∧ ∀ (id : Nat) (r : RC), d.core.rcs[id]? = some r → r.calls = 1 := by
  unfold LRU.drainOps
  obtain ⟨hkeys, hrel, hvac⟩ := drain_spec LRU.core (fun s k => ∀ id, (k, id) ∉ s.order)
    (fun s o => (s.step o).1) .done .remove (fun s t => congrArg LRU.core (LRU.done_eq s t))
    LRU.remove_toks LRU.remove_keys LRU.remove_vacant_self LRU.remove_vacant_mono s
  refine ⟨by simpa only [List.length_map] using congrArg List.length hkeys, ?_⟩
  exact (LInv.foldl _ inv).inv0.stores.drained hrel hvac

theorem eqns_pregenerated : True := trivial

end SV.Refcount
