/-
Lemmas about the C07 model (`SV.Overlay`).  Directory level (any children, names may repeat): what `readdir`
lists (`listed_cases`), the caches of Lookup change no answer (`lookupPure_eq`, `lookupSt_spec`, `run_stable`),
the listing is the graph of Lookup (`lookup_listed`, `listed_lookup`).  Tree level: a layer directory says one of
four things about a name (`classify_spec`); the served and the OCI side translate them (`served_real`,
`applied_name`) and both compute `sub` through a stack of layers (`descend_serve`, `applied_child`);
`ovl_eq_applied` iterates that along a path, and `served_stack` / `ociRootFs_eq` bring `C07.overlay_equals_oci` to it.
`named_iff`, `served_isSome` and `hasNormal_dirOfTree` with its helpers feed only `C07.serve_is_readdir`.
-/
import SV.Model.Overlay

namespace SV.Overlay

/-! ## Names -/

@[simp] theorem whTarget?_mkWh (t : Str) : whTarget? (mkWh t) = some t := rfl

theorem mkWh_eq (t : Str) : mkWh t = whiteoutPrefix ++ t := rfl

theorem whTarget?_eq_some {n t : Str} : whTarget? n = some t ↔ n = mkWh t := by
  unfold whTarget? mkWh
  split <;> simp_all

theorem whTarget?_eq_none {n : Str} : whTarget? n = none ↔ isWh n = false := by
  simp [isWh]

@[simp] theorem isWh_mkWh (t : Str) : isWh (mkWh t) = true := rfl

theorem isWh_iff {n : Str} : isWh n = true ↔ ∃ t, n = mkWh t := by
  simp only [isWh, Option.isSome_iff_exists, whTarget?_eq_some]

theorem mkWh_inj {a b : Str} : mkWh a = mkWh b ↔ a = b := by simp [mkWh]

/- The string constants as character lists, each by `String.toList_ofList` (a string literal is `String.ofList`
of its characters, so nothing is evaluated).  The name facts below rewrite with these first, because evaluating
`"…".toList` itself runs the UTF-8 decoder. -/
theorem prefetchLandmark_chars : prefetchLandmark =
    ['.', 'p', 'r', 'e', 'f', 'e', 't', 'c', 'h', '.', 'l', 'a', 'n', 'd', 'm', 'a', 'r', 'k'] :=
  String.toList_ofList

theorem noPrefetchLandmark_chars : noPrefetchLandmark =
    ['.', 'n', 'o', '.', 'p', 'r', 'e', 'f', 'e', 't', 'c', 'h', '.', 'l', 'a', 'n', 'd', 'm', 'a', 'r', 'k'] :=
  String.toList_ofList

theorem stateDirName_chars : stateDirName =
    ['.', 's', 't', 'a', 'r', 'g', 'z', '-', 's', 'n', 'a', 'p', 's', 'h', 'o', 't', 't', 'e', 'r'] :=
  String.toList_ofList

theorem tocTarName_chars : tocTarName =
    ['s', 't', 'a', 'r', 'g', 'z', '.', 'i', 'n', 'd', 'e', 'x', '.', 'j', 's', 'o', 'n'] :=
  String.toList_ofList

theorem opaqueMarker_eq : opaqueMarker = mkWh (mkWh ['.', 'o', 'p', 'q']) :=
  String.toList_ofList

theorem isLandmark_iff {n : Str} : isLandmark n = true ↔ n = prefetchLandmark ∨ n = noPrefetchLandmark := by
  simp [isLandmark]

theorem isDots_iff {n : Str} : isDots n = true ↔ n = dot ∨ n = dotdot := by simp [isDots]

theorem landmark_not_wh {n : Str} (h : isLandmark n = true) : isWh n = false := by
  rw [isLandmark_iff, prefetchLandmark_chars, noPrefetchLandmark_chars] at h
  rcases h with rfl | rfl <;> rfl

theorem landmark_not_dots {n : Str} (h : isLandmark n = true) : isDots n = false := by
  rw [isLandmark_iff, prefetchLandmark_chars, noPrefetchLandmark_chars] at h
  rcases h with rfl | rfl <;> rfl

theorem wh_not_dots {n : Str} (h : isWh n = true) : isDots n = false := by
  obtain ⟨t, rfl⟩ := isWh_iff.mp h
  simp [isDots, mkWh, dot, dotdot]

theorem false_of_excl {a b : Bool} (h : a = true → b = false) (hb : b = true) : a = false := by
  cases a
  · rfl
  · rw [h rfl] at hb; cases hb

theorem wh_not_landmark {n : Str} (h : isWh n = true) : isLandmark n = false :=
  false_of_excl landmark_not_wh h

theorem dots_not_wh {n : Str} (h : isDots n = true) : isWh n = false :=
  false_of_excl wh_not_dots h

theorem dots_not_landmark {n : Str} (h : isDots n = true) : isLandmark n = false :=
  false_of_excl landmark_not_dots h

theorem stateDir_not_wh : isWh stateDirName = false := by rw [stateDirName_chars]; rfl
theorem stateDir_not_landmark : isLandmark stateDirName = false := by
  rw [isLandmark, stateDirName_chars, prefetchLandmark_chars, noPrefetchLandmark_chars]; rfl
theorem stateDir_not_dots : isDots stateDirName = false := by rw [stateDirName_chars]; rfl

theorem toc_not_landmark : isLandmark tocTarName = false := by
  rw [isLandmark, tocTarName_chars, prefetchLandmark_chars, noPrefetchLandmark_chars]; rfl

theorem toc_not_dots : isDots tocTarName = false := by rw [tocTarName_chars]; rfl

theorem classifyChild_mkWh (r : Bool) (t : Str) :
    classifyChild r (mkWh t) = if mkWh t = opaqueMarker then .skip else .wh t := by
  simp [classifyChild, wh_not_dots (isWh_mkWh t), wh_not_landmark (isWh_mkWh t)]

theorem classifyChild_of_not_wh {r : Bool} {n : Str} (h : isWh n = false) :
    classifyChild r n = if (isDots n || (r && isLandmark n)) = true then .skip else .normal := by
  rw [classifyChild, whTarget?_eq_none.mpr h]
  cases isDots n <;> cases (r && isLandmark n) <;> rfl

theorem isNormal_iff {r : Bool} {n : Str} :
    isNormal r n = true ↔ isDots n = false ∧ (r && isLandmark n) = false ∧ isWh n = false := by
  unfold isNormal
  cases hw : isWh n with
  | false => rw [classifyChild_of_not_wh hw]; cases isDots n <;> cases (r && isLandmark n) <;> simp
  | true =>
    obtain ⟨t, rfl⟩ := isWh_iff.mp hw
    rw [classifyChild_mkWh]
    by_cases hm : mkWh t = opaqueMarker <;> simp [hm]

theorem badTarget_false_iff {r : Bool} {t : Str} : badTarget r t = false ↔ t ≠ [] ∧ isNormal r t = true := by
  rw [isNormal_iff, badTarget]
  cases isDots t <;> cases isWh t <;> cases (r && isLandmark t) <;> simp

theorem mkWh_ne_marker {r : Bool} {t : Str} (h : badTarget r t = false) : mkWh t ≠ opaqueMarker := by
  intro he
  rw [opaqueMarker_eq, mkWh_inj] at he
  rw [he] at h
  simp [badTarget] at h

theorem whOf_eq_some {r : Bool} {n t : Str} : whOf r n = some t ↔ n = mkWh t ∧ n ≠ opaqueMarker := by
  unfold whOf
  cases hw : isWh n with
  | false =>
    rw [classifyChild_of_not_wh hw]
    have : n ≠ mkWh t := fun h => by rw [h] at hw; cases hw
    cases (isDots n || (r && isLandmark n)) <;> simp [this]
  | true =>
    obtain ⟨t', rfl⟩ := isWh_iff.mp hw
    rw [classifyChild_mkWh]
    by_cases hm : mkWh t' = opaqueMarker <;> simp [hm, mkWh_inj]

/-! ## Association lists, `mapOpt`, `sortBy` -/

theorem lookupKid_cons {β} (n : Str) (t : β) (rest : List (Str × β)) (x : Str) :
    lookupKid ((n, t) :: rest) x = if n = x then some t else lookupKid rest x := rfl

theorem lookupKid_none {β} {l : List (Str × β)} {x : Str} : lookupKid l x = none ↔ ∀ p ∈ l, p.1 ≠ x := by
  induction l with
  | nil => simp [lookupKid]
  | cons p ps ih =>
    obtain ⟨n, t⟩ := p
    rw [lookupKid_cons, List.forall_mem_cons, ← ih]
    by_cases hn : n = x
    · rw [if_pos hn]; exact iff_of_false (Option.some_ne_none t) fun h => h.1 hn
    · rw [if_neg hn]; exact (and_iff_right hn).symm

theorem lookupKid_mem {β} {l : List (Str × β)} {x : Str} {t : β} (h : lookupKid l x = some t) : (x, t) ∈ l := by
  induction l with
  | nil => cases h
  | cons p ps ih =>
    obtain ⟨n, t'⟩ := p
    rw [lookupKid_cons] at h
    split at h
    · cases h; rename_i hn; rw [← hn]; exact List.mem_cons_self ..
    · exact List.mem_cons_of_mem _ (ih h)

theorem lookupKid_append {β} (l1 l2 : List (Str × β)) (x : Str) :
    lookupKid (l1 ++ l2) x = match lookupKid l1 x with | some t => some t | none => lookupKid l2 x := by
  induction l1 with
  | nil => rfl
  | cons p ps ih =>
    obtain ⟨n, t⟩ := p
    simp only [List.cons_append, lookupKid_cons]
    split <;> simp [ih]

theorem lookupKid_filter {β} (f : Str → Bool) (l : List (Str × β)) (x : Str) :
    lookupKid (l.filter fun p => f p.1) x = if f x = true then lookupKid l x else none := by
  induction l with
  | nil => simp [lookupKid]
  | cons p ps ih =>
    obtain ⟨n, t⟩ := p
    rw [List.filter_cons]
    by_cases hn : n = x
    · subst hn; cases hf : f n <;> simp [hf, lookupKid_cons, ih]
    · cases f n <;> simp [lookupKid_cons, hn, ih]

theorem hasName_iff {β} {l : List (Str × β)} {x : Str} : hasName l x = true ↔ ∃ p ∈ l, p.1 = x := by
  unfold hasName
  constructor
  · intro h
    obtain ⟨t, ht⟩ := Option.isSome_iff_exists.mp h
    exact ⟨(x, t), lookupKid_mem ht, rfl⟩
  · rintro ⟨p, hp, hpx⟩
    cases hl : lookupKid l x with
    | some t => rfl
    | none => exact absurd hpx (lookupKid_none.mp hl p hp)

theorem hasReal_eq {β} (all : List (Str × β)) (x : Str) : hasReal all x = (lookupReal all x).isSome := by
  unfold hasReal lookupReal hasName
  cases isWh x <;> rfl

theorem lookupReal_eq_some {β} {l : List (Str × β)} {x : Str} {t : β} :
    lookupReal l x = some t ↔ isWh x = false ∧ lookupKid l x = some t := by
  unfold lookupReal
  cases isWh x <;> simp

theorem getChild_eq_lookupKid (cs : List Child) (n : Str) :
    getChild cs n = lookupKid (cs.map fun c => (c.name, c)) n := by
  induction cs with
  | nil => rfl
  | cons c cs ih => simp only [getChild, List.map_cons, lookupKid_cons, ih]

theorem getChild_some {cs : List Child} {n : Str} {c : Child} (h : getChild cs n = some c) :
    c ∈ cs ∧ c.name = n := by
  rw [getChild_eq_lookupKid] at h
  obtain ⟨c', hc', he⟩ := List.mem_map.mp (lookupKid_mem h)
  cases he; exact ⟨hc', rfl⟩

theorem getChild_none {cs : List Child} {n : Str} : getChild cs n = none ↔ ∀ c ∈ cs, c.name ≠ n := by
  simp [getChild_eq_lookupKid, lookupKid_none]

theorem getChild_of_mem {cs : List Child} {c : Child} (hnd : (cs.map (·.name)).Nodup) (hc : c ∈ cs) :
    getChild cs c.name = some c := by
  induction cs with
  | nil => cases hc
  | cons x xs ih =>
    simp only [List.map_cons, List.nodup_cons] at hnd
    simp only [getChild]
    rcases List.mem_cons.mp hc with rfl | hc
    · simp
    · have : x.name ≠ c.name := fun h => hnd.1 (h ▸ List.mem_map_of_mem hc)
      simp [this, ih hnd.2 hc]

theorem getChild_map (kids : List (Str × Tree)) (n : Str) :
    getChild (kids.map childOf) n = (lookupKid kids n).map fun t => childOf (n, t) := by
  induction kids with
  | nil => rfl
  | cons p ps ih =>
    obtain ⟨m, t⟩ := p
    simp only [List.map_cons, getChild, lookupKid_cons, childOf]
    by_cases h : m = n
    · subst h; simp
    · simp [h, ih, childOf]

theorem mapOpt_eq_some {α β} {f : α → Option β} {l : List α} {r : List β} :
    mapOpt f l = some r ↔ l.map f = r.map some := by
  induction l generalizing r with
  | nil => cases r <;> simp [mapOpt]
  | cons a as ih =>
    simp only [mapOpt]
    cases r with
    | nil => split <;> simp
    | cons b bs => cases hfa : f a <;> cases hm : mapOpt f as <;> simp [← ih, hm, hfa]

theorem mapOpt_some {α β} {f : α → Option β} {l : List α} {r : List β} (h : mapOpt f l = some r) :
    (∀ b ∈ r, ∃ a ∈ l, f a = some b) ∧ (∀ a ∈ l, ∃ b ∈ r, f a = some b) := by
  have h := mapOpt_eq_some.mp h
  constructor
  · intro b hb
    have : some b ∈ l.map f := h ▸ List.mem_map_of_mem hb
    exact List.mem_map.mp this
  · intro a ha
    have : f a ∈ r.map some := h ▸ List.mem_map_of_mem ha
    obtain ⟨b, hb, hf⟩ := List.mem_map.mp this
    exact ⟨b, hb, hf.symm⟩

theorem mapOpt_isSome {α β} {f : α → Option β} {l : List α} (h : ∀ a ∈ l, (f a).isSome) :
    (mapOpt f l).isSome := by
  induction l with
  | nil => rfl
  | cons a as ih =>
    obtain ⟨b, hb⟩ := Option.isSome_iff_exists.mp (h a (List.mem_cons_self ..))
    obtain ⟨bs, hbs⟩ := Option.isSome_iff_exists.mp (ih fun x hx => h x (List.mem_cons_of_mem _ hx))
    simp [mapOpt, hb, hbs]

theorem insertBy_perm {α} (le : α → α → Bool) (x : α) (l : List α) : (insertBy le x l).Perm (x :: l) := by
  induction l with
  | nil => exact .rfl
  | cons y ys ih =>
    rw [insertBy]
    split
    · exact .rfl
    · exact (ih.cons y).trans (.swap ..)

theorem sortBy_perm {α} (le : α → α → Bool) (l : List α) : (sortBy le l).Perm l := by
  induction l with
  | nil => exact .rfl
  | cons z zs ih => exact (insertBy_perm le z _).trans (ih.cons z)

/-! ## Opaque marker, inode numbers, stat-file keys -/

theorem S_IFCHR_type : S_IFCHR &&& S_IFMT = S_IFCHR := by decide

theorem isOpaque_iff {d : Dir} : isOpaque d = true ↔ ∃ c ∈ d.children, c.name = opaqueMarker := by
  unfold isOpaque
  cases hg : getChild d.children opaqueMarker with
  | none => simp; exact fun c hc => (getChild_none.mp hg) c hc
  | some c => simp; exact ⟨c, getChild_some hg⟩

theorem blen_opaqueXattrValue : blen opaqueXattrValue = 1 := by decide

theorem inodeOfID_isSome {b i : Nat} (h : i ≤ maxU32 - 3) : (inodeOfID b i).isSome := by
  simp [inodeOfID, Nat.not_lt.mpr h]

theorem inodeOfID_eq {b i x : Nat} (h : inodeOfID b i = some x) :
    x = b * 4294967296 + (3 + i) ∧ 3 + i < 4294967296 := by
  unfold inodeOfID maxU32 at h
  split at h
  · cases h
  · rename_i hlt
    have hlt' : 3 + i < 2 ^ 32 := by omega
    have := Nat.shiftLeft_add_eq_or_of_lt hlt' b
    simp only [Option.some.injEq] at h
    rw [← h, ← this, Nat.shiftLeft_eq]
    omega

theorem inodeOfState_eq (b : Nat) : inodeOfState b = b * 4294967296 + 1 := by
  unfold inodeOfState
  have := Nat.shiftLeft_add_eq_or_of_lt (show 1 < 2 ^ 32 by omega) b
  rw [← this, Nat.shiftLeft_eq]

theorem inodeOfStatFile_eq (b : Nat) : inodeOfStatFile b = b * 4294967296 + 2 := by
  unfold inodeOfStatFile
  have := Nat.shiftLeft_add_eq_or_of_lt (show 2 < 2 ^ 32 by omega) b
  rw [← this, Nat.shiftLeft_eq]

theorem inodeOfID_inj {b b' i j x : Nat} (h1 : inodeOfID b i = some x) (h2 : inodeOfID b' j = some x) :
    b = b' ∧ i = j := by
  have a := inodeOfID_eq h1
  have c := inodeOfID_eq h2
  omega

theorem statKey_error : "error".toList = ['e', 'r', 'r', 'o', 'r'] := String.toList_ofList
theorem statKey_digest : "digest".toList = ['d', 'i', 'g', 'e', 's', 't'] := String.toList_ofList
theorem statKey_size : "size".toList = ['s', 'i', 'z', 'e'] := String.toList_ofList
theorem statKey_fetchedSize : "fetchedSize".toList = ['f', 'e', 't', 'c', 'h', 'e', 'd', 'S', 'i', 'z', 'e'] :=
  String.toList_ofList
theorem statKey_fetchedPercent :
    "fetchedPercent".toList = ['f', 'e', 't', 'c', 'h', 'e', 'd', 'P', 'e', 'r', 'c', 'e', 'n', 't'] :=
  String.toList_ofList

/-! ## Directory level: the listing -/

section
variable {d : Dir} {ents : List DirEnt} {s : NodeSt} {e : DirEnt} {n : Str}

theorem mem_normals {c : Child} :
    c ∈ normals d ↔ c ∈ d.children ∧ isNormal d.isRoot c.name = true := by
  simp [normals]

theorem hasNormal_iff :
    hasNormal d n = true ↔ ∃ c ∈ d.children, c.name = n ∧ isNormal d.isRoot n = true := by
  simp only [hasNormal, List.any_eq_true, mem_normals, beq_iff_eq]
  constructor
  · rintro ⟨c, ⟨hc, hn⟩, rfl⟩; exact ⟨c, hc, rfl, hn⟩
  · rintro ⟨c, hc, rfl, hn⟩; exact ⟨c, ⟨hc, hn⟩, rfl⟩

theorem hasNormal_of_getChild_none (h : getChild d.children n = none) :
    hasNormal d n = false := by
  cases hh : hasNormal d n with
  | false => rfl
  | true =>
    obtain ⟨c, hc, hcn, _⟩ := hasNormal_iff.mp hh
    exact absurd hcn (getChild_none.mp h c hc)

/- `whOf` also excludes the opaque marker and, in the root, landmark names: neither is `.wh.t` for a target `t`
that is not itself a `.wh.` name, so `badTarget … t = false` covers both. -/
theorem mem_liveWhs {t : Str} {c : Child} :
    (t, c) ∈ liveWhs d ↔ c ∈ d.children ∧ c.name = mkWh t ∧
      badTarget d.isRoot t = false ∧ hasNormal d t = false := by
  simp only [liveWhs, List.mem_filterMap]
  constructor
  · rintro ⟨c', hc', h⟩
    cases hw : whOf d.isRoot c'.name with
    | none => simp [hw] at h
    | some t' =>
      cases hb : badTarget d.isRoot t' <;> cases hn : hasNormal d t' <;> simp [hw, hb, hn] at h
      obtain ⟨rfl, rfl⟩ := h
      exact ⟨hc', (whOf_eq_some.mp hw).1, hb, hn⟩
  · rintro ⟨hc, hn, hb, hno⟩
    have hw : whOf d.isRoot c.name = some t :=
      whOf_eq_some.mpr ⟨hn, hn ▸ mkWh_ne_marker hb⟩
    exact ⟨c, hc, by simp [hw, hb, hno]⟩

theorem readdir_eq_some : readdir d = some ents ↔
    ∃ ns ws, mapOpt (normalEnt d.base) (normals d) = some ns ∧
      mapOpt (fun p => whEnt d.base p.1 p.2) (liveWhs d) = some ws ∧
      ents = sortBy entLe (ns ++ dotEnts ++ ws) := by
  unfold readdir readdirWith
  constructor
  · intro h
    split at h
    · rename_i ns ws hn hw
      exact ⟨ns, ws, hn, hw, (Option.some.inj h).symm⟩
    · cases h
  · rintro ⟨ns, ws, hn, hw, rfl⟩
    rw [hn, hw]

structure FromChild (d : Dir) (c : Child) (e : DirEnt) : Prop where
  mem : c ∈ d.children
  normal : isNormal d.isRoot c.name = true
  name : e.name = c.name
  mode : e.mode = c.mode
  ino : inodeOfID d.base c.id = some e.ino

/-- `e` is the character device `readdir` lists for the whiteout child `w`: its target is a name Lookup
resolves and no listed child bears it. -/
structure FromWhiteout (d : Dir) (w : Child) (e : DirEnt) : Prop where
  mem : w ∈ d.children
  name : w.name = mkWh e.name
  target : badTarget d.isRoot e.name = false
  free : hasNormal d e.name = false
  mode : e.mode = S_IFCHR
  ino : inodeOfID d.base w.id = some e.ino

theorem listed_cases (h : readdir d = some ents) (he : e ∈ ents) :
    e ∈ dotEnts ∨ (∃ c, FromChild d c e) ∨ (∃ w, FromWhiteout d w e) := by
  obtain ⟨ns, ws, hn, hw, rfl⟩ := readdir_eq_some.mp h
  rw [(sortBy_perm ..).mem_iff, List.mem_append, List.mem_append] at he
  rcases he with (he | hdot) | he
  · obtain ⟨c, hc, hce⟩ := (mapOpt_some hn).1 e he
    obtain ⟨hc, hnm⟩ := mem_normals.mp hc
    simp only [normalEnt, Option.map_eq_some_iff] at hce
    obtain ⟨ino, hi, rfl⟩ := hce
    exact .inr (.inl ⟨c, hc, hnm, rfl, rfl, hi⟩)
  · exact .inl hdot
  · obtain ⟨⟨t, w⟩, hp, hce⟩ := (mapOpt_some hw).1 e he
    obtain ⟨hc, hwn, hb, hno⟩ := mem_liveWhs.mp hp
    simp only [whEnt, Option.map_eq_some_iff] at hce
    obtain ⟨ino, hi, rfl⟩ := hce
    exact .inr (.inr ⟨w, hc, hwn, hb, hno, rfl, hi⟩)

theorem listed_normal (h : readdir d = some ents) {c : Child}
    (hc : c ∈ d.children) (hn : isNormal d.isRoot c.name = true) :
    ∃ ino, inodeOfID d.base c.id = some ino ∧ (⟨c.name, c.mode, ino⟩ : DirEnt) ∈ ents := by
  obtain ⟨ns, ws, hns, _, rfl⟩ := readdir_eq_some.mp h
  obtain ⟨e, he, hce⟩ := (mapOpt_some hns).2 c (mem_normals.mpr ⟨hc, hn⟩)
  simp only [normalEnt, Option.map_eq_some_iff] at hce
  obtain ⟨ino, hi, rfl⟩ := hce
  exact ⟨ino, hi, (sortBy_perm ..).mem_iff.mpr (List.mem_append_left _ (List.mem_append_left _ he))⟩

theorem listed_wh (h : readdir d = some ents) {w : Child} {t : Str}
    (hc : w ∈ d.children) (hw : w.name = mkWh t) (hb : badTarget d.isRoot t = false)
    (hno : hasNormal d t = false) :
    ∃ ino, inodeOfID d.base w.id = some ino ∧ (⟨t, S_IFCHR, ino⟩ : DirEnt) ∈ ents := by
  obtain ⟨ns, ws, _, hws, rfl⟩ := readdir_eq_some.mp h
  obtain ⟨e, he, hce⟩ := (mapOpt_some hws).2 (t, w) (mem_liveWhs.mpr ⟨hc, hw, hb, hno⟩)
  simp only [whEnt, Option.map_eq_some_iff] at hce
  obtain ⟨ino, hi, rfl⟩ := hce
  exact ⟨ino, hi, (sortBy_perm ..).mem_iff.mpr (List.mem_append_right _ he)⟩

theorem dotEnts_listed (h : readdir d = some ents)
    (he : e ∈ dotEnts) : e ∈ ents := by
  obtain ⟨ns, ws, _, _, rfl⟩ := readdir_eq_some.mp h
  exact (sortBy_perm ..).mem_iff.mpr (List.mem_append_left _ (List.mem_append_right _ he))

theorem isDots_of_mem_dotEnts (h : e ∈ dotEnts) : isDots e.name = true := by
  simp only [dotEnts, List.mem_cons, List.mem_nil_iff, or_false] at h
  rcases h with rfl | rfl <;> rfl

theorem named_iff (h : readdir d = some ents) {x : Str}
    (hx : isDots x = false) :
    (∃ e ∈ ents, e.name = x) ↔ hasNormal d x = true ∨
      (badTarget d.isRoot x = false ∧ hasNormal d x = false ∧ ∃ w ∈ d.children, w.name = mkWh x) := by
  constructor
  · rintro ⟨e, he, rfl⟩
    rcases listed_cases h he with hdot | ⟨c, hc⟩ | ⟨w, hw⟩
    · rw [isDots_of_mem_dotEnts hdot] at hx; cases hx
    · exact .inl (hasNormal_iff.mpr ⟨c, hc.mem, hc.name.symm, hc.name ▸ hc.normal⟩)
    · exact .inr ⟨hw.target, hw.free, w, hw.mem, hw.name⟩
  · rintro (hn | ⟨hb, hno, w, hw, hwn⟩)
    · obtain ⟨c, hc, rfl, hn⟩ := hasNormal_iff.mp hn
      obtain ⟨ino, _, hm⟩ := listed_normal h hc hn
      exact ⟨_, hm, rfl⟩
    · obtain ⟨ino, _, hm⟩ := listed_wh h hw hwn hb hno
      exact ⟨_, hm, rfl⟩

theorem listed_names_clean (h : readdir d = some ents)
    (he : e ∈ ents) :
    isWh e.name = false ∧ e.name ≠ opaqueMarker ∧ (d.isRoot && isLandmark e.name) = false := by
  have key : isWh e.name = false ∧ (d.isRoot && isLandmark e.name) = false := by
    rcases listed_cases h he with hdot | ⟨c, hc⟩ | ⟨_, hw⟩
    · have hd := isDots_of_mem_dotEnts hdot
      exact ⟨dots_not_wh hd, by rw [dots_not_landmark hd, Bool.and_false]⟩
    · rw [hc.name]; exact ⟨(isNormal_iff.mp hc.normal).2.2, (isNormal_iff.mp hc.normal).2.1⟩
    · have hnorm := isNormal_iff.mp (badTarget_false_iff.mp hw.target).2
      exact ⟨hnorm.2.2, hnorm.2.1⟩
  refine ⟨key.1, fun hm => ?_, key.2⟩
  rw [hm, opaqueMarker_eq, isWh_mkWh] at key
  cases key.1

theorem child_listed (h : readdir d = some ents) (hn : isNormal d.isRoot n = true)
    {c : Child} (hg : getChild d.children n = some c) :
    ∃ ino, inodeOfID d.base c.id = some ino ∧ (⟨n, c.mode, ino⟩ : DirEnt) ∈ ents := by
  obtain ⟨hc, rfl⟩ := getChild_some hg
  exact listed_normal h hc hn

theorem wh_child_listed (h : readdir d = some ents) (hne : n ≠ []) (hn : isNormal d.isRoot n = true)
    (hg1 : getChild d.children n = none) {w : Child} (hg2 : getChild d.children (mkWh n) = some w) :
    ∃ ino, inodeOfID d.base w.id = some ino ∧ (⟨n, S_IFCHR, ino⟩ : DirEnt) ∈ ents := by
  obtain ⟨hc, hwn⟩ := getChild_some hg2
  exact listed_wh h hc hwn (badTarget_false_iff.mpr ⟨hne, hn⟩) (hasNormal_of_getChild_none hg1)

theorem not_listed_no_child (h : readdir d = some ents)
    (hne : n ≠ []) (hl : (d.isRoot && isLandmark n) = false) (hw : isWh n = false)
    (hnl : entNamed ents n = false) :
    getChild d.children n = none ∧ getChild d.children (mkWh n) = none := by
  have hnl' : ∀ e ∈ ents, e.name ≠ n := by simpa [entNamed] using hnl
  have hd : isDots n = false := by
    cases hd : isDots n with
    | false => rfl
    | true =>
      rcases isDots_iff.mp hd with rfl | rfl
      · exact absurd rfl (hnl' ⟨dot, S_IFDIR, 0⟩ (dotEnts_listed h (by simp [dotEnts])))
      · exact absurd rfl (hnl' ⟨dotdot, S_IFDIR, 0⟩ (dotEnts_listed h (by simp [dotEnts])))
  have hn := isNormal_iff.mpr ⟨hd, hl, hw⟩
  have h1 : getChild d.children n = none := by
    cases hg : getChild d.children n with
    | none => rfl
    | some c =>
      obtain ⟨ino, _, hm⟩ := child_listed h hn hg
      exact absurd rfl (hnl' _ hm)
  refine ⟨h1, ?_⟩
  cases hg : getChild d.children (mkWh n) with
  | none => rfl
  | some w =>
    obtain ⟨ino, _, hm⟩ := wh_child_listed h hne hn h1 hg
    exact absurd rfl (hnl' _ hm)

/-! ## Directory level: the caches of Lookup -/

theorem Inv.memo (hi : Inv d s) (h : s.memo = some ents) : readdir d = some ents := hi.1 ents h

theorem Inv.node (hi : Inv d s) {c : Child} (h : lookupKid s.kids n = some (c, false)) :
    getChild d.children n = some c := (hi.2 n c false h).1 rfl

theorem Inv.whiteout (hi : Inv d s) {c : Child} (h : lookupKid s.kids n = some (c, true)) :
    getChild d.children n = none ∧ getChild d.children (mkWh n) = some c := (hi.2 n c true h).2 rfl

theorem Inv.addKid (hi : Inv d s) {c : Child} {w : Bool}
    (h : match w with
      | false => getChild d.children n = some c
      | true => getChild d.children n = none ∧ getChild d.children (mkWh n) = some c) :
    Inv d { s with kids := (n, c, w) :: s.kids } := by
  refine ⟨hi.1, fun n' c' w' hl => ?_⟩
  rw [lookupKid_cons] at hl
  split at hl
  · rename_i heq
    cases hl; subst heq
    cases w
    · exact ⟨fun _ => h, nofun⟩
    · exact ⟨nofun, fun _ => h⟩
  · exact hi.2 n' c' w' hl

theorem readdirSt_ans (hi : Inv d s) : (readdirSt d s).2 = readdir d := by
  unfold readdirSt
  cases hm : s.memo with
  | some ents => simp [hi.memo hm]
  | none => cases hr : readdir d <;> simp

theorem readdirSt_inv (hi : Inv d s) : Inv d (readdirSt d s).1 := by
  unfold readdirSt
  cases hm : s.memo with
  | some ents => simpa using hi
  | none =>
    cases hr : readdir d with
    | none => simpa using hi
    | some ents =>
      refine ⟨?_, hi.2⟩
      intro e he; simp at he; subst he; exact hr

theorem lookupPure_eq (d : Dir) (n : Str) :
    lookupPure d n =
      if (d.isRoot && isLandmark n) = true then .enoent
      else if isWh n = true then .enoent
      else if (d.isRoot && n == stateDirName) = true then .state stateDirMode (inodeOfState d.base)
      else match getChild d.children n with
        | some c => nodeRes d.base c
        | none =>
          match getChild d.children (mkWh n) with
          | some w =>
            (match inodeOfID d.base w.id with
             | some ino => .whiteout w.id S_IFCHR ino 0
             | none => .eio)
          | none => .enoent := by
  unfold lookupPure lookupSt
  cases (d.isRoot && isLandmark n)
  case true => rfl
  cases isWh n
  case true => rfl
  cases (d.isRoot && n == stateDirName)
  case true => rfl
  cases getChild d.children n with
  | some c => rfl
  | none => cases getChild d.children (mkWh n) <;> rfl

theorem lookupSt_hidden (s : NodeSt) (h : isWh n = true ∨ (d.isRoot && isLandmark n) = true) :
    (lookupSt d s n).2 = .enoent := by
  unfold lookupSt
  rcases h with h | h
  · by_cases h1 : (d.isRoot && isLandmark n) = true <;> simp [h1, h]
  · simp [h]

theorem nodeRes_stable (b : Nat) (c : Child) : (nodeRes b c).stable = nodeRes b c := by
  unfold nodeRes; split <;> rfl

theorem lookupSt_spec (hi : Inv d s) (n : Str) :
    Inv d (lookupSt d s n).1 ∧ (n ≠ [] → (lookupSt d s n).2.stable = lookupPure d n) := by
  rw [lookupPure_eq]
  unfold lookupSt
  cases h1 : (d.isRoot && isLandmark n)
  case true => exact ⟨hi, fun _ => rfl⟩
  cases h2 : isWh n
  case true => exact ⟨hi, fun _ => rfl⟩
  cases (d.isRoot && n == stateDirName)
  case true => exact ⟨hi, fun _ => rfl⟩
  simp only [Bool.false_eq_true, if_false]
  cases hk : lookupKid s.kids n with
  | some cw =>
    obtain ⟨c, w⟩ := cw
    cases w with
    | false => exact ⟨hi, fun _ => by simp only [hi.node hk]; exact nodeRes_stable ..⟩
    | true =>
      obtain ⟨hg1, hg2⟩ := hi.whiteout hk
      refine ⟨hi, fun _ => ?_⟩
      simp only [hg1, hg2]
      cases inodeOfID d.base c.id <;> rfl
  | none =>
    dsimp only
    by_cases hC : (match s.memo with | some ents => !entNamed ents n | none => false) = true
    · -- the memoised listing does not have `n`: then there is neither a child nor a whiteout
      rw [if_pos (by exact hC)]  -- `by exact`: the `match` in the goal is `lookupSt`'s own matcher, equal only up to unfolding
      cases hm : s.memo with
      | none => rw [hm] at hC; cases hC
      | some ents =>
        rw [hm] at hC
        refine ⟨hi, fun hne => ?_⟩
        obtain ⟨hg1, hg2⟩ := not_listed_no_child (hi.memo hm) hne h1 h2 (by simpa using hC)
        rw [hg1, hg2]; rfl
    · -- otherwise the answer is the child, then its whiteout, as on a fresh node
      rw [if_neg (by exact hC)]
      cases getChild d.children n with
      | some c => exact ⟨hi, fun _ => nodeRes_stable ..⟩
      | none =>
        cases getChild d.children (mkWh n) with
        | some w => exact ⟨hi, fun _ => by simp only; cases inodeOfID d.base w.id <;> rfl⟩
        | none => exact ⟨readdirSt_inv hi, fun _ => rfl⟩

theorem adopt_inv (hi : Inv d s) (n : Str) (r : LRes) : Inv d (adopt d s n r) := by
  unfold adopt
  cases r with
  | node id mode ino rdev =>
    dsimp only
    split
    · split
      · exact hi.addKid (w := false) ‹_›
      · exact hi
    · exact hi
  | whiteout id amode ino rdev =>
    dsimp only
    split
    · rename_i w hg hg2
      split
      · exact hi.addKid (w := true) ⟨hg, hg2⟩
      · exact hi
    · exact hi
  | _ => exact hi

theorem stepOp_inv (hi : Inv d s) (o : Op) : Inv d (stepOp d s o).1 := by
  cases o with
  | readdir => exact readdirSt_inv hi
  | lookup n ad =>
    simp only [stepOp]
    split
    · exact adopt_inv (lookupSt_spec hi n).1 _ _
    · exact (lookupSt_spec hi n).1

theorem stepOp_ans (hi : Inv d s) (o : Op) (hv : o.valid = true) :
    (stepOp d s o).2.stable = pureAns d o := by
  cases o with
  | readdir => simp [stepOp, Ans.stable, pureAns, readdirSt_ans hi]
  | lookup n ad =>
    have hne : n ≠ [] := by simpa [Op.valid] using hv
    simp only [stepOp, Ans.stable, pureAns, (lookupSt_spec hi n).2 hne]; rfl

theorem inv_init (d : Dir) : Inv d {} := by
  constructor
  · intro ents h; cases h
  · intro n c w h; cases h

theorem run_stable (ops : List Op) (hv : ∀ o ∈ ops, o.valid = true) : ∀ {s : NodeSt}, Inv d s →
    (run d s ops).map Ans.stable = ops.map (pureAns d) := by
  induction ops with
  | nil => intro s _; rfl
  | cons o os ih =>
    intro s hi
    simp only [run, List.map_cons]
    rw [stepOp_ans hi o (hv o (List.mem_cons_self ..)),
      ih (fun o' ho' => hv o' (List.mem_cons_of_mem _ ho')) (stepOp_inv hi o)]

/-- The cache state after the calls `ops` (`run` keeps only the answers). -/
def runSt (d : Dir) (s : NodeSt) (ops : List Op) : NodeSt := ops.foldl (fun s o => (stepOp d s o).1) s

theorem runSt_inv (ops : List Op) : ∀ {s : NodeSt}, Inv d s → Inv d (runSt d s ops) := by
  induction ops with
  | nil => intro s h; exact h
  | cons o os ih => intro s h; exact ih (stepOp_inv h o)

/-! ## Directory level: the listing is the graph of Lookup -/

theorem stable_obs (r : LRes) :
    r.stable.ok = r.ok ∧ r.stable.ino? = r.ino? ∧ r.stable.stype = r.stype ∧ getattrOf r.stable = getattrOf r := by
  cases r <;> exact ⟨rfl, rfl, rfl, rfl⟩

/-- The listing entry that stands for a Lookup answer. -/
def LRes.ent (n : Str) : LRes → Option DirEnt
  | .node _ mode ino _ => some ⟨n, mode, ino⟩
  | .whiteout _ _ ino _ => some ⟨n, S_IFCHR, ino⟩
  | _ => none

theorem LRes.ent_some {r : LRes} (h : r.ent n = some e) :
    e.name = n ∧ r.ok = true ∧ r.ino? = some e.ino ∧ r.stype = e.mode &&& S_IFMT := by
  cases r <;> cases h
  · exact ⟨rfl, rfl, rfl, rfl⟩
  · exact ⟨rfl, rfl, rfl, S_IFCHR_type.symm⟩

theorem lookup_listed (h : readdir d = some ents) (hpl : Plain d n) (hok : (lookupPure d n).ok = true) :
    ∃ e ∈ ents, (lookupPure d n).ent n = some e := by
  obtain ⟨hne, hd, hs⟩ := hpl
  rw [lookupPure_eq, hs] at hok ⊢
  cases hl : (d.isRoot && isLandmark n)
  case true => rw [hl] at hok; cases hok
  cases hw : isWh n
  case true => rw [hl, hw] at hok; cases hok
  have hn := isNormal_iff.mpr ⟨hd, hl, hw⟩
  cases hg1 : getChild d.children n with
  | some c =>
    obtain ⟨ino, hi, hm⟩ := child_listed h hn hg1
    exact ⟨_, hm, by simp only [nodeRes, hi]; rfl⟩
  | none =>
    cases hg2 : getChild d.children (mkWh n) with
    | none => rw [hl, hw, hg1, hg2] at hok; cases hok
    | some w =>
      obtain ⟨ino, hi, hm⟩ := wh_child_listed h hne hn hg1 hg2
      exact ⟨_, hm, by simp only [hi]; rfl⟩

theorem listed_lookup (hnd : NoDupNames d) (h : readdir d = some ents) (hpl : Plain d n)
    (he : e ∈ ents) (hen : e.name = n) : (lookupPure d n).ent n = some e := by
  subst hen
  obtain ⟨hw, _, hl⟩ := listed_names_clean h he
  rw [lookupPure_eq, hpl.2.2, hl, hw]
  rcases listed_cases h he with hdot | ⟨c, hc⟩ | ⟨w, hwh⟩
  · exact absurd hpl.2.1 (by rw [isDots_of_mem_dotEnts hdot]; nofun)
  · simp only [hc.name ▸ getChild_of_mem hnd hc.mem, nodeRes, hc.ino, LRes.ent, ← hc.mode]; rfl
  · have hg : getChild d.children e.name = none := by
      cases hg : getChild d.children e.name with
      | none => rfl
      | some c =>
        obtain ⟨hc, hcn⟩ := getChild_some hg
        exact absurd hwh.free (by rw [hasNormal_iff.mpr ⟨c, hc, hcn, isNormal_iff.mpr ⟨hpl.2.1, hl, hw⟩⟩]; nofun)
    simp only [hg, hwh.name ▸ getChild_of_mem hnd hwh.mem, hwh.ino, LRes.ent, ← hwh.mode]; rfl

end

/-! ## Tree level: equations of the definitions -/

theorem serve_file (om : OpaqueMode) (a : Attr) : serve om (.file a) = .file a := by simp [serve]

theorem serve_dir (om : OpaqueMode) (a : Attr) (kids : List (Str × Tree)) :
    serve om (.dir a kids) =
      .dir a (if hasName kids opaqueMarker then opaqueXattrs om else []) (serveKids om false kids kids) := by
  simp [serve]

theorem serveKids_nil (om : OpaqueMode) (r : Bool) (all : List (Str × Tree)) : serveKids om r all [] = [] := by
  simp [serveKids]

theorem serveKids_cons (om : OpaqueMode) (r : Bool) (all : List (Str × Tree)) (n : Str) (t : Tree) (rest) :
    serveKids om r all ((n, t) :: rest) =
      match whTarget? n with
      | some tgt =>
        if n = opaqueMarker ∨ badTarget r tgt = true ∨ hasReal all tgt = true then serveKids om r all rest
        else (tgt, .file (whAttr t.attr.id)) :: serveKids om r all rest
      | none => (n, serve om t) :: serveKids om r all rest := by
  cases h : whTarget? n with
  | none => simp [serveKids, h]
  | some tgt =>
    by_cases hc : n = opaqueMarker ∨ badTarget r tgt = true ∨ hasReal all tgt = true
    · simp [serveKids, h, hc]
    · simp [serveKids, h, hc]

theorem apply_file (a : Attr) (acc : Option Tree) : ociApplyNode (.file a) acc = .file a := by
  simp [ociApplyNode]

theorem apply_dir (a : Attr) (kids : List (Str × Tree)) (acc : Option Tree) :
    ociApplyNode (.dir a kids) acc =
      .dir a (((if hasName kids opaqueMarker then [] else kidsOf acc).filter
          fun p => !hasWhiteoutFor kids p.1 && !hasReal kids p.1) ++
        applyKids (if hasName kids opaqueMarker then [] else kidsOf acc) kids kids) := by
  cases acc with
  | none => simp [ociApplyNode, kidsOf]
  | some t =>
    cases t with
    | file a => simp [ociApplyNode, kidsOf]
    | dir a' K => simp [ociApplyNode, kidsOf]

theorem applyKids_cons (K all : List (Str × Tree)) (n : Str) (t : Tree) (rest) :
    applyKids K all ((n, t) :: rest) =
      if isWh n then applyKids K all rest
      else (n, ociApplyNode t (if hasWhiteoutFor all n then none else lookupKid K n)) :: applyKids K all rest := by
  by_cases h : isWh n = true <;> simp [applyKids, h]

theorem okTree_file (kx : KX) (a : Attr) : okTree kx (.file a) = !isWhiteoutDev a := by simp [okTree]

theorem okTree_dir (kx : KX) (a : Attr) (kids) :
    okTree kx (.dir a kids) =
      ((xlookup a.xattrs (kxName kx) != some opaqueXattrValue) && okKids kx kids kids) := by
  simp [okTree]

theorem okKids_cons (kx : KX) (all : List (Str × Tree)) (n : Str) (t : Tree) (rest) :
    okKids kx all ((n, t) :: rest) =
      ((isWh n || (validName n && okTree kx t && !(t.isDir && hasWhiteoutFor all n))) && okKids kx all rest) := by
  simp [okKids]

theorem okKids_lookup {kx : KX} {all l : List (Str × Tree)} (h : okKids kx all l = true) {x : Str} {t : Tree}
    (hx : isWh x = false) (hl : lookupKid l x = some t) :
    okTree kx t = true ∧ (t.isDir && hasWhiteoutFor all x) = false ∧ validName x = true := by
  induction l with
  | nil => simp [lookupKid] at hl
  | cons p ps ih =>
    obtain ⟨n, t'⟩ := p
    rw [okKids_cons] at h
    rw [lookupKid_cons] at hl
    simp only [Bool.and_eq_true, Bool.or_eq_true] at h
    by_cases hn : n = x
    · subst hn
      simp only [if_true, Option.some.injEq] at hl
      subst hl
      rcases h.1 with hw | hok
      · rw [hx] at hw; cases hw
      · simp only [Bool.not_eq_true'] at hok
        exact ⟨hok.1.2, hok.2, hok.1.1⟩
    · simp only [hn, if_false] at hl
      exact ih h.2 hl

/-! ## Tree level: one layer directory -/

section
variable {om : OpaqueMode} {kx : KX} {r : Bool} {all : List (Str × Tree)} {x : Str}

theorem name_ne_of_not_real {β} {all : List (Str × β)} (hr : hasReal all x = false) :
    ∀ p ∈ all, isWh p.1 = false → p.1 ≠ x := by
  intro p hp hpw hpx
  rw [hasReal, hasName_iff.mpr ⟨p, hp, hpx⟩, ← hpx, hpw] at hr
  cases hr

inductive ClassOf (all : List (Str × Tree)) (x : Str) : Cls → Prop
  | file (a : Attr) (real : lookupReal all x = some (.file a)) : ClassOf all x (.file a)
  | dir (a : Attr) (k : List (Str × Tree)) (real : lookupReal all x = some (.dir a k)) : ClassOf all x (.dir a k)
  | whiteout (noreal : lookupReal all x = none) (wh : hasWhiteoutFor all x = true) : ClassOf all x .whiteout
  | absent (noreal : lookupReal all x = none) (nowh : hasWhiteoutFor all x = false) : ClassOf all x .absent

/-- Used as an eliminator: `generalize classify all x = c` in this and in the goal, then `cases`. -/
theorem classify_spec (all : List (Str × Tree)) (x : Str) : ClassOf all x (classify all x) := by
  unfold classify
  cases hl : lookupReal all x with
  | some t =>
    cases t with
    | file a => exact .file a hl
    | dir a k => exact .dir a k hl
  | none =>
    cases hw : hasWhiteoutFor all x with
    | true => exact .whiteout hl hw
    | false => exact .absent hl hw

theorem serveKids_real {t : Tree} (hl : lookupReal all x = some t) (l : List (Str × Tree)) :
    lookupKid (serveKids om r all l) x = (lookupKid l x).map (serve om) := by
  have hx : isWh x = false := (lookupReal_eq_some.mp hl).1
  have hr : hasReal all x = true := by rw [hasReal_eq, hl]; rfl
  induction l with
  | nil => simp [serveKids_nil, lookupKid]
  | cons p ps ih =>
    obtain ⟨n, t⟩ := p
    rw [serveKids_cons, lookupKid_cons]
    cases hw : whTarget? n with
    | none =>
      simp only [lookupKid_cons]
      split <;> simp [ih]
    | some tgt =>
      -- a whiteout is not named `x`, and the whiteout of `x` is dropped because `x` is real
      cases whTarget?_eq_some.mp hw
      rw [if_neg fun h => by rw [← h] at hx; cases hx]
      dsimp only
      split
      · exact ih
      · rename_i hcond
        rw [lookupKid_cons, if_neg fun (h : tgt = x) => hcond (.inr (.inr (h ▸ hr)))]
        exact ih

theorem serveKids_noreal (hl : lookupReal all x = none) (l : List (Str × Tree)) (hsub : ∀ p ∈ l, p ∈ all) :
    lookupKid (serveKids om r all l) x =
      if mkWh x = opaqueMarker ∨ badTarget r x = true then none
      else (lookupKid l (mkWh x)).map fun t => Lower.file (whAttr t.attr.id) := by
  have hr : hasReal all x = false := by rw [hasReal_eq, hl]; rfl
  induction l with
  | nil => simp [serveKids_nil, lookupKid]
  | cons p ps ih =>
    obtain ⟨n, t⟩ := p
    have ih' := ih (fun p hp => hsub p (List.mem_cons_of_mem _ hp))
    rw [serveKids_cons]
    cases hw : whTarget? n with
    | none =>
      have hnw : isWh n = false := whTarget?_eq_none.mp hw
      have hnx : n ≠ x := name_ne_of_not_real hr (n, t) (hsub _ (List.mem_cons_self ..)) hnw
      have hnm : n ≠ mkWh x := by
        intro h; rw [h] at hnw; simp at hnw
      simp only [lookupKid_cons, hnx, hnm, if_false, ih']
    | some tgt =>
      cases whTarget?_eq_some.mp hw
      dsimp only
      rw [lookupKid_cons (mkWh tgt)]
      by_cases htx : tgt = x
      · -- the whiteout of `x` itself: served unless it is the marker or `x` is never looked up
        subst htx
        rw [if_pos rfl, hr]
        by_cases hc : mkWh tgt = opaqueMarker ∨ badTarget r tgt = true
        · rw [if_pos (hc.imp_right .inl), ih', if_pos hc, if_pos hc]
        · rw [if_neg (by simpa using hc), lookupKid_cons, if_pos rfl, if_neg hc]; rfl
      · rw [if_neg fun h => htx (mkWh_inj.mp h)]
        split
        · exact ih'
        · rw [lookupKid_cons, if_neg htx]; exact ih'

theorem isWhiteoutDev_whAttr (id : Nat) : isWhiteoutDev (whAttr id) = true := by
  simp [isWhiteoutDev, whAttr, S_IFCHR_type]

theorem served_real {t : Tree} (hl : lookupReal all x = some t) :
    lookupKid (serveKids om r all all) x = some (serve om t) := by
  rw [serveKids_real hl, (lookupReal_eq_some.mp hl).2]; rfl

theorem served_whiteout (hl : lookupReal all x = none) (hw : hasWhiteoutFor all x = true)
    (hb : badTarget r x = false) : ∃ id, lookupKid (serveKids om r all all) x = some (.file (whAttr id)) := by
  obtain ⟨hn, hm⟩ : hasName all (mkWh x) = true ∧ mkWh x ≠ opaqueMarker := by
    simpa [hasWhiteoutFor] using hw
  obtain ⟨t, ht⟩ := Option.isSome_iff_exists.mp hn
  exact ⟨t.attr.id, by rw [serveKids_noreal hl all fun _ h => h]; simp [hm, hb, ht]⟩

theorem served_none (hl : lookupReal all x = none)
    (h : hasWhiteoutFor all x = false ∨ badTarget r x = true) : lookupKid (serveKids om r all all) x = none := by
  rw [serveKids_noreal hl all fun _ h => h]
  by_cases hm : mkWh x = opaqueMarker
  · rw [if_pos (.inl hm)]
  · rcases h with hw | hb
    · have hn : lookupKid all (mkWh x) = none := by simpa [hasWhiteoutFor, hasName, hm] using hw
      rw [hn]; split <;> rfl
    · rw [if_pos (.inr hb)]

theorem served_isSome (om : OpaqueMode) (r : Bool) (all : List (Str × Tree)) (x : Str) :
    (lookupKid (serveKids om r all all) x).isSome =
      (hasReal all x || (hasWhiteoutFor all x && !badTarget r x)) := by
  rw [hasReal_eq]
  cases hl : lookupReal all x with
  | some t => rw [served_real hl]; rfl
  | none =>
    rw [serveKids_noreal hl all fun _ h => h, hasWhiteoutFor, hasName]
    by_cases hm : mkWh x = opaqueMarker
    · simp [hm]
    · cases badTarget r x <;> simp [hm]

theorem applyKids_lookup (K all : List (Str × Tree)) (x : Str) (l : List (Str × Tree)) :
    lookupKid (applyKids K all l) x =
      (lookupReal l x).map fun t => ociApplyNode t (if hasWhiteoutFor all x then none else lookupKid K x) := by
  unfold lookupReal
  induction l with
  | nil => cases isWh x <;> rfl
  | cons p ps ih =>
    obtain ⟨n, t⟩ := p
    rw [applyKids_cons]
    by_cases hn : isWh n = true
    · simp only [hn, if_true, ih, lookupKid_cons]
      by_cases hx : isWh x = true
      · simp [hx]
      · have : n ≠ x := by intro h; rw [h] at hn; exact hx hn
        simp [hx, this]
    · simp only [hn, Bool.false_eq_true, if_false, lookupKid_cons, ih]
      by_cases hnx : n = x
      · subst hnx; simp [hn]
      · simp [hnx]

theorem apply_dir_acc_nil (a : Attr) (kids : List (Str × Tree)) {acc : Option Tree} (h : kidsOf acc = []) :
    ociApplyNode (.dir a kids) acc = ociApplyNode (.dir a kids) none := by
  rw [apply_dir, apply_dir, h]; rfl

theorem applied_name (a : Attr) (kids : List (Str × Tree)) (acc : Option Tree) (x : Str) :
    lookupKid (kidsOf (some (ociApplyNode (.dir a kids) acc))) x =
      match classify kids x with
      | .whiteout => none
      | .file f => some (.file f)
      | .dir a' k => some (ociApplyNode (.dir a' k) (if hasWhiteoutFor kids x then none else
          lookupKid (if hasName kids opaqueMarker then [] else kidsOf acc) x))
      | .absent => lookupKid (if hasName kids opaqueMarker then [] else kidsOf acc) x := by
  rw [apply_dir, kidsOf, lookupKid_append,
    lookupKid_filter (fun n => !hasWhiteoutFor kids n && !hasReal kids n), applyKids_lookup, hasReal_eq]
  have hcls := classify_spec kids x
  generalize classify kids x = c at hcls ⊢
  cases hcls with
  | file a hl => rw [hl]; simp [apply_file]
  | dir a k hl => rw [hl]; simp
  | whiteout hl hw => rw [hl]; simp [hw]
  | absent hl hw =>
    rw [hl]; simp only [hw]
    cases lookupKid (if hasName kids opaqueMarker then [] else kidsOf acc) x <;> rfl

theorem lowerOpaque_serveDir (hc : compat om kx = true) {d : DirT}
    (hok : okTree kx d.tree = true) (r : Bool) :
    lowerOpaque kx (serveDir om r d) = hasName d.2 opaqueMarker := by
  obtain ⟨a, all⟩ := d
  simp only [DirT.tree, okTree_dir, Bool.and_eq_true, bne_iff_ne, ne_eq] at hok
  simp only [lowerOpaque, serveDir, lowerGetxattr]
  by_cases hm : hasName all opaqueMarker = true
  · have hc : kxName kx ∈ opaqueXattrs om := by simpa [compat] using hc
    simp [hm, hc]
  · simp only [hm, Bool.false_eq_true, if_false, List.contains_nil]
    simpa using hok.1

theorem okKids_real (hok : okKids kx all all = true) {t : Tree} (hl : lookupReal all x = some t) :
    okTree kx t = true ∧ (t.isDir && hasWhiteoutFor all x) = false ∧ validName x = true :=
  okKids_lookup hok (lookupReal_eq_some.mp hl).1 (lookupReal_eq_some.mp hl).2

theorem lookupReal_of_badTarget
    (hok : okKids kx all all = true) (hlm : r = true → ∀ p ∈ all, isLandmark p.1 = false)
    (hb : badTarget r x = true) : lookupReal all x = none := by
  cases hl : lookupReal all x with
  | none => rfl
  | some t =>
    obtain ⟨_, _, hv⟩ := okKids_real hok hl
    obtain ⟨hx, hl⟩ := lookupReal_eq_some.mp hl
    simp only [validName, Bool.and_eq_true, bne_iff_ne, ne_eq, Bool.not_eq_true'] at hv
    simp only [badTarget, Bool.or_eq_true, beq_iff_eq, hx, Bool.false_eq_true, or_false,
      Bool.and_eq_true] at hb
    rcases hb with (hb | hb) | hb
    · exact absurd hb hv.1
    · rw [hv.2] at hb; cases hb
    · have := hlm hb.1 (x, t) (lookupKid_mem hl)
      rw [hb.2] at this; cases this

/-! ## Tree level: a stack of layers, paths -/

theorem OkDirs.of_cons {d : DirT} {rest : List DirT} (h : OkDirs kx (d :: rest)) :
    okKids kx d.2 d.2 = true ∧ okTree kx d.tree = true ∧ OkDirs kx rest := by
  have hd := h d (List.mem_cons_self ..)
  refine ⟨?_, hd, fun d' hd' => h d' (List.mem_cons_of_mem _ hd')⟩
  rw [DirT.tree, okTree_dir, Bool.and_eq_true] at hd
  exact hd.2

theorem sub_ok : ∀ {tl : List DirT}, OkDirs kx tl → ∀ {ds}, sub x tl = .dirs ds → OkDirs kx ds := by
  intro tl
  induction tl with
  | nil => intro _ ds h; cases h
  | cons d rest ih =>
    intro hok ds h
    obtain ⟨hk, _, hrest⟩ := hok.of_cons
    rw [sub] at h
    have hcls := classify_spec d.2 x
    generalize classify d.2 x = c at hcls h
    cases hcls with
    | whiteout | file => cases h
    | dir a k hl =>
      cases h
      intro d' hd'
      rcases List.mem_cons.mp hd' with rfl | hd'
      · exact (okKids_real hk hl).1
      · split at hd'
        · cases hd'
        · cases hs : sub x rest <;> rw [hs] at hd'
          · cases hd'
          · cases hd'
          · exact ih hrest hs d' hd'
    | absent =>
      dsimp only at h
      split at h
      · cases h
      · exact ih hrest h

theorem sub_bad (hb : badTarget r x = true) :
    ∀ {tl : List DirT}, OkDirs kx tl → NoLandmarkKids r tl → sub x tl = .absent := by
  intro tl
  induction tl with
  | nil => intro _ _; rfl
  | cons d rest ih =>
    intro hok hlm
    obtain ⟨hk, _, hrest⟩ := hok.of_cons
    rw [sub, classify, lookupReal_of_badTarget hk (fun hr => hlm hr d (List.mem_cons_self ..)) hb]
    cases hasWhiteoutFor d.2 x
    · cases hasName d.2 opaqueMarker
      · exact ih hrest fun hr d' hd' => hlm hr d' (List.mem_cons_of_mem _ hd')
      · rfl
    · rfl

theorem descend_serve (hc : compat om kx = true) (r : Bool) (x : Str) :
    ∀ {tl : List DirT}, OkDirs kx tl → NoLandmarkKids r tl →
      descend kx x (tl.map (serveDir om r)) = (sub x tl).serve om := by
  intro tl
  induction tl with
  | nil => intro _ _; rfl
  | cons d rest ih =>
    intro hok hlm
    obtain ⟨hk, hd, hrest⟩ := hok.of_cons
    have hlmr : NoLandmarkKids r rest := fun hr d' hd' => hlm hr d' (List.mem_cons_of_mem _ hd')
    simp only [List.map_cons, descend, sub]
    have hkids : (serveDir om r d).2.2 = serveKids om r d.2 d.2 := rfl
    rw [hkids, lowerOpaque_serveDir hc hd r, ih hrest hlmr]
    have hcls := classify_spec d.2 x
    generalize classify d.2 x = c at hcls ⊢
    cases hcls with
    | whiteout hl hw =>
      cases hb : badTarget r x
      · obtain ⟨id, hid⟩ := served_whiteout (om := om) hl hw hb
        rw [hid]; dsimp only
        rw [isWhiteoutDev_whAttr]; rfl
      · -- the whiteout is not served: the lookup goes on below, where OCI application leaves nothing either
        rw [served_none hl (.inr hb), sub_bad hb hrest hlmr]
        cases hasName d.2 opaqueMarker <;> rfl
    | file a hl =>
      have hdev : isWhiteoutDev a = false := by simpa [okTree_file] using (okKids_real hk hl).1
      rw [served_real hl, serve_file]; dsimp only
      rw [hdev]; rfl
    | dir a k hl =>
      rw [served_real hl, serve_dir]
      cases hasName d.2 opaqueMarker
      · cases sub x rest <;> rfl
      · rfl
    | absent hl hw =>
      rw [served_none hl (.inl hw)]
      cases hasName d.2 opaqueMarker <;> rfl

theorem applied_child (x : Str) :
    ∀ {tl : List DirT}, OkDirs kx tl → lookupKid (kidsOf (appliedOf tl)) x = (sub x tl).tree := by
  intro tl
  induction tl with
  | nil => intro _; rfl
  | cons d rest ih =>
    intro hok
    obtain ⟨hk, _, hrest⟩ := hok.of_cons
    have hbase : lookupKid (if hasName d.2 opaqueMarker = true then [] else kidsOf (appliedOf rest)) x =
        if hasName d.2 opaqueMarker = true then none else (sub x rest).tree := by
      split
      · rfl
      · exact ih hrest
    rw [appliedOf, applied_name, hbase, sub]
    have hcls := classify_spec d.2 x
    generalize classify d.2 x = c at hcls ⊢
    cases hcls with
    | whiteout | file => rfl
    | dir a k hl =>
      -- a directory merges with what the layers below leave at `x`, unless its parent is opaque
      have hnw : hasWhiteoutFor d.2 x = false := by simpa [Tree.isDir] using (okKids_real hk hl).2.1
      dsimp only
      rw [hnw]
      cases hasName d.2 opaqueMarker
      · cases sub x rest
        · rfl
        · exact congrArg some (apply_dir_acc_nil _ _ rfl)
        · rfl
      · rfl
    | absent => cases hasName d.2 opaqueMarker <;> rfl

theorem appliedOf_cons_dir (d : DirT) (rest : List DirT) :
    ∃ kids, appliedOf (d :: rest) = some (.dir d.1 kids) := ⟨_, by rw [appliedOf, apply_dir]⟩

theorem applied_step (x : Str) (p : List Str) {tl : List DirT} (hok : OkDirs kx tl) :
    resolveOpt (appliedOf tl) (x :: p) =
      match sub x tl with
      | .absent => none
      | .file f => if p = [] then some (.file f) else none
      | .dirs ds => resolveOpt (appliedOf ds) p := by
  cases tl with
  | nil => rfl
  | cons d rest =>
    have hc := applied_child (kx := kx) x hok
    obtain ⟨kids, hk⟩ := appliedOf_cons_dir d rest
    rw [hk] at hc ⊢
    simp only [kidsOf] at hc
    simp only [resolveOpt, resolve, hc]
    cases hs : sub x (d :: rest) with
    | absent => simp [Sub.tree]
    | file f =>
      simp only [Sub.tree]
      cases p with
      | nil => simp [resolve, Tree.node]
      | cons y q => simp [resolve]
    | dirs ds =>
      simp only [Sub.tree]
      cases appliedOf ds <;> rfl

theorem ovl_eq_applied (hc : compat om kx = true) (p : List Str) :
    ∀ {r : Bool} {tl : List DirT}, OkDirs kx tl → NoLandmarkKids r tl →
      ovlResolve kx (tl.map (serveDir om r)) p = resolveOpt (appliedOf tl) p := by
  induction p with
  | nil =>
    intro r tl _ _
    cases tl with
    | nil => rfl
    | cons d rest =>
      obtain ⟨kids, hk⟩ := appliedOf_cons_dir d rest
      simp [ovlResolve, hk, resolveOpt, resolve, Tree.node, serveDir]
  | cons x p ih =>
    intro r tl hok hlm
    cases tl with
    | nil => rfl
    | cons d rest =>
      rw [applied_step x p hok]
      have hds := descend_serve hc r x hok hlm
      simp only [List.map_cons] at hds ⊢
      simp only [ovlResolve, hds]
      cases hs : sub x (d :: rest) with
      | absent => simp [Sub.serve]
      | file f => simp [Sub.serve]
      | dirs ds =>
        simp only [Sub.serve]
        exact ih (r := false) (sub_ok hok hs) (fun h => by cases h)

end

/-! ## Whole layers -/

theorem stripRoot_tree (d : DirT) : stripRoot d.tree = (stripD d).tree := rfl

theorem serveRoot_dir (om : OpaqueMode) (d : DirT) :
    (serveRoot om d.tree).dir? = some (serveDir om true (stripD d)) := by
  obtain ⟨a, kids⟩ := d
  simp only [serveRoot, DirT.tree, stripRoot, Lower.dir?, serveDir, stripD]
  rfl

theorem served_stack (om : OpaqueMode) (kx : KX) (layers : List DirT) :
    overlayMerge kx (layers.map fun d => serveRoot om d.tree) =
      ovlResolve kx ((layers.reverse.map stripD).map (serveDir om true)) := by
  unfold overlayMerge
  congr 1
  rw [← List.map_reverse, List.filterMap_map]
  rw [List.map_map]
  induction layers.reverse with
  | nil => rfl
  | cons d ds ih => simp [serveRoot_dir, ih]

theorem foldr_applied : ∀ (tl : List DirT), tl ≠ [] →
    some ((tl.map DirT.tree).foldr (fun l acc => ociApply acc l) emptyFs) = appliedOf (tl.map stripD) := by
  intro tl
  induction tl with
  | nil => intro h; exact absurd rfl h
  | cons d rest ih =>
    intro _
    cases rest with
    | nil =>
      simp only [List.map_cons, List.map_nil, List.foldr_cons, List.foldr_nil, appliedOf, ociApply,
        stripRoot_tree]
      exact congrArg some (apply_dir_acc_nil _ _ rfl)
    | cons d' rest' =>
      have := ih (by simp)
      simp only [List.map_cons, List.foldr_cons, appliedOf, ociApply, stripRoot_tree] at this ⊢
      rw [← this]
      rfl

theorem ociRootFs_eq (layers : List DirT) (hne : layers ≠ []) :
    ociRootFs (layers.map DirT.tree) = resolveOpt (appliedOf (layers.reverse.map stripD)) := by
  funext p
  have h := foldr_applied layers.reverse (by simpa using hne)
  rw [← h]
  simp only [ociRootFs, resolveOpt, List.foldl_eq_foldr_reverse, List.map_reverse]

theorem layers_ok {kx : KX} {layers : List DirT} (hok : ∀ d ∈ layers, LayerOK kx d) :
    OkDirs kx (layers.reverse.map stripD) := by
  intro d hd
  simp only [List.mem_map, List.mem_reverse] at hd
  obtain ⟨d0, hd0, rfl⟩ := hd
  exact hok d0 hd0

theorem layers_noLandmark (layers : List DirT) : NoLandmarkKids true (layers.reverse.map stripD) := by
  intro _ d hd p hp
  simp only [List.mem_map, List.mem_reverse] at hd
  obtain ⟨d0, _, rfl⟩ := hd
  simp only [stripD, List.mem_filter, Bool.not_eq_true'] at hp
  exact hp.2

/-! ## The node of a tree directory -/

theorem serve_attr (om : OpaqueMode) (t : Tree) : (serve om t).attr = t.attr := by
  cases t with
  | file a => simp [serve_file, Lower.attr, Tree.attr]
  | dir a k => simp [serve_dir, Lower.attr, Tree.attr]

theorem lookupKid_served (isRoot : Bool) (kids : List (Str × Tree)) (n : Str) :
    lookupKid (servedKidsOf isRoot kids) n =
      if (isRoot && isLandmark n) = true then none else lookupKid kids n := by
  unfold servedKidsOf
  cases isRoot with
  | false => simp
  | true =>
    simp only [if_true, Bool.true_and]
    rw [lookupKid_filter (fun n => !isLandmark n)]
    cases isLandmark n <;> simp

theorem hasName_childOf (kids : List (Str × Tree)) (n : Str) :
    (∃ c ∈ kids.map childOf, c.name = n) ↔ hasName kids n = true := by
  rw [hasName_iff]
  constructor
  · rintro ⟨c, hc, rfl⟩
    obtain ⟨p, hp, rfl⟩ := List.mem_map.mp hc
    exact ⟨p, hp, rfl⟩
  · rintro ⟨p, hp, rfl⟩
    exact ⟨childOf p, List.mem_map_of_mem hp, rfl⟩

theorem hasNormal_dirOfTree (r : Bool) (base : Nat) (a : Attr) (kids : List (Str × Tree)) {x : Str}
    (hx : isDots x = false) :
    hasNormal (dirOfTree r base a kids) x = hasReal (servedKidsOf r kids) x := by
  rw [Bool.eq_iff_iff, hasNormal_iff, hasReal, Bool.and_eq_true, Bool.not_eq_true', hasName, lookupKid_served,
    isNormal_iff]
  show (∃ c ∈ kids.map childOf, c.name = x ∧ _ ∧ (r && isLandmark x) = false ∧ _) ↔ _
  constructor
  · rintro ⟨c, hc, hcn, _, hl, hw⟩
    rw [if_neg (by simp [hl])]
    exact ⟨hw, (hasName_childOf ..).mp ⟨c, hc, hcn⟩⟩
  · rintro ⟨hw, hs⟩
    cases hl : (r && isLandmark x) with
    | true => rw [hl, if_pos rfl] at hs; cases hs
    | false =>
      rw [hl, if_neg Bool.false_ne_true] at hs
      obtain ⟨c, hc, hcn⟩ := (hasName_childOf ..).mpr hs
      exact ⟨c, hc, hcn, hx, rfl, hw⟩

/- The examples of C07 decide the domain predicates on concrete layers. -/
instance (d : Dir) (n : Str) : Decidable (Plain d n) := by unfold Plain; infer_instance
instance (d : Dir) : Decidable (NoDupNames d) := by unfold NoDupNames; infer_instance
instance (kx : KX) (d : DirT) : Decidable (LayerOK kx d) := by unfold LayerOK; infer_instance
deriving instance DecidableEq for Ans

end SV.Overlay
