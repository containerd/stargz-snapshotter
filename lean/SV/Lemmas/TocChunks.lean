/-
The chunk tables of one regular file in both stores, each in closed form as a function of the TOC: the db
store's rows (`CInv`, `cinv`, `dRows_final`) and the memory store's (`mem_table`); `file_agree` joins them.
-/
import SV.Lemmas.TocNames

namespace SV.Toc.R

theorem chunk_size {es : List Entry} (sc : SpecConformingR es) {u : Nat} {m : MEnt}
    (hm : (pass1 es)[u]? = some m) (hc : m.e.type = "chunk") :
    ∃ r mr, r < u ∧ (pass1 es)[r]? = some mr ∧ mr.e.type = "reg" ∧ mr.path = m.path ∧
      m.chunkSize = normSize mr.e.size m.e := by
  obtain ⟨r, mr, h1, h2, h3, h4, h5⟩ := chunk_owner sc u m hm hc
  refine ⟨r, mr, h1, h2, h3, h4, ?_⟩
  obtain ⟨lp', hst, _, _⟩ := pass1Go_state es [] none u m hm
  have hcs := congrArg MEnt.chunkSize hst
  rw [hcs]
  simp [pass1Ent, h5, hc, normSize]

theorem dbChunkSize_chunk (sz : Int) (e : Entry) (hc : e.type = "chunk") :
    dbChunkSize sz e = normSize sz e := by
  simp [dbChunkSize, normSize, hc]

/-- chunk entries the db store files under the file named `p` of size `sz` -/
def PpD (p : Path) (sz : Int) (m : MEnt) : Bool :=
  m.e.type = "chunk" ∧ m.path = p ∧ dbChunkSize sz m.e > 0

theorem PpD_eq (p : Path) (sz : Int) (m : MEnt) : PpD p sz m = (Pp p m && decide (dbChunkSize sz m.e > 0)) := by
  simp only [PpD, Pp, ← and_assoc, Bool.decide_and]

/-- what `md[id].chunks` of the file at index `r` holds after the first `i` entries -/
def dRowsSpec (ms : List MEnt) (i r : Nat) (mr : MEnt) : List Chunk :=
  (if r < i ∧ mr.e.size > 0 then [dbRow 0 mr.e] else []) ++
    ((ms.take i).filter (PpD mr.path mr.e.size)).map fun m => dbRow mr.e.size m.e

structure CInv (ms : List MEnt) (i : Nat) (c : CState) : Prop where
  regs : ∀ r mr, ms[r]? = some mr → mr.e.type = "reg" → c.chunks (.ent r) = dRowsSpec ms i r mr
  others : ∀ k, (∀ r mr, ms[r]? = some mr → mr.e.type = "reg" → k ≠ .ent r) → c.chunks k = []
  /-- `lastEnt` is the node of the last non-chunk entry `t`, whose name entry `i - 1` carries -/
  last : ∀ m, 0 < i → ms[i - 1]? = some m → ∃ t mt, t < i ∧ ms[t]? = some mt ∧ mt.e.type ≠ "chunk" ∧
    mt.path = m.path ∧ c.lastEnt = some (idOf ms t mt) ∧ c.lastEntSize = mt.e.size

theorem dbRow_nonchunk (a b : Int) (e : Entry) (h : e.type ≠ "chunk") : dbRow a e = dbRow b e := by
  simp [dbRow, dbChunkSize, h]

theorem before_file {es : List Entry} (sc : SpecConformingR es) {r : Nat} {mr : MEnt}
    (hmr : (pass1 es)[r]? = some mr) (hnc : mr.e.type ≠ "chunk") (hnd : mr.e.type ≠ "dir") :
    ∀ m ∈ (pass1 es).take r, m.path ≠ mr.path := by
  intro m hm hp
  obtain ⟨u, hu, e⟩ := List.mem_take_iff_getElem.mp hm
  have hmu : (pass1 es)[u]? = some m := by rw [← e]; exact List.getElem?_eq_getElem _
  by_cases hc : m.e.type = "chunk"
  · obtain ⟨r', mr', h1, h2, h3, h4, _⟩ := chunk_owner sc u m hmu hc
    have hnc' : mr'.e.type ≠ "chunk" := by rw [h3]; decide
    have := nondir_unique (spec_treeOK sc) h2 hmr hnc' hnc (by rw [h4, hp]) (Or.inr hnd)
    omega
  · have := nondir_unique (spec_treeOK sc) hmu hmr hc hnc hp (Or.inr hnd)
    omega

theorem after_file {es : List Entry} (sc : SpecConformingR es) {r : Nat} {mr : MEnt}
    (hmr : (pass1 es)[r]? = some mr) (hnc : mr.e.type ≠ "chunk") (hnd : mr.e.type ≠ "dir") :
    ∀ m ∈ (pass1 es).drop (r + 1), m.e.type = "reg" → m.path ≠ mr.path := by
  intro m hm hreg hp
  obtain ⟨u, hu, e⟩ := List.mem_drop_iff_getElem.mp hm
  have hmu : (pass1 es)[r + 1 + u]? = some m := by rw [← e]; exact List.getElem?_eq_getElem _
  have hc : m.e.type ≠ "chunk" := by rw [hreg]; decide
  have := nondir_unique (spec_treeOK sc) hmu hmr hc hnc hp (Or.inr hnd)
  omega

theorem dRowsSpec_succ {ms : List MEnt} {i : Nat} {m : MEnt} (hm : ms[i]? = some m) {r : Nat} (hr : r ≠ i)
    (mr : MEnt) :
    dRowsSpec ms (i + 1) r mr =
      dRowsSpec ms i r mr ++ if PpD mr.path mr.e.size m then [dbRow mr.e.size m.e] else [] := by
  have hri : (r < i + 1 ∧ mr.e.size > 0) ↔ (r < i ∧ mr.e.size > 0) :=
    ⟨fun h => ⟨by omega, h.2⟩, fun h => ⟨by omega, h.2⟩⟩
  unfold dRowsSpec
  rw [take_succ_filter _ i m hm, List.map_append, List.append_assoc]
  simp only [hri, apply_ite (List.map _), List.map_cons, List.map_nil]

theorem cinv_step_chunk {es : List Entry} (sc : SpecConformingR es) {i : Nat} {m : MEnt} {c : CState}
    (hm : (pass1 es)[i]? = some m) (hc : m.e.type = "chunk") (inv : CInv (pass1 es) i c) :
    CInv (pass1 es) (i + 1) (cStep (pass1 es) c i m.e) := by
  have hltm := (List.getElem?_eq_some_iff.mp hm).1
  obtain ⟨r0, mr0, hr0, hmr0, hreg0, hpath0, _⟩ := chunk_owner sc i m hm hc
  have hi0 : 0 < i := by omega
  have hpl : i - 1 < (pass1 es).length := by omega
  have hmp : (pass1 es)[i - 1]? = some (pass1 es)[i - 1] := List.getElem?_eq_getElem hpl
  have hmi : (pass1 es)[(i - 1) + 1]? = some m := by
    have : i - 1 + 1 = i := by omega
    rw [this]; exact hm
  have hpp := pass1_chunk_path hmi hmp hc
  obtain ⟨t, mt, ht, hmt, hct, hpt, hle, hls⟩ := inv.last _ hi0 hmp
  have hnc0 : mr0.e.type ≠ "chunk" := by rw [hreg0]; decide
  have htr : t = r0 := nondir_unique (spec_treeOK sc) hmt hmr0 hct hnc0 (by rw [hpt, ← hpp, hpath0]) (Or.inr (by rw [hreg0]; decide))
  subst htr
  have hmteq : mt = mr0 := by rw [hmt] at hmr0; exact Option.some.inj hmr0
  subst hmteq
  have hid : idOf (pass1 es) t mt = .ent t := idOf_reg hmt hreg0
  rw [hid] at hle
  have hstep : cStep (pass1 es) c i m.e =
      if dbChunkSize mt.e.size m.e > 0 then cAppend c (.ent t) (dbRow mt.e.size m.e) else c := by
    unfold cStep
    simp only [hc, ↓reduceIte, hls, hle]
  rw [hstep]
  refine ⟨?_, ?_, ?_⟩
  · intro r mr hmr hreg
    have hri : r ≠ i := by
      intro e; subst e; rw [hm] at hmr; cases hmr; rw [hc] at hreg; exact absurd hreg (by decide)
    rw [dRowsSpec_succ hm hri, ← inv.regs r mr hmr hreg]
    by_cases hrt : r = t
    · subst hrt
      have hmreq : mr = mt := by rw [hmt] at hmr; exact (Option.some.inj hmr).symm
      subst hmreq
      have hP : PpD mr.path mr.e.size m = decide (dbChunkSize mr.e.size m.e > 0) := by
        simp [PpD, hc, hpath0]
      rw [hP]
      by_cases hpos : dbChunkSize mr.e.size m.e > 0
      · simp only [hpos, ↓reduceIte, decide_true, cAppend]
      · simp only [hpos, ↓reduceIte, decide_false, Bool.false_eq_true, List.append_nil]
    · have hP : PpD mr.path mr.e.size m = false := by
        have hnc : mr.e.type ≠ "chunk" := by rw [hreg]; decide
        have : m.path ≠ mr.path := by
          intro e
          exact hrt (nondir_unique (spec_treeOK sc) hmr hmt hnc hnc0 (by rw [← e, hpath0]) (Or.inl (by rw [hreg]; decide)))
        simp [PpD, this]
      have hne : Key.ent r ≠ Key.ent t := by intro e; cases e; exact hrt rfl
      rw [hP]
      split <;> simp [cAppend, hne]
  · intro k hk
    have hne : k ≠ Key.ent t := hk t mt hmt hreg0
    split
    · simp only [cAppend, hne, ↓reduceIte]; exact inv.others k hk
    · exact inv.others k hk
  · intro m' _ hm'
    simp only [Nat.add_sub_cancel] at hm'
    rw [hm] at hm'; cases hm'
    refine ⟨t, mt, by omega, hmt, hct, hpath0, ?_, ?_⟩
    · rw [hid]; split <;> simp [cAppend, hle]
    · split <;> simp [cAppend, hls]

theorem cinv_step_entry {es : List Entry} (sc : SpecConformingR es) {i : Nat} {m : MEnt} {c : CState}
    (hm : (pass1 es)[i]? = some m) (hc : m.e.type ≠ "chunk") (inv : CInv (pass1 es) i c) :
    CInv (pass1 es) (i + 1) (cStep (pass1 es) c i m.e) := by
  rw [cStep_entry _ _ _ hc]
  have hnofilter : ∀ (r : Nat) (mr : MEnt), PpD mr.path mr.e.size m = false := by
    intro r mr; simp [PpD, hc]
  refine ⟨?_, ?_, ?_⟩
  · intro r mr hmr hreg
    by_cases hri : r = i
    · subst hri
      have hmreq : mr = m := by rw [hm] at hmr; exact (Option.some.inj hmr).symm
      subst hmreq
      have hidr : idOf (pass1 es) r mr = .ent r := idOf_reg hm hreg
      -- nothing was filed under this name before
      have hempty : ((pass1 es).take r).filter (PpD mr.path mr.e.size) = [] := by
        rw [List.filter_eq_nil_iff]
        intro x hx hP
        simp only [PpD, decide_eq_true_eq] at hP
        exact before_file sc hm hc (by rw [hreg]; decide) x hx hP.2.1
      have hold := inv.regs r mr hmr hreg
      unfold dRowsSpec at hold ⊢
      rw [take_succ_filter _ r mr hm, hnofilter r mr]
      rw [hempty] at hold ⊢
      have hnl : ¬ (r < r ∧ mr.e.size > 0) := by omega
      simp only [hnl, ↓reduceIte, List.nil_append, List.map_nil] at hold
      by_cases hpos : mr.e.size > 0
      · have h1 : r < r + 1 ∧ mr.e.size > 0 := ⟨by omega, hpos⟩
        have h2 : mr.e.type = "reg" ∧ mr.e.size > 0 := ⟨hreg, hpos⟩
        simp only [h1, h2, and_self, ↓reduceIte, hidr, cAppend, hold, List.nil_append, List.map_nil,
          List.append_nil, Bool.false_eq_true]
        rw [dbRow_nonchunk _ 0 _ hc]
      · have h1 : ¬ (r < r + 1 ∧ mr.e.size > 0) := fun h => hpos h.2
        have h2 : ¬ (mr.e.type = "reg" ∧ mr.e.size > 0) := fun h => hpos h.2
        simp only [h1, h2, ↓reduceIte, hold, List.map_nil, List.append_nil, Bool.false_eq_true]
    · rw [dRowsSpec_succ hm hri, hnofilter r mr, ← inv.regs r mr hmr hreg]
      have hne : Key.ent r ≠ Key.ent i := by intro e; cases e; exact hri rfl
      split
      · rename_i hreg'
        simp [cAppend, idOf_reg hm hreg'.1, hne]
      · simp
  · intro k hk
    split
    · rename_i hreg'
      have hidi : idOf (pass1 es) i m = .ent i := idOf_reg hm hreg'.1
      have hne : k ≠ Key.ent i := hk i m hm hreg'.1
      simp only [cAppend, hidi, hne, ↓reduceIte]; exact inv.others k hk
    · exact inv.others k hk
  · intro m' _ hm'
    simp only [Nat.add_sub_cancel] at hm'
    rw [hm] at hm'; cases hm'
    refine ⟨i, m, by omega, hm, hc, rfl, ?_, ?_⟩
    · split <;> simp [cAppend]
    · split <;> simp [cAppend]

theorem cinv {es : List Entry} (sc : SpecConformingR es) :
    ∀ i, i ≤ es.length → CInv (pass1 es) i (cRun (pass1 es) es i) := by
  intro i
  induction i with
  | zero =>
    intro _
    refine ⟨?_, ?_, ?_⟩
    · intro r mr _ _; simp [cRun, cRunFrom, dRowsSpec]
    · intro k _; simp [cRun, cRunFrom]
    · intro m h; omega
  | succ i ih =>
    intro hi
    have hlt : i < es.length := by omega
    have hltm : i < (pass1 es).length := by rw [pass1_length]; exact hlt
    have hm : (pass1 es)[i]? = some (pass1 es)[i] := List.getElem?_eq_getElem hltm
    obtain ⟨_, hee⟩ := pass1_entry hm
    rw [cRun_succ _ _ _ hlt, hee]
    by_cases hc : ((pass1 es)[i]).e.type = "chunk"
    · exact cinv_step_chunk sc hm hc (ih (by omega))
    · exact cinv_step_entry sc hm hc (ih (by omega))

/-- `r.chunks[name]`: the `reg` entry itself when it opens a chunked file, then the chunk entries carrying its name -/
theorem mem_table {es : List Entry} (sc : SpecConformingR es) {r : Nat} {mr : MEnt}
    (hmr : (pass1 es)[r]? = some mr) (hreg : mr.e.type = "reg") :
    memRows (pass1 es) (memChunkIdxs (pass1 es) mr.path) =
      (if mr.e.chunkSize > 0 ∧ mr.e.chunkSize < mr.e.size then [rowM mr] else []) ++
        ((pass1 es).filter (Pp mr.path)).map rowM ∧
    (memChunkIdxs (pass1 es) mr.path).length =
      (if mr.e.chunkSize > 0 ∧ mr.e.chunkSize < mr.e.size then 1 else 0) +
        ((pass1 es).filter (Pp mr.path)).length := by
  have hnc : mr.e.type ≠ "chunk" := by rw [hreg]; decide
  obtain ⟨hsplit, hlen⟩ := eq_take_cons_drop (pass1 es) r mr hmr
  have hbefore := before_file sc hmr hnc (by rw [hreg]; decide)
  have hafter := after_file sc hmr hnc (by rw [hreg]; decide)
  -- the filter sees only what follows the file
  have hfilter : (pass1 es).filter (Pp mr.path) = ((pass1 es).drop (r + 1)).filter (Pp mr.path) := by
    conv => lhs; rw [hsplit]
    rw [List.filter_append, List.filter_cons]
    have h1 : ((pass1 es).take r).filter (Pp mr.path) = [] := by
      rw [List.filter_eq_nil_iff]
      intro x hx hP
      simp only [Pp, decide_eq_true_eq] at hP
      exact hbefore x hx hP.2
    have h2 : Pp mr.path mr = false := by simp [Pp, hnc]
    rw [h1, h2]; simp
  have hidx : memChunkIdxs (pass1 es) mr.path =
      memChunkIdxs.go mr.path ((pass1 es).drop (r + 1)) (r + 1)
        (if mr.e.chunkSize > 0 ∧ mr.e.chunkSize < mr.e.size then [r] else []) := by
    unfold memChunkIdxs
    have h0 : memChunkIdxs.go mr.path (pass1 es) 0 [] =
        memChunkIdxs.go mr.path ((pass1 es).take r ++ mr :: (pass1 es).drop (r + 1)) 0 [] :=
      congrArg (fun l => memChunkIdxs.go mr.path l 0 []) hsplit
    rw [h0, memChunkIdxs_go_append, memChunkIdxs_go_nomatch _ _ hbefore, hlen]
    simp [memChunkIdxs.go, hreg]
  have hrows := memChunkIdxs_go_rows (pass1 es) mr.path ((pass1 es).length - (r + 1)) (r + 1)
    (if mr.e.chunkSize > 0 ∧ mr.e.chunkSize < mr.e.size then [r] else []) rfl hafter
  rw [hidx, hrows.1, hrows.2, hfilter]
  constructor
  · congr 1
    split
    · exact memRows_single _ r mr hmr
    · rfl
  · congr 1
    split <;> rfl

/-- the db rows of file `r` after the whole TOC, when every chunk entry under its name has positive size (`hall`) -/
theorem dRows_final {es : List Entry} (sc : SpecConformingR es) {r : Nat} {mr : MEnt}
    (hmr : (pass1 es)[r]? = some mr) (hreg : mr.e.type = "reg")
    (hall : ∀ x ∈ (pass1 es).filter (Pp mr.path), normSize mr.e.size x.e > 0) :
    (cRun (pass1 es) es es.length).chunks (.ent r) =
      (if mr.e.size > 0 then [dbRow 0 mr.e] else []) ++
        ((pass1 es).filter (Pp mr.path)).map fun m => dbRow mr.e.size m.e := by
  have hfd : (pass1 es).filter (PpD mr.path mr.e.size) = (pass1 es).filter (Pp mr.path) := by
    refine List.filter_congr fun x hx => ?_
    rw [PpD_eq]
    by_cases hP : Pp mr.path x = true
    · have hpos := hall x (List.mem_filter.mpr ⟨hx, hP⟩)
      have hc : x.e.type = "chunk" := by simp only [Pp, decide_eq_true_eq] at hP; exact hP.1
      rw [hP, dbChunkSize_chunk _ _ hc, decide_eq_true hpos]; rfl
    · rw [Bool.not_eq_true] at hP; rw [hP]; rfl
  have hrl : r < es.length := by
    rw [← pass1_length es]; exact (List.getElem?_eq_some_iff.mp hmr).1
  rw [(cinv sc es.length (Nat.le_refl _)).regs r mr hmr hreg]
  unfold dRowsSpec
  rw [← pass1_length es, List.take_length, hfd]
  simp only [pass1_length, hrl, true_and]

theorem file_agree {es : List Entry} (sc : SpecConformingR es) {r : Nat} {mr : MEnt}
    (hmr : (pass1 es)[r]? = some mr) (hreg : mr.e.type = "reg") :
    (∀ x, 0 ≤ x →
      (if (memChunkIdxs (pass1 es) mr.path).length < 2 then
          ChunkTab.single mr.e.chunkOffset mr.chunkSize (memDigest mr.e)
        else ChunkTab.table (memRows (pass1 es) (memChunkIdxs (pass1 es) mr.path))).lookup x =
      (ChunkTab.table (readChunks ((cRun (pass1 es) es es.length).chunks (.ent r)) mr.e.size)).lookup x) ∧
    (((readChunks ((cRun (pass1 es) es es.length).chunks (.ent r)) mr.e.size).head?.map (·.offset)).getD 0
      = mr.e.offset) := by
  have hnc : mr.e.type ≠ "chunk" := by rw [hreg]; decide
  obtain ⟨hr, hmre⟩ := List.getElem?_eq_some_iff.mp hmr
  have hfile := sc.files r hr (by rw [hmre]; exact hreg)
  rw [hmre] at hfile
  have hchunksOf : chunksOf (pass1 es) mr.path = ((pass1 es).filter (Pp mr.path)).map (·.e) := rfl
  rw [hchunksOf] at hfile
  have hsz : ∀ m ∈ (pass1 es).filter (Pp mr.path), m.chunkSize = normSize mr.e.size m.e := by
    intro m hm
    obtain ⟨hmem, hP⟩ := List.mem_filter.mp hm
    simp only [Pp, decide_eq_true_eq] at hP
    obtain ⟨u, _, hmu⟩ := List.getElem_of_mem hmem
    have hmu' : (pass1 es)[u]? = some m := by rw [← hmu]; exact List.getElem?_eq_getElem _
    obtain ⟨r', mr', _, h2, h3, h4, h5⟩ := chunk_size sc hmu' hP.1
    have hnc' : mr'.e.type ≠ "chunk" := by rw [h3]; decide
    have := nondir_unique (spec_treeOK sc) h2 hmr hnc' hnc (by rw [h4, hP.2]) (Or.inl (by rw [h3]; decide))
    subst this
    rw [hmr] at h2; cases h2
    exact h5
  obtain ⟨htab, hlen⟩ := mem_table sc hmr hreg
  simp only [fileOK, Bool.and_eq_true, decide_eq_true_eq] at hfile
  obtain ⟨hsize0, hrest⟩ := hfile
  by_cases hs0 : mr.e.size = 0
  · -- an empty file: no rows on either side
    simp only [hs0, ↓reduceIte, Bool.and_eq_true, List.isEmpty_iff, List.map_eq_nil_iff,
      decide_eq_true_eq] at hrest
    obtain ⟨⟨hnil, hcs0⟩, hoff0⟩ := hrest
    have hnoreset : ¬ (mr.e.chunkSize > 0 ∧ mr.e.chunkSize < mr.e.size) := by omega
    rw [hnil] at hlen htab
    simp only [hnoreset, ↓reduceIte, List.length_nil, Nat.add_zero] at hlen
    have hdb := dRows_final sc hmr hreg (by rw [hnil]; intro x hx; cases hx)
    have hnl : ¬ mr.e.size > 0 := by omega
    simp only [hnil, hnl, ↓reduceIte, List.map_nil, List.append_nil] at hdb
    rw [hdb, hlen]
    have hmcs : mr.chunkSize = 0 := by
      rw [pass1_nonchunk_size hmr hnc]; simp [regEff, hcs0, hs0]
    refine ⟨?_, by simp [readChunks, hoff0]⟩
    intro x hx
    rw [if_pos (by omega)]
    rw [readChunks_nil]
    simp only [ChunkTab.lookup, hmcs, searchChunk, List.getElem?_nil]
    rw [if_pos hx]
  · -- rows tile the file
    simp only [hs0, ↓reduceIte, Bool.and_eq_true, decide_eq_true_eq] at hrest
    obtain ⟨⟨⟨hdg, hco0⟩, hreff⟩, hcontig⟩ := hrest
    have hspos : mr.e.size > 0 := by omega
    obtain ⟨hct, hall⟩ := contig_of_ok mr.e.size _ (regEff mr.e) hsz hcontig
    have hmcs := pass1_nonchunk_size hmr hnc
    have hcontigAll : Contig 0 mr.e.size (rowM mr :: ((pass1 es).filter (Pp mr.path)).map rowM) := by
      refine ⟨hco0, by simp only [rowM]; rw [hmcs]; exact hreff, ?_⟩
      simp only [rowM]; rw [hmcs]; simpa using hct
    have hdb := dRows_final sc hmr hreg fun x hx => (hall x hx).2
    simp only [hspos, ↓reduceIte, List.singleton_append] at hdb
    have herase : ((cRun (pass1 es) es es.length).chunks (.ent r)).map eraseSize =
        (rowM mr :: ((pass1 es).filter (Pp mr.path)).map rowM).map eraseSize := by
      rw [hdb]
      simp only [List.map_cons, List.map_map, List.cons.injEq]
      refine ⟨?_, ?_⟩
      · simp [eraseSize, dbRow, rowM, memDigest_eq _ hdg]
      · apply List.map_congr_left
        intro x hx
        simp [eraseSize, dbRow, rowM, memDigest_eq _ (hall x hx).1]
    have hrc := readChunks_contig _ _ mr.e.size hcontigAll herase
    refine ⟨?_, by rw [hrc]; simp [rowM]⟩
    intro x hx
    have hla := lookup_rows_agree mr.e.size _ _ hcontigAll herase x hx
    rw [← hla]
    cases hCs : (pass1 es).filter (Pp mr.path) with
    | nil =>
      rw [hCs] at hcontig hlen htab hcontigAll
      simp only [List.map_nil, contigOK, decide_eq_true_eq] at hcontig
      have hnoreset : ¬ (mr.e.chunkSize > 0 ∧ mr.e.chunkSize < mr.e.size) := by
        intro ⟨h1, h2⟩
        simp only [regEff] at hcontig
        split at hcontig <;> omega
      simp only [hnoreset, ↓reduceIte, List.length_nil, Nat.add_zero] at hlen
      rw [hlen]
      simp only [Nat.zero_lt_succ, ↓reduceIte, List.map_nil, rowM]
    | cons c cs =>
      rw [hCs] at hlen htab hct
      have hlt := contig_lt_of_ne_nil hct (by simp)
      have hreset : mr.e.chunkSize > 0 ∧ mr.e.chunkSize < mr.e.size := by
        simp only [regEff] at hlt hreff
        split at hlt <;> omega
      simp only [hreset, and_self, ↓reduceIte, List.length_cons] at hlen htab
      have hge : ¬ (memChunkIdxs (pass1 es) mr.path).length < 2 := by omega
      rw [if_neg hge, htab]
      simp only [List.map_cons, List.singleton_append]

end SV.Toc.R
