/-
The shared single-flight path and the split `Cache` of fs/remote/blob.go (`SV/Model/BlobShared.lean`),
C06.  `fetchRangeShared` / `readAtShared`, new and old code, are one loop with the writer reset as a
parameter (`fetchLoop` / `readLoop`); `readLoop_spec` is proved about that loop from the writer
predicates `WOK`, `WDone`, `WProg`; `readLoop_lead_eq`: the leader's round is `readAt`.  Then the pieces
of a split `Cache` (`cacheCalls_chunks`), and `CacheCovered`, which holds of every reply, honest or not
(`runCalls_trace`, `runOps_cacheCovered`).
-/
import SV.Model.BlobShared
import SV.Lemmas.Blob

namespace SV.Blob
open SV.Region

/-! ## one `Write` that fills or misses the window -/

theorem BW.write_full (w : BW) (d : Bytes) (h0 : w.current = 0)
    (h : w.destOff + w.dest.length ≤ d.length) :
    (w.write d).dest = slice d w.destOff w.dest.length := by
  apply List.ext_getElem?
  intro j
  rw [BW.write_getElem? w d j, h0]
  unfold slice
  rw [List.getElem?_take, List.getElem?_drop]
  by_cases hj : j < w.dest.length
  · rw [if_pos ⟨Nat.zero_le _, by omega, hj⟩, if_pos hj]; congr 1
  · rw [if_neg fun h' => hj h'.2.2, if_neg hj, List.getElem?_eq_none (Nat.le_of_not_lt hj)]

theorem BW.write_complete (w : BW) (p : Bytes) (h : w.destOff + w.dest.length ≤ w.current) :
    (w.write p).dest = w.dest := by
  apply List.ext_getElem?
  intro j
  rw [BW.write_getElem? w p j, if_neg (by omega)]

/-! ## where the chunks stored from a reply lie -/

/-- Every part announces a range whose chunks lie in `[lo, hi]`. -/
def ReplyWithin (P : Params) (lo hi : Nat) : Reply → Prop
  | .fail => True
  | .parts ps => ∀ p ∈ ps, lo ≤ p.b ∧ ceilU p.e P.chunk - 1 ≤ hi

/-- A chunk stored from `reply`: a full grid chunk inside every span that contains the reply. -/
structure StoredFrom (P : Params) (reply : Reply) (cd : Chunk × Bytes) : Prop where
  full : cd.2.length = cd.1.size
  grid : GridChunk P cd.1
  within : ∀ lo hi, ReplyWithin P lo hi reply → lo ≤ cd.1.b ∧ cd.1.e ≤ hi

theorem storeChunks_storedFrom (P : Params) (hc : 0 < P.chunk) (ps : List Part) (p : Part)
    (hp : p ∈ ps) (hal : p.b % P.chunk = 0) (s : St) :
    StoreTrace (StoredFrom P (.parts ps)) s
      (storeChunks s p.data (chunksFrom P p.e (P.size + 1) p.b)) := by
  refine storeChunks_walk P p.e _ (fun i _ => i % P.chunk = 0 ∧ p.b ≤ i)
    (fun i stream hJ hcond hlen => ?_) _ _ s p.data ⟨hal, Nat.le_refl _⟩
  have hg := gridChunk_chunkAt P i hJ.1 hcond.2
  refine ⟨⟨List.length_take_of_le hlen, hg, fun lo hi hw => ?_⟩,
    by rw [Nat.add_mod_right]; exact hJ.1, Nat.le_trans hJ.2 (Nat.le_add_right ..)⟩
  obtain ⟨h1, h2⟩ := hw p hp
  exact ⟨Nat.le_trans h1 hJ.2, Nat.le_trans (gridChunk_end_le hc hg hcond.1) h2⟩

theorem fetchMissing_trace (P : Params) (hc : 0 < P.chunk) (s : St) (missing : List Chunk)
    (reply : Reply) :
    StoreTrace (StoredFrom P reply) s (fetchMissing P s missing reply) ∧
      ∀ got, (fetchMissing P s missing reply).2 = some got → ∀ c ∈ missing, ∃ cd ∈ got, cd.1 = c :=
  fetchMissing_walk P (StoredFrom P reply) s missing reply fun ps e =>
    storeParts_walk P _ (· ∈ ps)
      (fun p hp hal s => by subst e; exact storeChunks_storedFrom P hc ps p hp hal s) ps s fun _ h => h

/-! ## the writers of a pending read -/

theorem Writers.get_set (ws : Writers) (c c1 : Chunk) (w1 : BW) :
    (ws.set c1 w1).get c = if c1 = c then (ws.get c).map (fun _ => w1) else ws.get c := by
  unfold Writers.get Writers.set
  rw [find?_map_key _ fun kv => by
    split
    · rename_i hk; exact hk.symm
    · rfl]
  rcases find?_key ws c with ⟨w, _, hf⟩ | ⟨hf, _⟩
  · rw [hf]
    by_cases h : c1 = c
    · rw [if_pos h]; simp only [Option.map_some, if_pos h.symm]
    · rw [if_neg h]; simp only [Option.map_some, if_neg (Ne.symm h)]
  · rw [hf]; split <;> rfl

def WsAll (I : Chunk → BW → Prop) (ms : List Chunk) (ws : Writers) : Prop :=
  ∀ c ∈ ms, ∃ w, ws.get c = some w ∧ I c w

theorem WsAll.mono {I I' : Chunk → BW → Prop} {ms : List Chunk} {ws : Writers}
    (h : WsAll I ms ws) (himp : ∀ c ∈ ms, ∀ w, I c w → I' c w) : WsAll I' ms ws :=
  fun c hc => let ⟨w, hg, hi⟩ := h c hc; ⟨w, hg, himp c hc w hi⟩

theorem WsAll.of_get {I : Chunk → BW → Prop} {ms : List Chunk} {ws : Writers} {c : Chunk} {w : BW}
    (h : WsAll I ms ws) (hc : c ∈ ms) (hg : ws.get c = some w) : I c w := by
  obtain ⟨w0, hg0, hi⟩ := h c hc
  rw [hg] at hg0; cases hg0; exact hi

theorem wsAll_set {I I' : Chunk → BW → Prop} {ms : List Chunk} {ws : Writers} {c1 : Chunk}
    {w1 : BW} (h : WsAll I ms ws) (hne : ∀ c ∈ ms, c ≠ c1 → ∀ w, I c w → I' c w)
    (h1 : c1 ∈ ms → I' c1 w1) : WsAll I' ms (ws.set c1 w1) := by
  intro c hc
  obtain ⟨w, hg, hi⟩ := h c hc
  rw [Writers.get_set, hg]
  by_cases hcc : c1 = c
  · rw [if_pos hcc]; exact ⟨w1, rfl, hcc ▸ h1 (hcc ▸ hc)⟩
  · rw [if_neg hcc]; exact ⟨w, rfl, hne c hc (fun e => hcc e.symm) w hi⟩

structure WShape (o n : Nat) (c : Chunk) (w : BW) : Prop where
  off : w.destOff = (place o n c).lower
  len : w.dest.length = (place o n c).expected

/-- Completely written: the stream has passed the window (`destOff + dest.length ≤ current`, so
later writes change nothing) and the window holds the true bytes. -/
structure WDone (B : Bytes) (o n : Nat) (c : Chunk) (w : BW) : Prop where
  shape : WShape o n c w
  past : w.destOff + w.dest.length ≤ w.current
  bytes : w.dest = slice B (c.b + (place o n c).lower) (place o n c).expected

/-- Untouched since it was made or restarted (one write of the whole chunk then fills the window,
whatever `dest` holds), or completely written. -/
structure WOK (B : Bytes) (o n : Nat) (c : Chunk) (w : BW) : Prop where
  shape : WShape o n c w
  state : w.current = 0 ∨ WDone B o n c w

/-- `WOK`, and completely written if `c` is among the chunks `D` already copied. -/
structure WProg (B : Bytes) (o n : Nat) (D : Chunk → Prop) (c : Chunk) (w : BW) : Prop where
  ok : WOK B o n c w
  done : D c → WDone B o n c w

theorem WDone.wok {B : Bytes} {o n : Nat} {c : Chunk} {w : BW} (h : WDone B o n c w) :
    WOK B o n c w :=
  ⟨h.shape, Or.inr h⟩

theorem wok_newWriter (B : Bytes) (o n : Nat) (c : Chunk) : WOK B o n c (newWriter o n c) :=
  ⟨⟨rfl, List.length_replicate⟩, Or.inl rfl⟩

theorem wdone_write {B : Bytes} {o n : Nat} {c : Chunk} {w : BW} {d : Bytes}
    (hw : WOK B o n c w) (hd : d = slice B c.b c.size) (hlen : d.length = c.size)
    (hb : (place o n c).lower + (place o n c).expected ≤ c.size) :
    WDone B o n c (w.write d) := by
  obtain ⟨f1, f2, f3⟩ := BW.write_fields w d
  have hfit : w.destOff + w.dest.length ≤ d.length := by
    rw [hw.shape.off, hw.shape.len, hlen]; exact hb
  refine ⟨⟨f1.trans hw.shape.off, f3.trans hw.shape.len⟩, ?_, ?_⟩
  · rw [f1, f2, f3]
    rcases hw.state with h0 | hdone
    · rw [h0, Nat.zero_add]; exact hfit
    · exact Nat.le_add_right_of_le hdone.past
  · rcases hw.state with h0 | hdone
    · rw [BW.write_full w d h0 hfit, hw.shape.off, hw.shape.len, hd, slice_slice _ _ _ _ _ hb]
    · rw [BW.write_complete w d hdone.past]; exact hdone.bytes

theorem copyChunk_shape {o n : Nat} (cache : Cache) {c : Chunk} {w : BW} (hw : WShape o n c w) :
    WShape o n c (copyChunk cache c w).1 := by
  unfold copyChunk
  cases cache.get c with
  | none => exact hw
  | some d =>
    obtain ⟨f1, _, f3⟩ := BW.write_fields w (d.take c.size)
    exact ⟨f1.trans hw.off, f3.trans hw.len⟩

theorem copyChunk_done {P : Params} {B : Bytes} (hc : 0 < P.chunk) (hB : B.length = P.size)
    {o n : Nat} {cache : Cache} (hcache : CachePrefixOK P B cache) {c : Chunk} {w : BW}
    (hw : WOK B o n c w) (hb : (place o n c).lower + (place o n c).expected ≤ c.size)
    (hok : (copyChunk cache c w).2 = true) : WDone B o n c (copyChunk cache c w).1 := by
  unfold copyChunk at hok ⊢
  cases hget : cache.get c with
  | none => rw [hget] at hok; cases hok
  | some d =>
    rw [hget] at hok
    obtain ⟨hd, hg⟩ := hcache c d hget
    have hok : c.size ≤ d.length := of_decide_eq_true hok
    have htake : d.take c.size = slice B c.b c.size := by
      conv => lhs; rw [hd]
      rw [take_slice, Nat.min_eq_left hok]
    exact wdone_write hw htake (htake ▸ gridChunk_slice_length hc hB hg) hb

theorem copyChunk_failed (cache : Cache) (c : Chunk) (w : BW)
    (hfull : ∀ d, cache.get c = some d → c.size ≤ d.length) (hfail : (copyChunk cache c w).2 = false) :
    (copyChunk cache c w).1 = w := by
  unfold copyChunk at hfail ⊢
  cases hget : cache.get c with
  | none => rfl
  | some d => rw [hget] at hfail; exact absurd (hfull d hget) (of_decide_eq_false hfail)

section
variable {B : Bytes} {o n : Nat} {ms : List Chunk} {ws : Writers} {D D' : Chunk → Prop}

theorem WsAll.absent {I : Chunk → BW → Prop} {c : Chunk} (h : WsAll I ms ws)
    (hget : ws.get c = none) : c ∉ ms := fun hc => by
  obtain ⟨w, hg, _⟩ := h c hc
  rw [hget] at hg; cases hg

theorem WsAll.progMono (h : WsAll (WProg B o n D) ms ws) (himp : ∀ c ∈ ms, D' c → D c) :
    WsAll (WProg B o n D') ms ws :=
  h.mono fun c hc _ hi => ⟨hi.ok, fun hd => hi.done (himp c hc hd)⟩

theorem wsAll_done {c : Chunk} {w' : BW} (h : WsAll (WProg B o n D) ms ws)
    (hd : c ∈ ms → WDone B o n c w') :
    WsAll (WProg B o n fun c' => c' = c ∨ D c') ms (ws.set c w') :=
  wsAll_set h (fun _ _ hne _ hi => ⟨hi.ok, fun hd' => hd'.elim (fun e => absurd e hne) hi.done⟩)
    fun hcm => ⟨(hd hcm).wok, fun _ => hd hcm⟩

end

/-- `J`: any predicate that `WOK` implies and a failed `copyChunk` keeps; `D`: the chunks copied. -/
theorem copyInOrder_spec {P : Params} {B : Bytes} (hc : 0 < P.chunk) (hB : B.length = P.size)
    {o n : Nat} {ms : List Chunk}
    (hb : ∀ c ∈ ms, (place o n c).lower + (place o n c).expected ≤ c.size)
    {cache : Cache} (hcache : CachePrefixOK P B cache) (J : Chunk → BW → Prop)
    (hJ : ∀ c w, WOK B o n c w → J c w)
    (hfail : ∀ c ∈ ms, ∀ w, WOK B o n c w → (copyChunk cache c w).2 = false →
      J c (copyChunk cache c w).1) :
    ∀ (order : List Chunk) (D : Chunk → Prop) (ws : Writers),
      WsAll (WProg B o n D) ms ws →
      ((copyInOrder cache ws order).2 = true →
        WsAll (WProg B o n fun c => c ∈ order ∨ D c) ms (copyInOrder cache ws order).1) ∧
      ((copyInOrder cache ws order).2 = false → WsAll J ms (copyInOrder cache ws order).1) := by
  intro order
  induction order with
  | nil => intro D ws h; exact ⟨fun _ => h.progMono fun _ _ hd => hd.resolve_left nofun, nofun⟩
  | cons c rest ih =>
    intro D ws h
    unfold copyInOrder
    cases hget : ws.get c with
    | none =>
      refine ⟨fun hok => ((ih D ws h).1 hok).progMono fun c' hc' hd => ?_, (ih D ws h).2⟩
      exact hd.imp_left fun hm =>
        (List.mem_cons.mp hm).resolve_left fun e => h.absent hget (by rw [← e]; exact hc')
    | some w =>
      simp only
      have hw : c ∈ ms → WOK B o n c w := fun hcm => (h.of_get hcm hget).ok
      have hdone := fun hcm => copyChunk_done hc hB hcache (hw hcm) (hb c hcm)
      rcases hcc : copyChunk cache c w with ⟨w', ok⟩
      rw [hcc] at hdone
      cases ok with
      | false =>
        refine ⟨nofun, fun _ => wsAll_set h (fun c' _ _ w hi => hJ c' w hi.ok) fun hcm => ?_⟩
        have := hfail c hcm w (hw hcm)
        rw [hcc] at this
        exact this rfl
      | true =>
        obtain ⟨i1, i2⟩ := ih _ (ws.set c w') (wsAll_done h fun hcm => hdone hcm rfl)
        refine ⟨fun hok => (i1 hok).progMono fun _ _ hd => hd.elim (fun hm => ?_) ?_, i2⟩
        · exact (List.mem_cons.mp hm).elim (fun e => Or.inr (Or.inl e)) Or.inl
        · exact fun hD => Or.inr (Or.inr hD)

theorem applyGot_spec {P : Params} {B : Bytes} (hc : 0 < P.chunk) (hB : B.length = P.size)
    {o n : Nat} {ms : List Chunk}
    (hb : ∀ c ∈ ms, (place o n c).lower + (place o n c).expected ≤ c.size) :
    ∀ (got : List (Chunk × Bytes)) (D : Chunk → Prop) (ws : Writers), Exact P B got →
      WsAll (WProg B o n D) ms ws →
      WsAll (WProg B o n fun c => (∃ cd ∈ got, cd.1 = c) ∨ D c) ms (applyGot ws got) := by
  intro got
  induction got with
  | nil => intro D ws _ h; exact h.progMono fun _ _ hd => hd.resolve_left nofun
  | cons cd rest ih =>
    intro D ws hex h
    obtain ⟨c, d⟩ := cd
    have hex' : Exact P B rest := fun cd' h' => hex cd' (List.mem_cons_of_mem _ h')
    unfold applyGot
    cases hget : ws.get c with
    | none =>
      refine (ih D ws hex' h).progMono fun c' hc' hd => hd.imp_left fun ⟨cd', hm, e⟩ => ?_
      exact ⟨cd', (List.mem_cons.mp hm).resolve_left fun e' =>
        h.absent hget (by rw [← e, e'] at hc'; exact hc'), e⟩
    | some w =>
      obtain ⟨hd, hg⟩ : QExact P B c d := hex (c, d) (List.mem_cons_self ..)
      refine (ih _ (ws.set c (w.write d)) hex' (wsAll_done h fun hcm =>
        wdone_write (h.of_get hcm hget).1 hd
          (by rw [hd]; exact gridChunk_slice_length hc hB hg) (hb c hcm))).progMono
        fun _ _ hd' => hd'.elim (fun ⟨cd', hm, e⟩ => ?_) fun hD => Or.inr (Or.inr hD)
      exact (List.mem_cons.mp hm).elim (fun e' => Or.inr (Or.inl (by rw [← e, e'])))
        fun hm' => Or.inl ⟨cd', hm', e⟩

/-! ## assembling from the writers -/

theorem assemble_eq_assembleW (o n : Nat) (hits : List (Chunk × Bytes)) (ws : Writers)
    (f : Chunk → Option Bytes) :
    ∀ (cs : List Chunk) (buf : Bytes),
      (∀ c ∈ cs, ∃ d, f c = some d ∧
        segFor o n hits ws c = slice d (place o n c).lower (place o n c).expected) →
      assemble o n buf (cs.filterMap (fun c => (f c).map (fun d => (c, d)))) =
        assembleW o n hits ws buf cs := by
  intro cs
  induction cs with
  | nil => intro buf _; rfl
  | cons c cs ih =>
    intro buf h
    obtain ⟨d, hd, hseg⟩ := h c (List.mem_cons_self ..)
    rw [List.filterMap_cons, hd]
    simp only [Option.map_some]
    unfold assemble assembleW
    simp only
    rw [hseg]
    exact ih _ (fun c' h' => h c' (List.mem_cons_of_mem _ h'))

theorem segFor_exact {P : Params} {B : Bytes} {o n : Nat} {cs : List Chunk}
    {hits : List (Chunk × Bytes)} {missing : List Chunk} {ws : Writers}
    (hp : PendOK P B o n cs hits missing) (hdone : WsAll (WDone B o n) missing ws) :
    ∀ c ∈ cs, segFor o n hits ws c = slice B (o + (place o n c).base) (place o n c).expected := by
  intro c hc
  unfold segFor
  rcases find?_key_or (hp.total c hc) with ⟨d, hm, hf⟩ | ⟨hf, hcm⟩
  · rw [hf]; exact hp.hitsOK _ hm
  · obtain ⟨w, hg, hw⟩ := hdone c hcm
    simp only [hf, hg]
    rw [hw.bytes, place_offsets]

def SharedExact (P : Params) (B : Bytes) (o n : Nat) (out : SharedOut) : Prop :=
  ∀ k buf, out = .ok k buf → k = min n (P.size - o) ∧ buf.length = n ∧
    buf.take k = slice B o k

theorem sharedExact_finish {P : Params} {B : Bytes} {o n : Nat} {cs : List Chunk}
    {hits : List (Chunk × Bytes)} {missing : List Chunk} {ws : Writers}
    (hp : PendOK P B o n cs hits missing) (hdone : WsAll (WDone B o n) missing ws) :
    SharedExact P B o n (finish P ⟨o, n, cs, hits, missing, ws⟩) := by
  intro k buf h
  simp only [finish, adjust_eq, SharedOut.ok.injEq] at h
  obtain ⟨rfl, rfl⟩ := h
  have hseg := segFor_exact hp hdone
  -- the writers hold what `assemble` would copy from the true chunks
  rw [← assemble_eq_assembleW o n hits ws (fun c => some (slice B c.b c.size)) cs _ fun c hc =>
    ⟨_, rfl, (hseg c hc).trans (place_slice B o n c).symm⟩]
  have := assemble_lookup B o n (min n (P.size - o)) (Nat.min_le_left ..) hp.inB _ cs 0
    (List.replicate n 0) List.length_replicate hp.tiles (fun c _ => ⟨_, rfl, place_slice B o n c⟩) rfl
  exact ⟨rfl, this.2, this.1⟩

/-! ## cache loss between rounds; rounds -/

def Loss.isTrunc : Loss → Bool
  | .trunc _ _ => true
  | .evict _ => false

theorem lose_invQ (P : Params) (Q : Chunk → Bytes → Prop) :
    ∀ (loss : List Loss) (s : St), InvQ P Q s →
      ((∀ l ∈ loss, l.isTrunc = false) ∨ TruncClosed Q) →
      InvQ P Q { s with cache := loss.foldl Cache.lose s.cache } := by
  intro loss
  induction loss with
  | nil => intro s hs _; exact hs
  | cons l loss ih =>
    intro s hs hT
    exact ih _ (lose_specQ P Q s hs l (hT.imp_left fun h c k e =>
        nomatch e ▸ h l (List.mem_cons_self ..)))
      (hT.imp_left fun h l' h' => h l' (List.mem_cons_of_mem _ h'))

/-- A round with honest replies in which the cache loses entries only as a whole. -/
def Round.OK (B : Bytes) : Round → Prop
  | .lead r => HonestReply B r
  | .follow lr loss _ => HonestReply B lr ∧ ∀ l ∈ loss, l.isTrunc = false

/-- A round with honest replies (any cache loss, truncation included). -/
def Round.Honest (B : Bytes) : Round → Prop
  | .lead r => HonestReply B r
  | .follow lr _ _ => HonestReply B lr

def Round.noTrunc : Round → Prop
  | .lead _ => True
  | .follow _ loss _ => ∀ l ∈ loss, l.isTrunc = false

theorem Round.OK.honest {B : Bytes} : ∀ {r : Round}, r.OK B → r.Honest B
  | .lead _, h => h
  | .follow _ _ _, h => h.1

theorem Round.OK.noTrunc {B : Bytes} : ∀ {r : Round}, r.OK B → r.noTrunc
  | .lead _, _ => trivial
  | .follow _ _ _, h => h.2

instance (B : Bytes) : (r : Round) → Decidable (r.OK B)
  | .lead r => by unfold Round.OK; infer_instance
  | .follow _ _ _ => by unfold Round.OK; infer_instance

instance (B : Bytes) : (r : Round) → Decidable (r.Honest B)
  | .lead r => by unfold Round.Honest; infer_instance
  | .follow _ _ _ => by unfold Round.Honest; infer_instance

/-! ## the retry loop, with the writer reset as a parameter -/

/-- `fetchRange` before and after commit c4f4279 is one loop that differs in what happens to the
writers before a retry. -/
def fetchLoop (reset : Writers → Writers) (P : Params) (pd : Pending) :
    St → List Round → St × SharedOut
  | s, [] => (s, .outOfFuel)
  | s, .lead reply :: _ =>
    match fetchMissing P s pd.missing reply with
    | (s', none) => (s', .err)
    | (s', some got) => (s', finish P { pd with ws := applyGot pd.ws got })
  | s, .follow leaderReply loss order :: rest =>
    if ¬ order.isPerm pd.missing then (s, .badScript)
    else
      match fetchMissing P s pd.missing leaderReply with
      | (s', none) => (s', .err)
      | (s', some _) =>
        let s'' : St := { s' with cache := loss.foldl Cache.lose s'.cache }
        match copyInOrder s''.cache pd.ws order with
        | (ws', true) => (s'', finish P { pd with ws := ws' })
        | (ws', false) => fetchLoop reset P { pd with ws := reset ws' } s'' rest

theorem fetchRangeShared_eq (P : Params) : ∀ (script : List Round) (pd : Pending) (s : St),
    fetchRangeShared P pd s script = fetchLoop resetWs P pd s script := by
  intro script
  induction script with
  | nil => intro pd s; rfl
  | cons round rest ih =>
    intro pd s
    cases round <;> simp only [fetchRangeShared, fetchLoop, ih] <;> rfl

theorem fetchRangeSharedOld_eq (P : Params) : ∀ (script : List Round) (pd : Pending) (s : St),
    fetchRangeSharedOld P pd s script = fetchLoop id P pd s script := by
  intro script
  induction script with
  | nil => intro pd s; rfl
  | cons round rest ih =>
    intro pd s
    cases round <;> simp only [fetchRangeSharedOld, fetchLoop, ih, id] <;> rfl

/-- After a failed copy the writers, treated by `reset`, are fit for the next `fetchRange`. -/
def CopyRetry (reset : Writers → Writers) (B : Bytes) (Q : Chunk → Bytes → Prop)
    (o n : Nat) (ms : List Chunk) : Prop :=
  ∀ (cache : Cache), (∀ c d, cache.get c = some d → Q c d) → ∀ (order : List Chunk) (ws : Writers),
    (∀ c ∈ ms, (place o n c).lower + (place o n c).expected ≤ c.size) →
    WsAll (WOK B o n) ms ws → (copyInOrder cache ws order).2 = false →
    WsAll (WOK B o n) ms (reset (copyInOrder cache ws order).1)

/-- What the bytes of a shared read need and its state, coverage and count do not. -/
structure ExactHyp (reset : Writers → Writers) (P : Params) (B : Bytes) (Q : Chunk → Bytes → Prop)
    (o n : Nat) : Prop where
  len : B.length = P.size
  pre : ∀ c d, Q c d → QPrefix P B c d
  retry : ∀ ms, CopyRetry reset B Q o n ms

/-- What holds of every outcome `R` of the loop from `s`; the bytes only under `hyp`. -/
structure LoopOK (P : Params) (B : Bytes) (Q : Chunk → Bytes → Prop) (o n : Nat) (hyp : Prop) (s : St)
    (R : St × SharedOut) : Prop where
  inv : InvQ P Q R.1
  cov : CovSub s R.1
  count : ∀ k buf, R.2 = .ok k buf → k = min n (P.size - o)
  bytes : hyp → SharedExact P B o n R.2

section
variable {P : Params} {B : Bytes} {Q : Chunk → Bytes → Prop} {o n : Nat} {hyp hyp' : Prop}
  {s s' : St}

theorem LoopOK.noResult {out : SharedOut} (hs : InvQ P Q s') (hsub : CovSub s s')
    (hne : ∀ k buf, out ≠ .ok k buf) : LoopOK P B Q o n hyp s (s', out) :=
  ⟨hs, hsub, fun k buf h => absurd h (hne k buf), fun _ k buf h => absurd h (hne k buf)⟩

theorem loopOK_finish {cs : List Chunk} {hits : List (Chunk × Bytes)} {missing : List Chunk}
    {ws : Writers} (hs : InvQ P Q s') (hsub : CovSub s s')
    (hex : hyp → PendOK P B o n cs hits missing ∧ WsAll (WDone B o n) missing ws) :
    LoopOK P B Q o n hyp s (s', finish P ⟨o, n, cs, hits, missing, ws⟩) := by
  refine ⟨hs, hsub, fun k buf h => ?_, fun hx => sharedExact_finish (hex hx).1 (hex hx).2⟩
  rw [show (finish P ⟨o, n, cs, hits, missing, ws⟩) = .ok (adjust P n o) _ from rfl,
    SharedOut.ok.injEq, adjust_eq] at h
  exact h.1.symm

theorem LoopOK.trans {R : St × SharedOut} (h : LoopOK P B Q o n hyp' s' R) (hsub : CovSub s s')
    (himp : hyp → hyp') : LoopOK P B Q o n hyp s R :=
  ⟨h.inv, hsub.trans h.cov, h.count, fun hx => h.bytes (himp hx)⟩

end

theorem WsAll.prog {B : Bytes} {o n : Nat} {ms : List Chunk} {ws : Writers}
    (h : WsAll (WOK B o n) ms ws) : WsAll (WProg B o n fun _ => False) ms ws :=
  h.mono fun _ _ _ hi => ⟨hi, nofun⟩

theorem fetchLoop_spec (reset : Writers → Writers) (P : Params) (B : Bytes)
    (Q : Chunk → Bytes → Prop) (hQ : GoodQ P B Q) (hc : 0 < P.chunk) (o n : Nat) (cs : List Chunk)
    (hits : List (Chunk × Bytes)) (missing : List Chunk) :
    ∀ (script : List Round) (ws : Writers) (s : St), InvQ P Q s →
      (∀ r ∈ script, r.Honest B ∧ (r.noTrunc ∨ TruncClosed Q)) →
      LoopOK P B Q o n
        (ExactHyp reset P B Q o n ∧ PendOK P B o n cs hits missing ∧ WsAll (WOK B o n) missing ws)
        s (fetchLoop reset P ⟨o, n, cs, hits, missing, ws⟩ s script) := by
  intro script
  induction script with
  | nil => intro ws s hs _; exact .noResult hs (CovSub.refl s) nofun
  | cons round rest ih =>
    intro ws s hs hr
    obtain ⟨hround, hT⟩ := hr round (List.mem_cons_self ..)
    cases round with
    | lead reply =>
      simp only [fetchLoop]
      obtain ⟨h1, h2, h3⟩ := fetchMissing_spec P B Q hQ hc s missing reply hs hround
      generalize fetchMissing P s missing reply = R at h1 h2 h3
      obtain ⟨s1, r1⟩ := R
      cases r1 with
      | none => exact .noResult h1 h2 nofun
      | some got =>
        refine loopOK_finish h1 h2 fun ⟨hx, hp, hws⟩ => ⟨hp, ?_⟩
        obtain ⟨hex, hall⟩ := h3 got rfl
        exact (applyGot_spec hc hx.len hp.bound got _ ws hex hws.prog).mono
          fun c hcm w hi => hi.done (Or.inl (hall c hcm))
    | follow lr loss order =>
      simp only [fetchLoop]
      by_cases hperm : order.isPerm missing = true
      case neg => rw [if_pos hperm]; exact .noResult hs (CovSub.refl s) nofun
      · rw [if_neg (not_not_intro hperm)]
        have hperm : order.Perm missing := List.isPerm_iff.mp hperm
        obtain ⟨h1, h2, _⟩ := fetchMissing_spec P B Q hQ hc s missing lr hs hround
        generalize fetchMissing P s missing lr = R at h1 h2
        obtain ⟨s1, r1⟩ := R
        cases r1 with
        | none => exact .noResult h1 h2 nofun
        | some got =>
          simp only
          have hinv := lose_invQ P Q loss s1 h1 hT
          rcases hco : copyInOrder (loss.foldl Cache.lose s1.cache) ws order with ⟨ws', ok⟩
          cases ok with
          | true =>
            refine loopOK_finish hinv h2 fun ⟨hx, hp, hws⟩ => ⟨hp, ?_⟩
            have := (copyInOrder_spec hc hx.len hp.bound
              (fun c d h => hx.pre c d (hinv.cacheQ c d h)) (fun _ _ => True) (fun _ _ _ => trivial)
              (fun _ _ _ _ _ => trivial) order _ ws hws.prog).1 (by rw [hco])
            rw [hco] at this
            exact this.mono fun c hcm w hi => hi.done (Or.inl (hperm.mem_iff.mpr hcm))
          | false =>
            refine (ih (reset ws') _ hinv fun r h => hr r (List.mem_cons_of_mem _ h)).trans h2
              fun ⟨hx, hp, hws⟩ => ⟨hx, hp, ?_⟩
            have := hx.retry missing _ hinv.cacheQ order ws hp.bound hws (by rw [hco])
            rwa [hco] at this

/-! ## `readAtShared` as the loop on the prepared read -/

/-- The prepared read: what `prepareChunksForRead` leaves. -/
def prepared (s : St) (o n : Nat) (cs : List Chunk) : Pending :=
  { o := o, n := n, cs := cs, hits := (classify o n s.cache cs).1,
    missing := (classify o n s.cache cs).2,
    ws := (classify o n s.cache cs).2.map fun c => (c, newWriter o n c) }

def readLoop (reset : Writers → Writers) (P : Params) (s : St) (o n : Nat) (script : List Round) :
    St × SharedOut :=
  if n = 0 ∨ o > P.size then (s, .ok 0 (List.replicate n 0))
  else if (prepared s o n (rangeChunks P o n)).missing.isEmpty then
    (s, finish P (prepared s o n (rangeChunks P o n)))
  else fetchLoop reset P (prepared s o n (rangeChunks P o n)) s script

theorem readAtShared_eq (P : Params) (hc : 0 < P.chunk) (s : St) (o n : Nat)
    (script : List Round) : readAtShared P s o n script = readLoop resetWs P s o n script := by
  unfold readAtShared readLoop
  rw [walk_readAt P hc]
  simp only [fetchRangeShared_eq]
  rfl

theorem readAtSharedOld_eq (P : Params) (hc : 0 < P.chunk) (s : St) (o n : Nat)
    (script : List Round) : readAtSharedOld P s o n script = readLoop id P s o n script := by
  unfold readAtSharedOld readLoop
  rw [walk_readAt P hc]
  simp only [fetchRangeSharedOld_eq]
  rfl

theorem Writers.get_map_new (f : Chunk → BW) (c : Chunk) : ∀ (ms : List Chunk), c ∈ ms →
    Writers.get (ms.map fun c => (c, f c)) c = some (f c) := by
  intro ms
  induction ms with
  | nil => nofun
  | cons a ms ih =>
    intro h
    unfold Writers.get at ih ⊢
    rw [List.map_cons, List.find?_cons]
    by_cases hac : a = c
    · simp only [hac, decide_true, Option.map_some]
    · simp only [hac, decide_false]
      exact ih ((List.mem_cons.mp h).resolve_left fun e => hac e.symm)

theorem readLoop_spec (reset : Writers → Writers) (P : Params) (B : Bytes)
    (Q : Chunk → Bytes → Prop) (hQ : GoodQ P B Q) (hc : 0 < P.chunk) (s : St) (hs : InvQ P Q s)
    (o n : Nat) (script : List Round) (hr : ∀ r ∈ script, r.Honest B ∧ (r.noTrunc ∨ TruncClosed Q)) :
    LoopOK P B Q o n (ExactHyp reset P B Q o n) s (readLoop reset P s o n script) := by
  unfold readLoop prepared
  by_cases h : n = 0 ∨ o > P.size
  · rw [if_pos h]
    have h0 : 0 = min n (P.size - o) := by
      rcases h with rfl | h
      · rw [Nat.zero_min]
      · rw [Nat.sub_eq_zero_of_le (Nat.le_of_lt h), Nat.min_zero]
    refine ⟨hs, CovSub.refl s, fun k buf hk => ?_, fun _ k buf hk => ?_⟩ <;> cases hk
    · exact h0
    · exact ⟨h0, List.length_replicate, rfl⟩
  · rw [if_neg h]
    have hp := fun hB => pendOK_prepared P B Q hQ hc hB s hs o n
      (Nat.pos_of_ne_zero fun e => h (Or.inl e)) (Nat.le_of_not_lt fun e => h (Or.inr e))
    by_cases hemp : (classify o n s.cache (rangeChunks P o n)).2.isEmpty = true
    case neg =>
      rw [if_neg hemp]
      refine (fetchLoop_spec reset P B Q hQ hc o n _ _ _ script _ s hs hr).trans (CovSub.refl s)
        fun hx => ⟨hx, hp hx.len, fun c hcm => ?_⟩
      exact ⟨_, Writers.get_map_new _ c _ hcm, wok_newWriter B o n c⟩
    · rw [if_pos hemp]
      refine loopOK_finish hs (CovSub.refl s) fun hx => ⟨hp hx.len, fun c hcm => ?_⟩
      rw [show (classify o n s.cache (rangeChunks P o n)).2 = [] from List.isEmpty_iff.mp hemp]
        at hcm
      cases hcm

theorem get_resetWs (ws : Writers) (c : Chunk) :
    (resetWs ws).get c = (ws.get c).map fun w => { w with current := 0 } := by
  unfold resetWs Writers.get
  rw [List.find?_map, Option.map_map, Option.map_map]
  rfl

/-- With the writers restarted a failed copy may leave anything in them (commit c4f4279). -/
theorem copyRetry_reset (P : Params) (B : Bytes) (hc : 0 < P.chunk) (hB : B.length = P.size)
    (o n : Nat) (ms : List Chunk) : CopyRetry resetWs B (QPrefix P B) o n ms := by
  intro cache hcache order ws hb hws hfail
  intro c hcm
  obtain ⟨w, hg, hw⟩ := (copyInOrder_spec hc hB hb hcache (WShape o n)
    (fun _ _ h => h.shape) (fun _ _ _ hw _ => copyChunk_shape cache hw.shape) order _ ws hws.prog).2 hfail c hcm
  exact ⟨{ w with current := 0 }, by rw [get_resetWs, hg]; rfl, ⟨hw.off, hw.len⟩, Or.inl rfl⟩

/-- Without the restart the writers are fit for a retry only if a failed copy has written nothing:
cache reads must be all-or-nothing. -/
theorem copyRetry_keep (P : Params) (B : Bytes) (hc : 0 < P.chunk) (hB : B.length = P.size)
    (o n : Nat) (ms : List Chunk) : CopyRetry id B (QExact P B) o n ms := by
  intro cache hcache order ws hb hws hfail
  have hpre : CachePrefixOK P B cache := fun c d h =>
    ⟨(goodQ_exact P B).pre c d (hcache c d h), (hcache c d h).2⟩
  refine (copyInOrder_spec hc hB hb hpre (WOK B o n) (fun _ _ h => h)
    (fun c hcm w hw hf => ?_) order _ ws hws.prog).2 hfail
  rw [copyChunk_failed cache c w (fun d hd => ?_) hf]
  · exact hw
  · rw [(hcache c d hd).1, gridChunk_slice_length hc hB (hcache c d hd).2]
    exact Nat.le_refl _

theorem readAtShared_spec (P : Params) (B : Bytes) (hc : 0 < P.chunk) (s : St)
    (hs : InvQ P (QPrefix P B) s) (o n : Nat) (script : List Round) (hr : ∀ r ∈ script, r.Honest B) :
    LoopOK P B (QPrefix P B) o n (B.length = P.size) s (readAtShared P s o n script) := by
  rw [readAtShared_eq P hc]
  exact (readLoop_spec resetWs P B _ (goodQ_prefix P B) hc s hs o n script fun r h =>
    ⟨hr r h, Or.inr (truncClosed_prefix P B)⟩).trans (CovSub.refl s)
      fun hB => ⟨hB, fun _ _ h => h, copyRetry_reset P B hc hB o n⟩

theorem fetchLoop_outOfFuel (reset : Writers → Writers) (P : Params) :
    ∀ (script : List Round) (pd : Pending) (s : St),
      (fetchLoop reset P pd s script).2 = .outOfFuel →
      ∀ r ∈ script, ∃ lr loss order, r = .follow lr loss order := by
  intro script
  induction script with
  | nil => intro pd s _ r hr; cases hr
  | cons round rest ih =>
    intro pd s h r hr
    cases round with
    | lead reply =>
      simp only [fetchLoop] at h
      split at h <;> cases h
    | follow lr loss order =>
      rcases List.mem_cons.mp hr with rfl | hr
      · exact ⟨lr, loss, order, rfl⟩
      · simp only [fetchLoop] at h
        split at h
        · cases h
        · split at h
          · cases h
          · split at h
            · cases h
            · exact ih _ _ h r hr

theorem readLoop_outOfFuel (reset : Writers → Writers) (P : Params) (s : St) (o n : Nat)
    (script : List Round) (h : (readLoop reset P s o n script).2 = .outOfFuel) :
    ∀ r ∈ script, ∃ lr loss order, r = .follow lr loss order := by
  unfold readLoop at h
  split at h
  · cases h
  · split at h
    · cases h
    · exact fetchLoop_outOfFuel reset P script _ s h

/-! ## the leader's round is `ReadAt` -/

/-- After `fetchRegions` the writer of `c` has received, as one stream, all deliveries of `c`. -/
theorem applyGot_get (c : Chunk) : ∀ (got : List (Chunk × Bytes)) (ws : Writers),
    (applyGot ws got).get c = (ws.get c).map fun w =>
      w.write ((got.filter fun kv => kv.1 = c).map (·.2)).flatten := by
  intro got
  induction got with
  | nil =>
    intro ws
    simp only [applyGot, List.filter_nil, List.map_nil, List.flatten_nil, BW.write_nil,
      Option.map_id']
  | cons cd rest ih =>
    intro ws
    obtain ⟨c1, d1⟩ := cd
    unfold applyGot
    by_cases hcc : c1 = c
    · subst hcc
      rw [List.filter_cons, if_pos (decide_eq_true rfl), List.map_cons, List.flatten_cons]
      cases hg : ws.get c1 with
      | none => rw [ih, hg]; rfl
      | some w =>
        dsimp only
        rw [ih, Writers.get_set, if_pos rfl, hg]
        simp only [Option.map_some, BW.write_write]
    · rw [List.filter_cons, if_neg fun h => hcc (of_decide_eq_true h)]
      cases ws.get c1 with
      | none => exact ih ws
      | some w => dsimp only; rw [ih, Writers.get_set, if_neg hcc]

/-- The first delivery for `c`, a whole chunk, fills the window of a fresh writer; the later ones come
after the window. -/
theorem applyGot_fresh (o n : Nat) (ms : List Chunk) (got : List (Chunk × Bytes)) {c : Chunk}
    {d : Bytes} (hcm : c ∈ ms) (hf : got.find? (fun kv => kv.1 = c) = some (c, d))
    (hfit : (place o n c).lower + (place o n c).expected ≤ d.length) :
    (applyGot (ms.map fun c => (c, newWriter o n c)) got).get c =
      some ((newWriter o n c).write ((got.filter fun kv => kv.1 = c).map (·.2)).flatten) ∧
    ((newWriter o n c).write ((got.filter fun kv => kv.1 = c).map (·.2)).flatten).dest =
      slice d (place o n c).lower (place o n c).expected := by
  have hfit' : (newWriter o n c).destOff + (newWriter o n c).dest.length ≤ d.length := by
    rw [newWriter, List.length_replicate]; exact hfit
  obtain ⟨tl, htl⟩ := List.head?_eq_some_iff.mp (List.head?_filter ▸ hf)
  refine ⟨by rw [applyGot_get, Writers.get_map_new _ c _ hcm]; rfl, ?_⟩
  rw [htl, List.map_cons, List.flatten_cons,
    BW.write_full _ _ rfl (Nat.le_trans hfit' (List.length_append ▸ Nat.le_add_right ..)),
    slice_append_left _ _ _ _ hfit', newWriter, List.length_replicate]

theorem readLoop_lead_unfold (reset : Writers → Writers) (P : Params) (s : St) (o n : Nat)
    (reply : Reply) (rest : List Round) (h : ¬ (n = 0 ∨ o > P.size)) :
    readLoop reset P s o n (.lead reply :: rest) =
      let pd := prepared s o n (rangeChunks P o n)
      let R := fetchMissing P s pd.missing reply
      (R.1, match R.2 with
        | none => SharedOut.err
        | some got => finish P { pd with ws := applyGot pd.ws got }) := by
  unfold readLoop
  rw [if_neg h]
  simp only
  split
  · rename_i hemp
    unfold fetchMissing
    rw [if_pos hemp]
    rfl
  · simp only [fetchLoop]
    rcases fetchMissing P s (prepared s o n (rangeChunks P o n)).missing reply with ⟨s', _ | got⟩ <;> rfl

/-- On both sides the buffer is put together chunk by chunk from the same bytes: a hit is copied from
the cache, a miss is the window of its first delivery (`applyGot_fresh`). -/
theorem readLoop_lead_eq (reset : Writers → Writers) (P : Params) (hc : 0 < P.chunk) (s : St)
    (o n : Nat) (reply : Reply) (rest : List Round) :
    (readLoop reset P s o n (.lead reply :: rest)).1 = (readAt P s o n reply).1 ∧
    (readLoop reset P s o n (.lead reply :: rest)).2 =
      (match (readAt P s o n reply).2 with
       | none => SharedOut.err
       | some kb => SharedOut.ok kb.1 kb.2) := by
  by_cases h : n = 0 ∨ o > P.size
  · unfold readLoop readAt
    rw [if_pos h, if_pos h]
    exact ⟨rfl, rfl⟩
  · rw [readLoop_lead_unfold reset P s o n reply rest h, readAt_unfold P s o n reply hc h]
    simp only [prepared]
    obtain ⟨_, hcl2, hcl3⟩ := classify_spec o n s.cache (rangeChunks P o n)
    obtain ⟨⟨stored, _, hfrom, hgot⟩, hall⟩ :=
      fetchMissing_trace P hc s (classify o n s.cache (rangeChunks P o n)).2 reply
    generalize fetchMissing P s (classify o n s.cache (rangeChunks P o n)).2 reply = R at hgot hall
    obtain ⟨s1, r1⟩ := R
    cases r1 with
    | none => exact ⟨rfl, rfl⟩
    | some got =>
      refine ⟨rfl, ?_⟩
      obtain rfl := hgot got rfl
      unfold finish
      simp only
      congr 1
      symm
      apply assemble_eq_assembleW
      intro c hcm
      unfold lookupData segFor
      rcases find?_key_or (hcl3 c hcm) with ⟨d, _, hf⟩ | ⟨hf, hcmiss⟩
      · rw [hf]; exact ⟨d, rfl, rfl⟩
      · obtain ⟨d, hmem, hf2⟩ := find?_key_of_mem (hall got rfl c hcmiss)
        obtain ⟨hw, hd⟩ := applyGot_fresh o n _ got hcmiss hf2 ((hfrom _ hmem).full ▸
          (place_bounds P hc o n (Nat.le_of_not_lt fun e => h (Or.inr e)) c (hcl2 c hcmiss)).2.2)
        rw [hf, hf2, hw]
        exact ⟨d, rfl, hd⟩

/-! ## the pieces of a split `Cache` call -/

theorem mem_piecesFrom (F E fuel i : Nat) (p : Nat × Nat) : p ∈ piecesFrom F E fuel i →
    (∃ j, p.1 = i + j * F) ∧ p.1 < E ∧ p.2 = if p.1 + F > E then E - p.1 else F := by
  fun_induction piecesFrom F E fuel i with
  | case1 i => nofun
  | case2 fuel i hlt ih =>
    intro h
    rcases List.mem_cons.mp h with rfl | h
    · exact ⟨⟨0, by rw [Nat.zero_mul]; rfl⟩, hlt, rfl⟩
    · obtain ⟨⟨j, hj⟩, h2, h3⟩ := ih h
      exact ⟨⟨j + 1, by rw [hj, Nat.succ_mul, Nat.add_assoc, Nat.add_comm F]⟩, h2, h3⟩
  | case3 fuel i hlt => nofun

theorem piece_bounds {F E fuel i : Nat} {p : Nat × Nat} (hp : p ∈ piecesFrom F E fuel i) :
    i ≤ p.1 ∧ (0 < F → 0 < p.2) ∧ p.2 ≤ F ∧ p.1 + p.2 ≤ E := by
  obtain ⟨⟨j, hj⟩, h2, h3⟩ := mem_piecesFrom F E fuel i p hp
  refine ⟨hj ▸ Nat.le_add_right .., ?_⟩
  rw [h3]
  split
  · rename_i hgt
    exact ⟨fun _ => Nat.sub_pos_of_lt h2, Nat.sub_le_of_le_add (Nat.add_comm .. ▸ Nat.le_of_lt hgt),
      Nat.le_of_eq (Nat.add_sub_cancel' (Nat.le_of_lt h2))⟩
  · rename_i hle
    exact ⟨id, Nat.le_refl _, Nat.le_of_not_lt hle⟩

theorem piecesFrom_cover (F E : Nat) (hF : 0 < F) (fuel i x : Nat) : E - i ≤ fuel → i ≤ x → x < E →
    ∃ p ∈ piecesFrom F E fuel i, p.1 ≤ x ∧ x < p.1 + p.2 := by
  fun_induction piecesFrom F E fuel i with
  | case1 i =>
    exact fun hf h1 h2 => absurd (Nat.lt_of_le_of_lt h1 h2)
      (Nat.not_lt.mpr (Nat.sub_eq_zero_iff_le.mp (Nat.le_zero.mp hf)))
  | case2 fuel i hiE ih =>
    intro hf h1 h2
    by_cases hx : x < i + F
    · refine ⟨_, List.mem_cons_self .., h1, ?_⟩
      dsimp only
      split
      · rw [Nat.add_sub_cancel' (Nat.le_of_lt hiE)]; exact h2
      · exact hx
    · obtain ⟨p, hp, hp1, hp2⟩ := ih
        (Nat.sub_add_eq E i F ▸ Nat.sub_le_of_le_add
          (Nat.le_trans hf (Nat.add_le_add_left hF _)))
        (Nat.le_of_not_lt hx) h2
      exact ⟨p, List.mem_cons_of_mem _ hp, hp1, hp2⟩
  | case3 fuel i hiE => exact fun _ h1 h2 => absurd (Nat.lt_of_le_of_lt h1 h2) hiE

/-- Two pieces that share a byte `x` are the same piece: both have index `(x - i) / F`. -/
theorem piecesFrom_disjoint (F E : Nat) (fuel i : Nat) (p q : Nat × Nat)
    (hp : p ∈ piecesFrom F E fuel i) (hq : q ∈ piecesFrom F E fuel i) (x : Nat)
    (hxp : p.1 ≤ x ∧ x < p.1 + p.2) (hxq : q.1 ≤ x ∧ x < q.1 + q.2) : p = q := by
  have start : ∀ r ∈ piecesFrom F E fuel i, r.1 ≤ x → x < r.1 + r.2 →
      r = (i + (x - i) / F * F,
        if i + (x - i) / F * F + F > E then E - (i + (x - i) / F * F) else F) := by
    intro r hr h1 h2
    obtain ⟨⟨j, hj⟩, _, hl⟩ := mem_piecesFrom F E fuel i r hr
    have hle := (piece_bounds hr).2.2.1
    have hix : i + j * F ≤ x := hj ▸ h1
    have hxF : x < i + (j * F + F) := by
      rw [← Nat.add_assoc, ← hj]; exact Nat.lt_of_lt_of_le h2 (Nat.add_le_add_left hle _)
    have : (x - i) / F = j :=
      Nat.div_eq_of_lt_le (Nat.le_sub_of_add_le (Nat.add_comm .. ▸ hix))
        (by rw [Nat.succ_mul]
            exact Nat.sub_lt_left_of_lt_add (Nat.le_trans (Nat.le_add_right ..) hix) hxF)
    rw [this, ← hj, ← hl]
  rw [start p hp hxp.1 hxp.2, start q hq hxq.1 hxq.2]

theorem cacheCalls_split (P : Params) (prefetch o n : Nat) (h : P.chunk < prefetch) :
    cacheCalls P prefetch o n = piecesFrom (P.chunk * (prefetch / P.chunk)) (o + n) (n + 1) o := by
  unfold cacheCalls
  rw [if_neg (Nat.not_le_of_lt h)]

theorem fetchSize_pos (P : Params) (hc : 0 < P.chunk) (prefetch : Nat) (h : P.chunk < prefetch) :
    0 < P.chunk * (prefetch / P.chunk) :=
  Nat.mul_pos hc (Nat.div_pos (Nat.le_of_lt h) hc)

/-- A chunk meets `[o, o+n)` iff it meets one of the pieces: they lie inside the interval and
cover it. -/
theorem cacheCalls_chunks (P : Params) (hc : 0 < P.chunk) (prefetch o n : Nat)
    (h : P.chunk < prefetch) (hn : 0 < n) (ch : Chunk) :
    ch ∈ rangeChunks P o n ↔
      ∃ p ∈ cacheCalls P prefetch o n, ch ∈ rangeChunks P p.1 p.2 := by
  rw [cacheCalls_split P prefetch o n h, mem_rangeChunks P hc o n hn]
  have hF := fetchSize_pos P hc prefetch h
  constructor
  · rintro ⟨hg, h1, h2⟩
    obtain ⟨p, hp, hp1, hp2⟩ := piecesFrom_cover _ (o + n) hF (n + 1) o (max o ch.b)
      (Nat.le_succ_of_le (Nat.le_of_eq (Nat.add_sub_cancel_left ..))) (Nat.le_max_left ..)
      (Nat.max_lt.mpr ⟨Nat.lt_add_of_pos_right hn, h2⟩)
    obtain ⟨_, b2, _, _⟩ := piece_bounds hp
    exact ⟨p, hp, (mem_rangeChunks P hc p.1 p.2 (b2 hF) ch).mpr ⟨hg,
      Nat.lt_of_le_of_lt hp1 (Nat.max_lt.mpr ⟨h1, Nat.lt_add_of_pos_right hc⟩),
      Nat.lt_of_le_of_lt (Nat.le_max_right ..) hp2⟩⟩
  · rintro ⟨p, hp, hm⟩
    obtain ⟨b1, b2, _, b4⟩ := piece_bounds hp
    obtain ⟨hg, h1, h2⟩ := (mem_rangeChunks P hc p.1 p.2 (b2 hF) ch).mp hm
    exact ⟨hg, Nat.lt_of_le_of_lt b1 h1, Nat.lt_of_lt_of_le h2 b4⟩

/-- For a chunk-aligned offset piece starts are chunk aligned, so a piece that meets a chunk
contains its first byte. -/
theorem cacheCalls_disjoint (P : Params) (hc : 0 < P.chunk) (prefetch o n : Nat)
    (h : P.chunk < prefetch) (ho : o % P.chunk = 0) (p q : Nat × Nat)
    (hp : p ∈ cacheCalls P prefetch o n) (hq : q ∈ cacheCalls P prefetch o n) (ch : Chunk)
    (h1 : ch ∈ rangeChunks P p.1 p.2) (h2 : ch ∈ rangeChunks P q.1 q.2) : p = q := by
  rw [cacheCalls_split P prefetch o n h] at hp hq
  have hF := fetchSize_pos P hc prefetch h
  have first : ∀ r ∈ piecesFrom (P.chunk * (prefetch / P.chunk)) (o + n) (n + 1) o,
      ch ∈ rangeChunks P r.1 r.2 → r.1 ≤ ch.b ∧ ch.b < r.1 + r.2 := by
    intro r hr hm
    obtain ⟨hg, h1, h2⟩ := (mem_rangeChunks P hc r.1 r.2 ((piece_bounds hr).2.1 hF) ch).mp hm
    obtain ⟨⟨j, hj⟩, _, _⟩ := mem_piecesFrom _ _ _ _ r hr
    refine ⟨gridChunk_start_le hg ?_ h1, h2⟩
    rw [hj, Nat.mul_left_comm, Nat.add_mul_mod_self_left]
    exact ho
  exact piecesFrom_disjoint _ _ _ _ p q hp hq ch.b (first p hp h1) (first q hq h2)

/-! ## `CacheCovered`: cached chunks lie in the fetched set -/

/-- Every cached chunk is inside the fetched coverage (true along every history from the empty
state: an entry is only ever added together with its region, coverage never shrinks). -/
def CacheCovered (s : St) : Prop :=
  ∀ c d, s.cache.get c = some d → ∀ x : Int, (c.b : Int) ≤ x → x ≤ c.e → cov x s.fetched

theorem cacheCovered_init : CacheCovered {} := nofun

theorem cacheCovered_commits {s : St} (stored : List (Chunk × Bytes)) (hcc : CacheCovered s) :
    CacheCovered (stored.foldl commit s) := by
  intro c d h x h1 h2
  rw [commits_cov]
  rcases commits_get stored s c d h with h | h
  · exact Or.inl (hcc c d h x h1 h2)
  · exact Or.inr ⟨(c, d), h, h1, h2⟩

theorem cacheAt_trace (P : Params) (hc : 0 < P.chunk) (s : St) (o n : Nat) (reply : Reply) :
    ∃ stored : List (Chunk × Bytes), (cacheAt P s o n reply).1 = stored.foldl commit s ∧
      (∀ cd ∈ stored, StoredFrom P reply cd) ∧
      ((cacheAt P s o n reply).2 = true → ∀ ch ∈ rangeChunks P o n,
        (s.cache.get ch).isSome ∨ ∃ cd ∈ stored, cd.1 = ch) := by
  rw [cacheAt_eq P hc]
  obtain ⟨⟨stored, h1, h2, h3⟩, h4⟩ := fetchMissing_trace P hc s
    ((rangeChunks P o n).filter (fun c => (s.cache.get c).isNone)) reply
  refine ⟨stored, h1, h2, fun hok ch hch => ?_⟩
  obtain ⟨got, hgot⟩ := Option.isSome_iff_exists.mp hok
  obtain rfl := h3 got hgot
  cases hget : s.cache.get ch with
  | some d => exact Or.inl rfl
  | none => exact Or.inr (h4 got hgot ch (List.mem_filter.mpr ⟨hch, by rw [hget]; rfl⟩))

theorem runCalls_cons (P : Params) (s : St) (o n : Nat) (r : Reply)
    (rest : List ((Nat × Nat) × Reply)) :
    runCalls P s (((o, n), r) :: rest) =
      ((runCalls P (cacheAt P s o n r).1 rest).1,
        (cacheAt P s o n r).2 && (runCalls P (cacheAt P s o n r).1 rest).2) := rfl

theorem runCalls_trace (P : Params) (hc : 0 < P.chunk) :
    ∀ (calls : List ((Nat × Nat) × Reply)) (s : St),
      ∃ stored : List (Chunk × Bytes), (runCalls P s calls).1 = stored.foldl commit s ∧
        (∀ cd ∈ stored, ∃ call ∈ calls, StoredFrom P call.2 cd) ∧
        ((runCalls P s calls).2 = true → ∀ call ∈ calls, ∀ ch ∈ rangeChunks P call.1.1 call.1.2,
          (s.cache.get ch).isSome ∨ ∃ cd ∈ stored, cd.1 = ch) := by
  intro calls
  induction calls with
  | nil => intro s; exact ⟨[], rfl, nofun, fun _ _ h => nomatch h⟩
  | cons call rest ih =>
    intro s
    obtain ⟨⟨o, n⟩, r⟩ := call
    rw [runCalls_cons]
    obtain ⟨st1, h1, h2, h3⟩ := cacheAt_trace P hc s o n r
    obtain ⟨st2, k1, k2, k3⟩ := ih (cacheAt P s o n r).1
    refine ⟨st1 ++ st2, by rw [List.foldl_append, ← h1]; exact k1, ?_, ?_⟩
    · intro cd hcd
      rcases List.mem_append.mp hcd with hcd | hcd
      · exact ⟨_, List.mem_cons_self .., h2 cd hcd⟩
      · obtain ⟨call, hcall, hs⟩ := k2 cd hcd
        exact ⟨call, List.mem_cons_of_mem _ hcall, hs⟩
    · intro hok call hcall ch hch
      rw [Bool.and_eq_true] at hok
      have hin : ∀ {st}, (∃ cd ∈ st, cd.1 = ch) → st ⊆ st1 ++ st2 → ∃ cd ∈ st1 ++ st2, cd.1 = ch :=
        fun ⟨cd, hcd, e⟩ hsub => ⟨cd, hsub hcd, e⟩
      rcases List.mem_cons.mp hcall with rfl | hcall
      · exact (h3 hok.1 ch hch).imp_right (hin · (List.subset_append_left ..))
      · rcases k3 hok.2 call hcall ch hch with h | h
        · obtain ⟨d, hd⟩ := Option.isSome_iff_exists.mp h
          rw [h1] at hd
          rcases commits_get st1 s ch d hd with h | h
          · exact Or.inl (by rw [h]; rfl)
          · exact Or.inr ⟨(ch, d), List.mem_append_left _ h, rfl⟩
        · exact Or.inr (hin h (List.subset_append_right ..))

theorem runCalls_invQ (P : Params) (B : Bytes) (Q : Chunk → Bytes → Prop) (hQ : GoodQ P B Q)
    (hc : 0 < P.chunk) : ∀ (calls : List ((Nat × Nat) × Reply)) (s : St), InvQ P Q s →
      (∀ call ∈ calls, HonestReply B call.2) → InvQ P Q (runCalls P s calls).1 := by
  intro calls
  induction calls with
  | nil => intro s hs _; exact hs
  | cons call rest ih =>
    intro s hs hh
    exact ih _ (cacheAt_specQ P B Q hQ hc s hs call.1.1 call.1.2 call.2
      (hh call (List.mem_cons_self ..))).1 (fun c h => hh c (List.mem_cons_of_mem _ h))

theorem cacheCovered_lose (s : St) (l : Loss) (h : CacheCovered s) :
    CacheCovered { s with cache := s.cache.lose l } := by
  intro c d hget x h1 h2
  obtain ⟨d', hd', _⟩ := Cache.get_lose s.cache l c d hget
  exact h c d' hd' x h1 h2

theorem readAt_trace (P : Params) (hc : 0 < P.chunk) (s : St) (o n : Nat) (reply : Reply) :
    ∃ stored : List (Chunk × Bytes), (readAt P s o n reply).1 = stored.foldl commit s ∧
      ∀ cd ∈ stored, StoredFrom P reply cd := by
  by_cases h : n = 0 ∨ o > P.size
  · unfold readAt; rw [if_pos h]; exact ⟨[], rfl, nofun⟩
  · rw [readAt_unfold P s o n reply hc h]
    obtain ⟨⟨stored, e1, e2, _⟩, _⟩ :=
      fetchMissing_trace P hc s (classify o n s.cache (rangeChunks P o n)).2 reply
    exact ⟨stored, by simp only; split <;> exact e1, e2⟩

/-- The run rule for a predicate on states that needs no honest reply: whatever the replies, a history
only commits chunks stored from them and loses cache entries. -/
theorem runOps_rule (P : Params) (hc : 0 < P.chunk) (I : St → Prop)
    (hcommit : ∀ (s : St) (reply : Reply) (stored : List (Chunk × Bytes)),
      (∀ cd ∈ stored, StoredFrom P reply cd) → I s → I (stored.foldl commit s))
    (hlose : ∀ (s : St) (l : Loss), I s → I { s with cache := s.cache.lose l })
    (ops : List Op) (s : St) (hs : I s) : I (runOps P s ops) := by
  refine ops.foldlRecOn _ hs fun s hs op _ => ?_
  cases op with
  | read o n r =>
    obtain ⟨stored, e, hst⟩ := readAt_trace P hc s o n r
    exact (e ▸ hcommit s r stored hst hs : I (readAt P s o n r).1)
  | cache o n r =>
    obtain ⟨stored, e, hst, _⟩ := cacheAt_trace P hc s o n r
    exact (e ▸ hcommit s r stored hst hs : I (cacheAt P s o n r).1)
  | drop c => exact (dropEntry_eq s c ▸ hlose s (.evict c) hs : I (dropEntry s c))
  | trunc c k => exact (truncEntry_eq s c k ▸ hlose s (.trunc c k) hs : I (truncEntry s c k))

theorem runOps_cacheCovered (P : Params) (hc : 0 < P.chunk) (ops : List Op) (s : St) :
    CacheCovered s → CacheCovered (runOps P s ops) :=
  runOps_rule P hc CacheCovered (fun _ _ stored _ h => cacheCovered_commits stored h)
    cacheCovered_lose ops s

end SV.Blob
