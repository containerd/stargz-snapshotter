/-
The two-keyed invariant `Inv` (both stores after the entries `< i`), its start `init_inv` and its preservation:
`step_sim` takes `At es i` over one entry (by one of four `step_X`, each concluding `StepSim`), `run_sim` iterates it
to the end of the TOC (`Ran`).
Linking a child is `inv_link` + `node_link`, with four instances: `inv_link_pending` (inside `getOrCreateDir_sim`),
`inv_link_entry`, `inv_relink_dup`, `inv_link_hardlink`.  A step other than `step_chunk` is a lemma about the entry's
bucket, then `getOrCreateDir_parent`, then its `inv_link` instance, then the closed form of `dStep` on that entry.
-/
import SV.Lemmas.TocNames

namespace SV.Toc.R

/-! ## The invariant; creating an implicit directory -/

def IsAncestor (ms : List MEnt) (d : Path) : Prop :=
  ∃ (j : Nat) (m : MEnt), ms[j]? = some m ∧ m.e.type ≠ "chunk" ∧ ∃ n, n < m.path.length ∧ d = m.path.take n

/-- the name of entry `j` has not been met among the entries `< i` -/
def NotMet (ms : List MEnt) (i j : Nat) : Prop :=
  ∀ m, ms[j]? = some m → m.e.type ≠ "chunk" → ∀ f, firstIdx ms m.path = some f → i ≤ f

theorem NotMet.mono {ms : List MEnt} {i i' j : Nat} (h : NotMet ms i' j) (hii : i ≤ i') : NotMet ms i j :=
  fun m hm hc f hf => Nat.le_trans hii (h m hm hc f hf)

theorem NotMet.ne_of_met {ms : List MEnt} {i j t f : Nat} {m : MEnt} (h : NotMet ms i j) (hm : ms[t]? = some m)
    (hc : m.e.type ≠ "chunk") (hf : firstIdx ms m.path = some f) (hfi : f < i) : j ≠ t := by
  intro e; subst e
  exact absurd (h m hm hc f hf) (Nat.not_le.mpr hfi)

/-- The two stores after the entries `< i`.  `P`: implicit directories created but not yet linked
(walks do not reach them).  `δ`: increments the db store has applied to a bucket ahead of the memory
store (nonzero only for a hardlink target, inside `step_hardlink`).  A bucket's link count is the
memory store's count for the LAST entry of the name (`nlEff`), plus `δ`, plus 1 while that last entry
is still to come (`pendOwn`). -/
structure Inv (ms : List MEnt) (i : Nat) (sm : MState) (sd : DState) (P : List Path) (δ : Key → Int) : Prop where
  /-- children maps, memory side renamed to db keys -/
  kids : ∀ k, MLiveDir ms k → sd.kids (canon ms k) = (sm.kids k).map (mapKV (canon ms))
  memNoKids : ∀ k, ¬ MLiveDir ms k → sm.kids k = []
  walk : ∀ p, walkKids sd.kids .root p = if p ∈ P then none else look ms i sm.imps p
  impsNone : ∀ p ∈ sm.imps, lastIdx ms p = none
  /-- not used by the simulation: C02's bridge finds implicit directories in the tar view by it -/
  impsAnc : ∀ p ∈ sm.imps, p = [] ∨ IsAncestor ms p
  pend : ∀ p ∈ P, p ∈ sm.imps ∧ p ≠ []
  node : ∀ k, Created ms i sm.imps k → ∃ b, sd.nodes k = some b ∧
    eraseNL b = eraseNL (writeAttr {} (attr0 ms k)) ∧
    readNumLink b = nlEff sm (lastOf ms k) + δ k + pendOwn ms i k
  noKids : ∀ k, ¬ (Created ms i sm.imps k ∧ IsDirKey ms k) → sd.kids k = []
  pendKids : ∀ p ∈ P, sd.kids (.imp p) = []
  /-- an index whose name has not been met yet still carries its pass-1 NumLink -/
  freshNl : ∀ j, NotMet ms i j → sm.nl (.ent j) = initNl ms (.ent j)
  /-- the memory store creates its root directory lazily, before the first child is linked -/
  rootImp : sm.kids .root ≠ [] → [] ∈ sm.imps
  kidsCreated : ∀ k kv, kv ∈ sd.kids k → Created ms i sm.imps kv.2

/-- every non-empty prefix of `q` is no entry's name, or the name of directory entries only, the
first of them before `i`; and it lies above an entry -/
def Admissible (ms : List MEnt) (i : Nat) (q : Path) : Prop :=
  ∀ n, 0 < n → n ≤ q.length →
    (∀ (j : Nat) (m : MEnt), ms[j]? = some m → m.e.type ≠ "chunk" → m.path = q.take n → m.e.type = "dir") ∧
    (∀ f, firstIdx ms (q.take n) = some f → f < i) ∧ IsAncestor ms (q.take n)

theorem admissible_parent {ms : List MEnt} (ok : TreeOK ms) {i : Nat} {d : Path}
    (h : NonChunkAt ms i d) : Admissible ms i (parentDir d) := by
  intro n h0 hn
  unfold parentDir at hn
  have hlen : n < d.length := by
    rw [List.length_dropLast] at hn
    omega
  have htake : (parentDir d).take n = d.take n := by
    unfold parentDir
    rw [List.dropLast_eq_take, List.take_take]
    congr 1; omega
  rw [htake]
  have hpar := ok.parents i d h n h0 hlen
  obtain ⟨m, hm, hc, hp⟩ := h
  exact ⟨hpar.1, hpar.2, i, m, hm, hc, n, hp ▸ hlen, by rw [hp]⟩

theorem resolveKey_nonhardlink {ms : List MEnt} (ok : TreeOK ms) {j : Nat} {m : MEnt}
    (hm : ms[j]? = some m) (hh : m.e.type ≠ "hardlink") : resolveKey ms j = .ent j := by
  rw [resolveKey_unfold ok hm, if_neg hh]

theorem mLookup_eq_look {ms : List MEnt} (ok : TreeOK ms) {i : Nat} {sm : MState} {d : Path}
    (hadm : Admissible ms i d) (hne : d ≠ []) :
    (mLookup ms sm d).map (canon ms) = look ms i sm.imps d ∧
      (∀ km, mLookup ms sm d = some km → MLiveDir ms km) ∧
      (∀ k, look ms i sm.imps d = some k → IsDirKey ms k) := by
  have hlen : 0 < d.length := List.length_pos_iff.mpr hne
  have had := hadm d.length hlen (Nat.le_refl _)
  rw [List.take_length] at had
  unfold mLookup look
  rw [if_neg hne]
  cases hl : lastIdx ms d with
  | some L =>
    obtain ⟨m, hm, hc, hp⟩ := lastIdx_nonChunk hl
    have hdir := had.1 L m hm hc hp
    obtain ⟨f, hf, _⟩ := firstIdx_le (lastIdx_nonChunk hl)
    obtain ⟨mf, hmf, hcf, hpf⟩ := firstIdx_nonChunk hf
    have hdf := had.1 f mf hmf hcf hpf
    have hfi := had.2.1 f hf
    have hcan : canon ms (.ent L) = .ent f := canon_of_dir hm hdir (by rw [hp]; exact hf)
    rw [hf]
    simp only [Option.map_some, hcan, hfi, ↓reduceIte, resolveKey_nonhardlink ok hmf (dir_nonhardlink hdf)]
    refine ⟨trivial, ?_, ?_⟩
    · intro km hk; cases hk
      exact ⟨m, hm, hdir, by rw [hp]; exact hl⟩
    · intro k hk; cases hk
      exact ⟨mf, hmf, hdf⟩
  | none =>
    rw [(firstIdx_eq_none_iff ms d).mpr hl]
    simp only
    by_cases hmem : d ∈ sm.imps
    · simp only [hmem, ↓reduceIte, impKey, hne, Option.map_some, canon]
      exact ⟨trivial, (fun km hk => by cases hk; trivial), (fun k hk => by cases hk; trivial)⟩
    · simp only [hmem, ↓reduceIte, Option.map_none]
      exact ⟨trivial, (fun km hk => by cases hk), (fun k hk => by cases hk)⟩

theorem created_cons {ms : List MEnt} {i : Nat} {imps : List Path} {d : Path} {k : Key}
    (hk : k ≠ .imp d) : Created ms i (d :: imps) k ↔ Created ms i imps k := by
  cases k with
  | root => simp [Created]
  | ent j => simp [Created]
  | imp p =>
    have : p ≠ d := fun e => hk (by rw [e])
    simp [Created, this]

theorem created_succ_iff (ms : List MEnt) (i : Nat) (imps : List Path) (k : Key) :
    Created ms (i + 1) imps k ↔ Created ms i imps k ∨ (k = .ent i ∧ ∃ m, ms[i]? = some m ∧
      m.e.type ≠ "chunk" ∧ m.e.type ≠ "hardlink" ∧ firstIdx ms m.path = some i) := by
  cases k with
  | root => simp [Created]
  | imp p => simp [Created]
  | ent j =>
    simp only [Created, Key.ent.injEq]
    constructor
    · rintro ⟨h1, h2⟩
      by_cases hji : j = i
      · subst hji; exact Or.inr ⟨rfl, h2⟩
      · exact Or.inl ⟨by omega, h2⟩
    · rintro (⟨h1, h2⟩ | ⟨h1, h2⟩)
      · exact ⟨by omega, h2⟩
      · subst h1; exact ⟨by omega, h2⟩

theorem created_succ_same {ms : List MEnt} {i : Nat} {imps : List Path} {m : MEnt} (hm : ms[i]? = some m)
    (h : m.e.type = "chunk" ∨ m.e.type = "hardlink" ∨ firstIdx ms m.path ≠ some i) (k : Key) :
    Created ms (i + 1) imps k ↔ Created ms i imps k := by
  rw [created_succ_iff]
  refine or_iff_left ?_
  rintro ⟨_, m', h2, h3, h4, h5⟩
  rw [hm] at h2; cases h2
  rcases h with h | h | h
  · exact h3 h
  · exact h4 h
  · exact h h5

theorem created_succ {ms : List MEnt} {i : Nat} {imps : List Path} {k : Key}
    (h : Created ms i imps k) : Created ms (i + 1) imps k :=
  (created_succ_iff ms i imps k).mpr (Or.inl h)

theorem created_mono_imps {ms : List MEnt} {i : Nat} {imps imps' : List Path} {k : Key}
    (h : ∀ p, p ∈ imps → p ∈ imps') (hk : Created ms i imps k) : Created ms i imps' k := by
  cases k with
  | root => trivial
  | ent j => exact hk
  | imp p => exact ⟨h p hk.1, hk.2⟩

theorem pendOwn_imp (ms : List MEnt) (i : Nat) (p : Path) : pendOwn ms i (.imp p) = 0 := rfl

theorem pendOwn_root (ms : List MEnt) (i : Nat) : pendOwn ms i .root = 0 := rfl

/-- an implicit directory has been created (bucket / `r.m` entry) but not linked yet -/
theorem inv_create_imp {ms : List MEnt} {i : Nat} {sm : MState} {sd : DState} {P : List Path}
    {δ : Key → Int} (inv : Inv ms i sm sd P δ) (d : Path) (hne : d ≠ []) (hnot : d ∉ sm.imps)
    (hl : lastIdx ms d = none) (hanc : IsAncestor ms d) (hδ : δ (.imp d) = 0) :
    Inv ms i { sm with imps := d :: sm.imps, nl := fun k => if k = .imp d then 2 else sm.nl k }
      (setNode sd (.imp d) (writeAttr {} rootAttr)) (d :: P) δ := by
  have hlook : look ms i sm.imps d = none := by
    rw [look_of_noEntry hne hl, if_neg hnot]
  refine { inv with
           walk := ?walk, impsNone := List.forall_mem_cons.mpr ⟨hl, inv.impsNone⟩,
           impsAnc := fun p hp => (List.mem_cons.mp hp).elim (fun e => Or.inr (e ▸ hanc)) (inv.impsAnc p),
           pend := ?pend, node := ?node, noKids := ?noKids, pendKids := ?pendKids, freshNl := ?freshNl,
           rootImp := fun h => List.mem_cons_of_mem _ (inv.rootImp h), kidsCreated := ?kidsCreated }
  case walk =>
    intro p
    show walkKids sd.kids .root p = _
    rw [inv.walk p]
    by_cases hp : p = d
    · subst hp
      simp only [List.mem_cons, true_or, ↓reduceIte]
      split
      · rfl
      · exact hlook
    · rw [look_cons_ne hp]
      simp [hp]
  case pend =>
    intro p hp
    rcases List.mem_cons.mp hp with e | e
    · rw [e]; exact ⟨List.mem_cons_self .., hne⟩
    · exact ⟨List.mem_cons_of_mem _ (inv.pend p e).1, (inv.pend p e).2⟩
  case node =>
    intro k hk
    by_cases hkd : k = .imp d
    · subst hkd
      refine ⟨writeAttr {} rootAttr, by simp [setNode], rfl, ?_⟩
      rw [readNumLink_root, hδ, pendOwn_imp]
      simp [nlEff, lastOf]
    · have hk' := (created_cons hkd).mp hk
      obtain ⟨b, h1, h2, h3⟩ := inv.node k hk'
      refine ⟨b, by simp [setNode, hkd, h1], h2, ?_⟩
      rw [h3]
      congr 2
      unfold nlEff
      have hlo := lastOf_ne_imp ms k d hkd
      simp only [hlo, ↓reduceIte, List.mem_cons]
      have : ([] : Path) ≠ d := fun e => hne e.symm
      simp [this]
  case noKids =>
    intro k hk
    show sd.kids k = []
    apply inv.noKids
    intro ⟨h1, h2⟩
    by_cases hkd : k = .imp d
    · subst hkd; exact hnot h1.1
    · exact hk ⟨(created_cons hkd).mpr h1, h2⟩
  case pendKids =>
    intro p hp
    show sd.kids (.imp p) = []
    rcases List.mem_cons.mp hp with e | e
    · rw [e]
      apply inv.noKids
      intro ⟨h1, _⟩; exact hnot h1.1
    · exact inv.pendKids p e
  case freshNl =>
    intro j hf
    show (if Key.ent j = Key.imp d then 2 else sm.nl (.ent j)) = _
    simp only [reduceCtorEq, ↓reduceIte]
    exact inv.freshNl j hf
  case kidsCreated =>
    intro k kv hkv
    have := inv.kidsCreated k kv hkv
    by_cases hkd : kv.2 = .imp d
    · rw [hkd] at this; exact absurd this.1 hnot
    · exact (created_cons hkd).mpr this

theorem init_inv (ms : List MEnt) :
    Inv ms 0 { nl := initNl ms } dInit [] (fun _ => 0) := by
  refine { kids := fun _ _ => rfl, memNoKids := fun _ _ => rfl, walk := ?walk, impsNone := ?impsNone, pend := ?pend,
           node := ?node, noKids := ?noKids, pendKids := ?pendKids, freshNl := fun _ _ => rfl, rootImp := ?rootImp, kidsCreated := ?kidsCreated,
           impsAnc := fun _ h => nomatch h }
  case walk =>
    intro p
    cases p with
    | nil => simp [walkKids, look]
    | cons b rest =>
      simp only [walkKids, dInit, getKid, List.not_mem_nil, ↓reduceIte]
      unfold look
      simp only [reduceCtorEq, ↓reduceIte, List.not_mem_nil]
      split
      · simp
      · rfl
  case impsNone =>
    intro p hp; cases hp
  case pend =>
    intro p hp; cases hp
  case node =>
    intro k hk
    cases k with
    | root =>
      refine ⟨writeAttr {} rootAttr, by simp [dInit], rfl, ?_⟩
      rw [readNumLink_root]; simp [nlEff, lastOf, pendOwn]
    | imp p => exact absurd hk.1 (by simp)
    | ent j => exact absurd hk.1 (by omega)
  case noKids =>
    intro k _; rfl
  case pendKids =>
    intro p hp; cases hp
  case rootImp =>
    intro h; exact absurd rfl h
  case kidsCreated =>
    intro k kv hkv; cases hkv

theorem look_imp_key {ms : List MEnt} {i : Nat} {imps : List Path} {p q : Path}
    (h : look ms i imps p = some (.imp q)) : p = q ∧ q ∈ imps := by
  rcases look_cases h with ⟨_, e⟩ | ⟨_, j, _, _, e⟩ | ⟨_, hm, e⟩
  · cases e
  · obtain ⟨r, hr⟩ := resolveKey_is_ent ms j
    rw [hr] at e; cases e
  · cases e; exact ⟨rfl, hm⟩

theorem look_ne_root {ms : List MEnt} {i : Nat} {imps : List Path} {p : Path} (hne : p ≠ [])
    (h : look ms i imps p = some .root) : False := by
  rcases look_cases h with ⟨e, _⟩ | ⟨_, j, _, _, e⟩ | ⟨_, _, e⟩
  · exact hne e
  · obtain ⟨r, hr⟩ := resolveKey_is_ent ms j
    rw [hr] at e; cases e
  · cases e

theorem keyType_imp (ms : List MEnt) (p : Path) : keyType ms (.imp p) = "dir" := rfl

theorem map_setKid (ms : List MEnt) (b : String) (c : Key) (l : Kids) :
    (setKid b c l).map (mapKV (canon ms)) = setKid b (canon ms c) (l.map (mapKV (canon ms))) := by
  induction l with
  | nil => rfl
  | cons x xs ih =>
    simp only [setKid, List.map_cons, mapKV]
    by_cases h : x.1 = b
    · simp [h, mapKV]
    · simp only [h, ↓reduceIte, List.map_cons]
      rw [ih]; rfl

/-! ## Linking a child below a directory -/

/-- The bucket of a node that exists already, after a child has been linked below `pkd`/`pkm`:
the db store raises the parent's count iff the child is a directory (`D`); the memory store
does the same and adds `extra` on the keys whose own name it counts.  What is asked of the caller
is that `extra`, the outstanding db increments `δ` and the names not yet counted balance. -/
theorem node_link {ms : List MEnt} (ok : TreeOK ms) {i i' : Nat} {sm sm' : MState} {sd sd' : DState}
    {P : List Path} {δ δ' : Key → Int} (inv : Inv ms i sm sd P δ) {pkm pkd : Key}
    (hcan : canon ms pkm = pkd) (hlive : MLiveDir ms pkm) (hroot : pkm = .root → [] ∈ sm.imps)
    {bp : DbAttr} (hbp : sd.nodes pkd = some bp) (D : Prop) [Decidable D] (extra : Key → Int)
    (himps : sm'.imps = sm.imps)
    (hsdn : sd'.nodes = fun k => if k = pkd ∧ D then some (bumpNumLink bp) else sd.nodes k)
    (hnl : ∀ k, sm'.nl k = sm.nl k + (if k = pkm ∧ D then 1 else 0) + extra k)
    (hex : extra .root = 0) {k : Key} (hk : Created ms i sm.imps k)
    (hbal : extra (lastOf ms k) + δ' k + pendOwn ms i' k = δ k + pendOwn ms i k) :
    ∃ b, sd'.nodes k = some b ∧ eraseNL b = eraseNL (writeAttr {} (attr0 ms k)) ∧
      readNumLink b = nlEff sm' (lastOf ms k) + δ' k + pendOwn ms i' k := by
  obtain ⟨b, h1, h2, h3⟩ := inv.node k hk
  have hiff : lastOf ms k = pkm ↔ k = pkd := hcan ▸ lastOf_eq_iff ok hk hlive
  have hne : nlEff sm' (lastOf ms k) =
      nlEff sm (lastOf ms k) + (if k = pkd ∧ D then 1 else 0) + extra (lastOf ms k) := by
    unfold nlEff
    rw [himps, hnl]
    by_cases hr : lastOf ms k = .root ∧ [] ∉ sm.imps
    · have hkp : k ≠ pkd := fun e => hr.2 (hroot ((hiff.mpr e).symm.trans hr.1))
      rw [if_pos hr, if_pos hr, hr.1, hex]
      simp [hkp]
    · rw [if_neg hr, if_neg hr]
      simp only [hiff]
  rw [hsdn, hne]
  by_cases hc : k = pkd ∧ D
  · rw [hc.1, hbp] at h1; cases h1
    exact ⟨_, if_pos hc, by rw [eraseNL_bump]; exact h2, by rw [if_pos hc, readNumLink_bump, h3]; omega⟩
  · exact ⟨b, by dsimp only; rw [if_neg hc]; exact h1, h2, by rw [if_neg hc, h3]; omega⟩

/-- Linking a name `b` below a directory (memory key `pkm`, db key `pkd`) to a node (memory key `cm`,
db key `cd`): the fields of the invariant that only speak of the children maps follow from the
shape of the new maps; what depends on the kind of link (walks, link counts) is left to the caller. -/
theorem inv_link {ms : List MEnt} (ok : TreeOK ms) {i i' : Nat} {sm sm' : MState} {sd sd' : DState} {P P' : List Path}
    {δ δ' : Key → Int} (inv : Inv ms i sm sd P δ) {pkm pkd cm cd : Key} {b : String}
    (hcan : canon ms pkm = pkd) (hlive : MLiveDir ms pkm) (hcc : canon ms cm = cd)
    (hpk : Created ms i sm.imps pkd) (hdir : IsDirKey ms pkd) (hroot : pkm = .root → [] ∈ sm.imps)
    (hmono : ∀ k, Created ms i sm.imps k → Created ms i' sm.imps k) (hcd : Created ms i' sm.imps cd)
    (himps : sm'.imps = sm.imps)
    (hsmk : sm'.kids = fun k => if k = pkm then setKid b cm (sm.kids k) else sm.kids k)
    (hsdk : sd'.kids = fun k => if k = pkd then setKid b cd (sd.kids k) else sd.kids k)
    (walk : ∀ p, walkKids sd'.kids .root p = if p ∈ P' then none else look ms i' sm.imps p)
    (pend : ∀ p ∈ P', p ∈ P ∧ Key.imp p ≠ pkd)
    (node : ∀ k, Created ms i' sm.imps k → ∃ b, sd'.nodes k = some b ∧
      eraseNL b = eraseNL (writeAttr {} (attr0 ms k)) ∧
      readNumLink b = nlEff sm' (lastOf ms k) + δ' k + pendOwn ms i' k)
    (hii : i ≤ i')
    (freshNl : ∀ j, NotMet ms i' j → Key.ent j ≠ pkm → sm'.nl (.ent j) = initNl ms (.ent j)) :
    Inv ms i' sm' sd' P' δ' := by
  constructor
  case kids =>
    intro k hk
    rw [hsdk, hsmk]
    by_cases hkp : k = pkm
    · subst hkp
      simp only [hcan, ↓reduceIte]
      rw [map_setKid, ← inv.kids k hk, hcan, hcc]
    · have : canon ms k ≠ pkd := fun e => hkp (canon_inj ok hk hlive (e.trans hcan.symm))
      simp only [this, hkp, ↓reduceIte]
      exact inv.kids k hk
  case memNoKids =>
    intro k hk
    rw [hsmk]
    have : k ≠ pkm := fun e => hk (e ▸ hlive)
    simp only [this, ↓reduceIte]
    exact inv.memNoKids k hk
  case walk =>
    rw [himps]; exact walk
  case impsNone =>
    rw [himps]; exact inv.impsNone
  case impsAnc =>
    rw [himps]; exact inv.impsAnc
  case pend =>
    intro p hp
    rw [himps]; exact inv.pend p (pend p hp).1
  case node =>
    rw [himps]; exact node
  case noKids =>
    intro k hk
    rw [himps] at hk
    rw [hsdk]
    have hkp : k ≠ pkd := fun e => hk (by subst e; exact ⟨hmono _ hpk, hdir⟩)
    simp only [hkp, ↓reduceIte]
    exact inv.noKids k fun h => hk ⟨hmono k h.1, h.2⟩
  case pendKids =>
    intro p hp
    rw [hsdk]
    simp only [(pend p hp).2, ↓reduceIte]
    exact inv.pendKids p (pend p hp).1
  case freshNl =>
    intro j hf
    refine freshNl j hf ?_
    -- `pkm` is a live directory whose db node exists: its name has been met
    intro e
    rw [← e] at hlive hcan
    obtain ⟨m', hm', hd', _⟩ := hlive
    obtain ⟨f, hff, _⟩ := dir_first hm' hd'
    rw [canon_of_dir hm' hd' hff] at hcan
    rw [← hcan] at hpk
    exact hf.ne_of_met hm' (dir_nonchunk hd') hff (Nat.lt_of_lt_of_le hpk.1 hii) rfl
  case rootImp =>
    intro h
    by_cases hpk' : pkm = .root
    · rw [himps]; exact hroot hpk'
    · rw [himps]; apply inv.rootImp
      rw [hsmk] at h
      simpa [Ne.symm hpk'] using h
  case kidsCreated =>
    intro k kv hkv
    rw [himps]
    rw [hsdk] at hkv
    by_cases hkp : k = pkd
    · simp only [hkp, ↓reduceIte] at hkv
      rcases mem_setKid hkv with e | e
      · rw [e]; exact hcd
      · exact hmono _ (inv.kidsCreated pkd kv e)
    · simp only [hkp, ↓reduceIte] at hkv
      exact hmono _ (inv.kidsCreated k kv hkv)

theorem inv_link_pending {ms : List MEnt} (ok : TreeOK ms) {i : Nat} {sm : MState} {sd : DState}
    {P : List Path} {δ : Key → Int} (q : Path) (b : String) (pkm pkd : Key)
    (inv : Inv ms i sm sd ((q ++ [b]) :: P) δ)
    (hq : look ms i sm.imps q = some pkd) (hcan : canon ms pkm = pkd) (hlive : MLiveDir ms pkm)
    (hqP : q ∉ P) (hdP : (q ++ [b]) ∉ P)
    (hdir : IsDirKey ms pkd) (hroot : pkm = .root → [] ∈ sm.imps) :
    Inv ms i (mAddChild ms sm pkm b (.imp (q ++ [b]))) (dSetChild sd pkd b (.imp (q ++ [b])) true) P δ := by
  have hqd : q ≠ q ++ [b] := by intro e; have := congrArg List.length e; simp at this
  have hpkc := look_created ok hq
  obtain ⟨bp, hbp1, _, _⟩ := inv.node pkd hpkc
  have hpend := inv.pend (q ++ [b]) (List.mem_cons_self ..)
  have hne : Key.imp (q ++ [b]) ≠ pkd := by
    intro e; rw [← e] at hq
    exact hqd (look_imp_key hq).1
  have hsdkids := dSetChild_kids sd pkd b (.imp (q ++ [b])) true
  refine inv_link ok inv (i' := i) (cm := .imp (q ++ [b])) hcan hlive rfl hpkc hdir hroot (hmono := fun _ h => h)
    (hcd := hpend) (himps := rfl) (hsmk := rfl) (hsdk := hsdkids) (hii := Nat.le_refl _)
    (walk := ?walk) (pend := ?pend) (node := ?node) (freshNl := ?freshNl)
  case walk =>
    intro p
    rw [hsdkids]
    have := walk_link sd.kids (fun p => if p ∈ (q ++ [b]) :: P then none else look ms i sm.imps p)
      q b pkd (.imp (q ++ [b])) inv.walk
      (by simp only [List.mem_cons, hqd, hqP, or_self, ↓reduceIte]; exact hq)
      (by simp)
      (by
        intro p hp
        split at hp
        · cases hp
        · exact look_dir_unique ok hp hq hdir)
      (inv.pendKids _ (List.mem_cons_self ..)) hne p
    rw [this]
    by_cases hpd : p = q ++ [b]
    · subst hpd
      rw [if_pos rfl, if_neg hdP, look_of_noEntry hpend.2 (inv.impsNone _ hpend.1), if_pos hpend.1]
    · rw [if_neg hpd]
      simp [hpd]
  case pend =>
    intro p hp
    refine ⟨List.mem_cons_of_mem _ hp, ?_⟩
    intro e; rw [← e] at hq
    exact hqP ((look_imp_key hq).1 ▸ hp)
  case node =>
    intro k hk
    refine node_link ok inv hcan hlive hroot hbp1 True (fun _ => 0) (by rfl) ?_ ?_ rfl hk (by simp)
    · simp [dSetChild_nodes_dir hbp1]
    · intro k'; rw [mAddChild_nl, keyType_imp]; simp
  case freshNl =>
    intro j hf hjp
    rw [mAddChild_nl]
    simp only [hjp, false_and, ↓reduceIte, Int.add_zero]
    exact inv.freshNl j hf

theorem inv_create_root {ms : List MEnt} (ok : TreeOK ms) {i : Nat} {sm : MState} {sd : DState}
    {P : List Path} {δ : Key → Int} (inv : Inv ms i sm sd P δ) (hnot : [] ∉ sm.imps) :
    Inv ms i { sm with imps := [] :: sm.imps, nl := fun k => if k = .root then 2 else sm.nl k } sd P δ := by
  have hl : lastIdx ms [] = none := (lastIdx_eq_none_iff ms []).mpr ok.noRoot
  have hcr : ∀ k, Created ms i ([] :: sm.imps) k ↔ Created ms i sm.imps k := by
    intro k
    by_cases hk : k = .imp []
    · subst hk; simp [Created]
    · exact created_cons hk
  refine { inv with
           walk := ?walk, impsNone := List.forall_mem_cons.mpr ⟨hl, inv.impsNone⟩,
           impsAnc := fun p hp => (List.mem_cons.mp hp).elim Or.inl (inv.impsAnc p),
           pend := ?pend, node := ?node, noKids := ?noKids, freshNl := ?freshNl, rootImp := fun _ => List.mem_cons_self ..,
           kidsCreated := fun k kv hkv => (hcr kv.2).mpr (inv.kidsCreated k kv hkv) }
  case walk =>
    intro p
    rw [inv.walk p]
    by_cases hp : p = []
    · subst hp; rfl
    · rw [look_cons_ne hp]
  case pend =>
    intro p hp
    exact ⟨List.mem_cons_of_mem _ (inv.pend p hp).1, (inv.pend p hp).2⟩
  case node =>
    intro k hk
    obtain ⟨b, h1, h2, h3⟩ := inv.node k ((hcr k).mp hk)
    refine ⟨b, h1, h2, ?_⟩
    rw [h3]; congr 2
    unfold nlEff
    by_cases hr : lastOf ms k = .root
    · rw [hr]; simp [hnot]
    · simp [hr]
  case noKids =>
    intro k hk
    apply inv.noKids
    intro ⟨h1, h2⟩
    exact hk ⟨(hcr k).mpr h1, h2⟩
  case freshNl =>
    intro j hf
    show (if Key.ent j = Key.root then 2 else sm.nl (.ent j)) = _
    simp only [reduceCtorEq, ↓reduceIte]
    exact inv.freshNl j hf

/-! ## `getOrCreateDir` in both stores -/

/-- `rev`: the directory's name, innermost component first; `km`, `kd`: its memory and db key -/
structure DirSim (ms : List MEnt) (i : Nat) (sm : MState) (sd : DState) (P : List Path) (δ : Key → Int)
    (rev : List String) (sm' : MState) (sd' : DState) (km kd : Key) : Prop where
  mem : mGetOrCreateDir ms sm rev = (sm', km)
  db : dGetOrCreateDir sd rev = some (sd', kd)
  canon : canon ms km = kd
  live : MLiveDir ms km
  inv : Inv ms i sm' sd' P δ
  look : look ms i sm'.imps rev.reverse = some kd
  isDir : IsDirKey ms kd
  rootImp : km = .root → [] ∈ sm'.imps
  impsMono : ∀ p, p ∈ sm.imps → p ∈ sm'.imps
  nodesAbove : ∀ j, i ≤ j → sd'.nodes (.ent j) = sd.nodes (.ent j)
  chunks : sd'.chunks = sd.chunks

theorem getOrCreateDir_sim {ms : List MEnt} (ok : TreeOK ms) (i : Nat) :
    ∀ (rev : List String) (sm : MState) (sd : DState) (P : List Path) (δ : Key → Int),
      Inv ms i sm sd P δ → (∀ p, δ (.imp p) = 0) →
      Admissible ms i rev.reverse →
      (∀ n, n ≤ rev.length → rev.reverse.take n ∉ P) →
      ∃ sm' sd' km kd, DirSim ms i sm sd P δ rev sm' sd' km kd := by
  intro rev
  induction rev with
  | nil =>
    intro sm sd P δ inv _ _ _
    have hl : lastIdx ms [] = none := (lastIdx_eq_none_iff ms []).mpr ok.noRoot
    obtain ⟨br, hbr, _, _⟩ := inv.node .root trivial
    by_cases hmem : [] ∈ sm.imps
    · exact ⟨sm, sd, .root, .root,
        { mem := by simp [mGetOrCreateDir, mLookup, hl, hmem, impKey], db := by simp [dGetOrCreateDir, hbr],
          canon := rfl, live := trivial, inv := inv, look := look_nil .., isDir := trivial,
          rootImp := fun _ => hmem, impsMono := fun _ h => h, nodesAbove := fun _ _ => rfl, chunks := rfl }⟩
    · exact ⟨_, sd, .root, .root,
        { mem := by simp [mGetOrCreateDir, mLookup, hl, hmem], db := by simp [dGetOrCreateDir, hbr],
          canon := rfl, live := trivial, inv := inv_create_root ok inv hmem, look := look_nil ..,
          isDir := trivial, rootImp := fun _ => List.mem_cons_self ..,
          impsMono := fun _ h => List.mem_cons_of_mem _ h, nodesAbove := fun _ _ => rfl, chunks := rfl }⟩
  | cons b rest ih =>
    intro sm sd P δ inv hδ hadm hP
    have hne : (b :: rest).reverse ≠ [] := by simp
    have hdP : (b :: rest).reverse ∉ P := by
      have := hP (b :: rest).length (Nat.le_refl _)
      rwa [← List.length_reverse, List.take_length] at this
    obtain ⟨hml, hlivek, hdirk⟩ := mLookup_eq_look (sm := sm) ok hadm hne
    have hwalk : dGetIDByName sd (b :: rest).reverse = look ms i sm.imps (b :: rest).reverse := by
      unfold dGetIDByName; rw [inv.walk, if_neg hdP]
    cases hmk : mLookup ms sm (b :: rest).reverse with
    | some km =>
      rw [hmk] at hml
      simp only [Option.map_some] at hml
      have hlk := hml.symm
      obtain ⟨bk, hbk, _, _⟩ := inv.node _ (look_created ok hlk)
      exact ⟨sm, sd, km, canon ms km,
        { mem := by simp only [mGetOrCreateDir]; rw [hmk],
          db := by simp only [dGetOrCreateDir]; rw [hwalk, hlk]; simp [hbk],
          canon := rfl, live := hlivek km hmk, inv := inv, look := hlk, isDir := hdirk _ hlk,
          rootImp := fun e => (look_ne_root hne (e ▸ hlk)).elim, impsMono := fun _ h => h,
          nodesAbove := fun _ _ => rfl, chunks := rfl }⟩
    | none =>
      rw [hmk] at hml
      simp only [Option.map_none] at hml
      have hlk := hml.symm
      -- both stores create the directory, recurse for the parent, then link
      have hlnone : lastIdx ms (b :: rest).reverse = none := by
        cases hl : lastIdx ms (b :: rest).reverse with
        | none => rfl
        | some j => unfold mLookup at hmk; rw [hl] at hmk; cases hmk
      have hnot : (b :: rest).reverse ∉ sm.imps := by
        intro hmem
        unfold mLookup at hmk; rw [hlnone] at hmk
        rw [if_pos hmem] at hmk; cases hmk
      have hanc : IsAncestor ms (b :: rest).reverse := by
        have := (hadm (b :: rest).reverse.length (by simp) (Nat.le_refl _)).2.2
        rwa [List.take_length] at this
      have inv1 := inv_create_imp inv (b :: rest).reverse hne hnot hlnone hanc (hδ _)
      have hadm' : Admissible ms i rest.reverse := by
        intro n h0 hn
        have hn' : n ≤ rest.length := by simpa using hn
        have := hadm n h0 (by simp; omega)
        rw [take_reverse_cons b rest n hn'] at this
        exact this
      have hP' : ∀ n, n ≤ rest.length → rest.reverse.take n ∉ (b :: rest).reverse :: P := by
        intro n hn hmem
        rcases List.mem_cons.mp hmem with e | e
        · have := congrArg List.length e
          simp at this; omega
        · have := hP n (by simp; omega)
          rw [take_reverse_cons b rest n hn] at this
          exact this e
      obtain ⟨sm2, sd2, pkm, pkd, h2⟩ := ih _ _ _ δ inv1 hδ hadm' hP'
      have hqP : rest.reverse ∉ P := by
        have := hP rest.length (by simp)
        rwa [take_reverse_cons b rest _ (Nat.le_refl _), ← List.length_reverse, List.take_length] at this
      rw [List.reverse_cons] at h2 hdP
      have inv3 := inv_link_pending ok rest.reverse b pkm pkd h2.inv h2.look h2.canon h2.live hqP hdP h2.isDir
        h2.rootImp
      have hdmem : (rest.reverse ++ [b]) ∈ sm2.imps := h2.impsMono _ List.mem_cons_self
      have hpkc := look_created ok h2.look
      obtain ⟨bp, hbp, _, _⟩ := h2.inv.node pkd hpkc
      refine ⟨_, _, .imp (rest.reverse ++ [b]), .imp (rest.reverse ++ [b]),
        { mem := ?_, db := ?_, canon := rfl, live := trivial, inv := inv3, look := ?_, isDir := trivial,
          rootImp := (fun e => nomatch e), impsMono := fun p hp => h2.impsMono p (List.mem_cons_of_mem _ hp),
          nodesAbove := ?_, chunks := ?_ }⟩
      · simp only [mGetOrCreateDir]
        rw [hmk]
        simp only [List.reverse_cons]
        rw [h2.mem]
      · simp only [dGetOrCreateDir]
        rw [hwalk, hlk]
        simp only [List.reverse_cons]
        rw [h2.db]
      · rw [look_of_noEntry hne hlnone, List.reverse_cons]; exact if_pos hdmem
      · intro j hj
        have hne' : Key.ent j ≠ pkd := by
          intro e; rw [← e] at hpkc; exact absurd hpkc.1 (by omega)
        rw [dSetChild_nodes_dir hbp]
        simp only [hne', ↓reduceIte]
        rw [h2.nodesAbove j hj]
        simp [setNode]
      · rw [dSetChild_chunks, h2.chunks]; rfl

theorem Inv.congr_db {ms : List MEnt} {i : Nat} {sm : MState} {sd sd' : DState} {P : List Path}
    {δ : Key → Int} (inv : Inv ms i sm sd P δ) (hk : sd'.kids = sd.kids) (hn : sd'.nodes = sd.nodes) :
    Inv ms i sm sd' P δ := by
  refine { inv with kids := ?kids, walk := ?walk, node := ?node, noKids := ?noKids, pendKids := ?pendKids,
                    kidsCreated := ?kidsCreated }
  case kids => rw [hk]; exact inv.kids
  case walk => rw [hk]; exact inv.walk
  case node => rw [hn]; exact inv.node
  case noKids => rw [hk]; exact inv.noKids
  case pendKids => rw [hk]; exact inv.pendKids
  case kidsCreated => rw [hk]; exact inv.kidsCreated

theorem Inv.walk_nil {ms : List MEnt} {i : Nat} {sm : MState} {sd : DState} {δ : Key → Int}
    (inv : Inv ms i sm sd [] δ) (p : Path) : walkKids sd.kids .root p = look ms i sm.imps p := by
  have := inv.walk p; simpa using this

theorem Inv.set_hl {ms : List MEnt} {i : Nat} {sm : MState} {sd : DState} {P : List Path}
    {δ : Key → Int} (inv : Inv ms i sm sd P δ) (l : List Key) :
    Inv ms i { sm with hlSources := l } sd P δ :=
  { inv with }

/-! ## Linking the entry itself -/

theorem inv_setNode_fresh {ms : List MEnt} {i : Nat} {sm : MState} {sd : DState} {P : List Path}
    {δ : Key → Int} (inv : Inv ms i sm sd P δ) (j : Nat) (hj : i ≤ j) (b : DbAttr) :
    Inv ms i sm (setNode sd (.ent j) b) P δ := by
  refine { inv with node := ?_ }
  intro k hk
  obtain ⟨b', h1, h2, h3⟩ := inv.node k hk
  have : k ≠ .ent j := by
    intro e; subst e; exact absurd hk.1 (by omega)
  exact ⟨b', by simp [setNode, this, h1], h2, h3⟩

theorem pendOwn_step {ms : List MEnt} (i : Nat) (k : Key) (h : lastOf ms k ≠ .ent i) :
    pendOwn ms (i + 1) k = pendOwn ms i k := by
  cases k with
  | root => rfl
  | imp p => rfl
  | ent f =>
    simp only [pendOwn]
    cases hl : lastOf ms (.ent f) with
    | root => rfl
    | imp p => rfl
    | ent L =>
      simp only
      have : L ≠ i := by intro e; subst e; exact h hl
      by_cases h1 : i ≤ L
      · have : i + 1 ≤ L := by omega
        simp [h1, this]
      · have : ¬ i + 1 ≤ L := by omega
        simp [h1, this]

theorem walk_link_first {ms : List MEnt} (ok : TreeOK ms) {i : Nat} {sm : MState} {sd : DState}
    {δ : Key → Int} (inv : Inv ms i sm sd [] δ) {q : Path} {b : String} {pkd c : Key} {m : MEnt}
    (hm : ms[i]? = some m) (hpath : m.path = q ++ [b]) (hfirst : firstIdx ms m.path = some i)
    (hq : look ms i sm.imps q = some pkd) (hdir : IsDirKey ms pkd)
    (hres : resolveKey ms i = c) (hck : sd.kids c = []) (hne : c ≠ pkd) (p : Path) :
    walkKids (fun k => if k = pkd then setKid b c (sd.kids k) else sd.kids k) .root p =
      if p ∈ ([] : List Path) then none else look ms (i + 1) sm.imps p := by
  rw [hpath] at hfirst
  have hlookd : look ms i sm.imps (q ++ [b]) = none := by
    rw [look_of_first (by simp) hfirst, if_neg (Nat.lt_irrefl i)]
  have hw := inv.walk_nil
  rw [walk_link sd.kids (look ms i sm.imps) q b pkd c hw hq hlookd
    (fun p hp => look_dir_unique ok hp hq hdir) hck hne p]
  simp only [List.not_mem_nil, ↓reduceIte]
  by_cases hpd : p = q ++ [b]
  · subst hpd; rw [look_succ_at ok i _ _ hfirst, hres]; simp
  · have : firstIdx ms p ≠ some i := by
      intro h
      obtain ⟨m', hm', _, hp'⟩ := firstIdx_nonChunk h
      rw [hm] at hm'; cases hm'
      exact hpd (by rw [← hp', hpath])
    rw [look_succ_ne i _ _ this]; simp [hpd]

/-- the memory store has counted the own name of entry `i` and linked it below `pkm` -/
abbrev mLinkOwn (ms : List MEnt) (sm : MState) (pkm : Key) (b : String) (i : Nat) : MState :=
  mAddChild ms { sm with nl := fun k => if k = .ent i then sm.nl k + 1 else sm.nl k } pkm b (.ent i)

theorem mAddChild_own_nl (ms : List MEnt) (sm : MState) (pkm : Key) (b : String) (i : Nat) (k : Key) :
    (mLinkOwn ms sm pkm b i).nl k =
      sm.nl k + (if k = pkm ∧ keyType ms (.ent i) = "dir" then 1 else 0) + (if k = .ent i then 1 else 0) := by
  rw [mAddChild_nl]
  by_cases h2 : k = .ent i <;> simp only [h2, ↓reduceIte] <;> omega

theorem mLinkOwn_fresh {ms : List MEnt} {i f : Nat} {sm : MState} {sd : DState} {P : List Path} {δ : Key → Int}
    (inv : Inv ms i sm sd P δ) {m : MEnt} (hm : ms[i]? = some m) (hc : m.e.type ≠ "chunk")
    (hfirst : firstIdx ms m.path = some f) (hfi : f ≤ i) (pkm : Key) (b : String) {j : Nat}
    (hf : NotMet ms (i + 1) j) (hjp : Key.ent j ≠ pkm) : (mLinkOwn ms sm pkm b i).nl (.ent j) = initNl ms (.ent j) := by
  have hji : Key.ent j ≠ .ent i := fun e => hf.ne_of_met hm hc hfirst (Nat.lt_succ_of_le hfi) (Key.ent.inj e)
  rw [mAddChild_own_nl]
  simp only [hjp, hji, false_and, ↓reduceIte, Int.add_zero]
  exact inv.freshNl j (hf.mono (Nat.le_succ i))

theorem inv_link_entry {ms : List MEnt} (ok : TreeOK ms) {i : Nat} {sm : MState} {sd : DState}
    (q : Path) (b : String) (pkm pkd : Key) (m : MEnt)
    (inv : Inv ms i sm sd [] (fun _ => 0))
    (hm : ms[i]? = some m) (hc : m.e.type ≠ "chunk") (hh : m.e.type ≠ "hardlink")
    (hfirst : firstIdx ms m.path = some i)
    (hpath : m.path = q ++ [b])
    (hq : look ms i sm.imps q = some pkd) (hcan : canon ms pkm = pkd) (hlive : MLiveDir ms pkm)
    (hdir : IsDirKey ms pkd) (hroot : pkm = .root → [] ∈ sm.imps)
    (hnode : sd.nodes (.ent i) = some (writeAttr {} (attr0 ms (.ent i)))) :
    Inv ms (i + 1)
      (mLinkOwn ms sm pkm b i)
      (dSetChild sd pkd b (.ent i) (m.e.type = "dir")) [] (fun _ => 0) := by
  have hpkc := look_created ok hq
  obtain ⟨bp, hbp1, _, _⟩ := inv.node pkd hpkc
  have hne : Key.ent i ≠ pkd := by
    intro e; rw [← e] at hpkc; exact absurd hpkc.1 (by omega)
  have hkt : keyType ms (.ent i) = m.e.type := keyType_ent hm
  have hres : resolveKey ms i = .ent i := resolveKey_nonhardlink ok hm hh
  have hcani : canon ms (.ent i) = .ent i := canon_first hm hfirst
  have hsdkids := dSetChild_kids sd pkd b (.ent i) (m.e.type = "dir")
  have hsdnodes : (dSetChild sd pkd b (.ent i) (m.e.type = "dir")).nodes =
      fun k => if k = pkd ∧ m.e.type = "dir" then some (bumpNumLink bp) else sd.nodes k := by
    unfold dSetChild
    by_cases hd : m.e.type = "dir"
    · simp [hd, hbp1, setNode]
    · simp [hd]
  have hkidsi : sd.kids (.ent i) = [] := by
    apply inv.noKids
    intro ⟨h1, _⟩; exact absurd h1.1 (by omega)
  have hcr : ∀ k, Created ms (i + 1) sm.imps k ↔ (k = .ent i ∨ Created ms i sm.imps k) := by
    intro k
    rw [created_succ_iff, Or.comm]
    exact or_congr_left ⟨fun h => h.1, fun h => ⟨h, m, hm, hc, hh, hfirst⟩⟩
  have hnl : ∀ k, (mLinkOwn ms sm pkm b i).nl k =
      sm.nl k + (if k = pkm ∧ m.e.type = "dir" then 1 else 0) + (if k = .ent i then 1 else 0) := by
    intro k; rw [mAddChild_own_nl, hkt]
  have himps : (mLinkOwn ms sm pkm b i).imps = sm.imps := rfl
  -- no node that exists already has entry `i` as the last of its name
  have hnolast : ∀ k, Created ms i sm.imps k → lastOf ms k ≠ .ent i := by
    intro k hk e
    have h1 := (canon_lastOf ok hk).1
    rw [e, hcani] at h1
    rw [← h1] at hk; exact absurd hk.1 (by omega)
  refine inv_link ok inv (cm := .ent i) hcan hlive hcani hpkc hdir hroot (hmono := fun k h => (hcr k).mpr (Or.inr h))
    (hcd := (hcr _).mpr (Or.inl rfl)) (himps := rfl) (hsmk := rfl) (hsdk := hsdkids) (hii := Nat.le_succ _)
    (pend := fun p hp => by cases hp) (walk := ?walk) (node := ?node) (freshNl := ?freshNl)
  case walk =>
    intro p
    rw [hsdkids]
    exact walk_link_first ok inv hm hpath hfirst hq hdir hres hkidsi hne p
  case node =>
    intro k hk
    rcases (hcr k).mp hk with hki | hko
    · subst hki
      rw [hsdnodes]
      show ∃ b', _ ∧ _ ∧ readNumLink b' = nlEff _ (lastOf ms (.ent i)) + 0 + pendOwn ms (i + 1) (.ent i)
      have hnp : ¬ (Key.ent i = pkd ∧ m.e.type = "dir") := fun h => hne h.1
      refine ⟨_, by dsimp only; rw [if_neg hnp]; exact hnode, rfl, ?_⟩
      -- `L`, the last entry of the name, still carries its pass-1 count
      obtain ⟨L, mL, hL⟩ := mem_entry ok hm hc
      have hfirstL : firstIdx ms mL.path = some i := by rw [hL.path]; exact hfirst
      have hcL : canon ms (.ent L) = .ent i := by
        rw [← hL.key]; exact (canon_lastOf ok (imps := sm.imps) ((hcr _).mpr (Or.inl rfl))).1
      have hLp : Key.ent L ≠ pkm := fun e => hne (by rw [← hcL, e, hcan])
      have h0 := inv.freshNl L (fun m' hm' _ f hf => by
        rw [hL.get] at hm'; cases hm'; rw [hfirstL] at hf; cases hf; exact Nat.le_refl _)
      have hattr : (attr0 ms (.ent i)).numLink = initNl ms (.ent L) + 1 := by
        simp only [attr0, hm, attrOfEntry, initNl, hL.get, Option.map_some, Option.getD_some, hL.type]
        split <;> rfl
      -- the entry's own name is counted now if it is the last (`L = i`), else it is still to come
      have hown : (if Key.ent L = Key.ent i then (1 : Int) else 0) + pendOwn ms (i + 1) (.ent i) = 1 := by
        have := hL.le
        simp only [pendOwn, hL.key, Key.ent.injEq]
        split <;> split <;> omega
      rw [readNumLink_writeAttr, hL.key, hattr]
      unfold nlEff
      rw [himps, hnl, h0]
      simp only [reduceCtorEq, false_and, ↓reduceIte, hLp]
      have : readNumLink ({} : DbAttr) = 1 := rfl
      split <;> omega
    · have hki := hnolast k hko
      refine node_link (δ' := fun _ => 0) ok inv hcan hlive hroot hbp1 (m.e.type = "dir")
        (fun k => if k = .ent i then 1 else 0) ?_ hsdnodes hnl rfl hko ?_
      · rfl
      · simp [hki, pendOwn_step i k hki]
  case freshNl => exact fun j => mLinkOwn_fresh inv hm hc hfirst (Nat.le_refl i) pkm b

/-- a directory announced again: the memory store links the new entry object, the db store the same node once more -/
theorem inv_relink_dup {ms : List MEnt} (ok : TreeOK ms) {i f : Nat} {sm : MState} {sd : DState}
    (q : Path) (b : String) (pkm pkd : Key) (m : MEnt)
    (inv : Inv ms i sm sd [] (fun _ => 0))
    (hm : ms[i]? = some m) (hd : m.e.type = "dir")
    (hfirst : firstIdx ms m.path = some f) (hfi : f < i)
    (hpath : m.path = q ++ [b])
    (hq : look ms i sm.imps q = some pkd) (hcan : canon ms pkm = pkd) (hlive : MLiveDir ms pkm)
    (hdir : IsDirKey ms pkd) (hroot : pkm = .root → [] ∈ sm.imps) :
    Inv ms (i + 1)
      (mLinkOwn ms sm pkm b i)
      (dSetChild sd pkd b (.ent f) true) [] (fun _ => 0) := by
  have hc := dir_nonchunk hd
  have hpkc := look_created ok hq
  obtain ⟨bp, hbp1, _, _⟩ := inv.node pkd hpkc
  have hcani : canon ms (.ent i) = .ent f := canon_of_dir hm hd hfirst
  obtain ⟨mf, hmf, hcf, hpf⟩ := firstIdx_nonChunk hfirst
  have hdf := (same_name_dir ok hm hmf hc hcf hpf.symm hd).1
  have hlookd : look ms i sm.imps (q ++ [b]) = some (.ent f) := by
    rw [look_of_first (by simp) (hpath ▸ hfirst), if_pos hfi, resolveKey_nonhardlink ok hmf (dir_nonhardlink hdf)]
  have hfc := look_created ok hlookd
  have hw := inv.walk_nil
  have hgk : getKid b (sd.kids pkd) = some (.ent f) :=
    getKid_of_walk sd.kids q b pkd (.ent f) (by rw [hw, hq]) (by rw [hw, hlookd])
  have hkt : keyType ms (.ent i) = "dir" := by simp [keyType, hm, hd]
  have hsdkids := dSetChild_kids sd pkd b (.ent f) true
  have hsdnodes := dSetChild_nodes_dir hbp1 b (.ent f)
  have hnl : ∀ k, (mLinkOwn ms sm pkm b i).nl k =
      sm.nl k + (if k = pkm ∧ True then 1 else 0) + (if k = .ent i then 1 else 0) := by
    intro k; rw [mAddChild_own_nl, hkt]; simp only [and_true]
  have hcr : ∀ k, Created ms (i + 1) sm.imps k ↔ Created ms i sm.imps k :=
    created_succ_same hm (.inr (.inr (by rw [hfirst]; intro e; cases e; omega)))
  have hlooksucc : ∀ p, look ms (i + 1) sm.imps p = look ms i sm.imps p := by
    intro p
    apply look_succ_ne
    intro h
    obtain ⟨m', hm', _, hp'⟩ := firstIdx_nonChunk h
    rw [hm] at hm'; cases hm'
    rw [← hp', hfirst] at h; cases h; omega
  refine inv_link ok inv (cm := .ent i) hcan hlive hcani hpkc hdir hroot (hmono := fun k h => (hcr k).mpr h)
    (hcd := (hcr _).mpr hfc) (himps := rfl) (hsmk := rfl) (hsdk := hsdkids) (hii := Nat.le_succ _)
    (pend := fun p hp => by cases hp) (walk := ?walk) (node := ?node) (freshNl := ?freshNl)
  case walk =>
    intro p
    rw [hsdkids, walk_relink sd.kids pkd b (.ent f) hgk p .root, hw p]
    simp only [List.not_mem_nil, ↓reduceIte]
    exact (hlooksucc p).symm
  case node =>
    intro k hk
    have hko := (hcr k).mp hk
    refine node_link (δ' := fun _ => 0) ok inv hcan hlive hroot hbp1 True (fun k => if k = .ent i then 1 else 0)
      ?_ ?_ hnl rfl hko ?_
    · rfl
    · simp [hsdnodes]
    · by_cases hki : lastOf ms k = .ent i
      · -- the node of this very directory: the memory store counts the last name now
        have hkf : k = .ent f := (eq_canon_of_lastOf ok hko hki).trans hcani
        subst hkf
        have : ¬ i + 1 ≤ i := by omega
        simp [pendOwn, hki, this]
      · simp [hki, pendOwn_step i k hki]
  case freshNl => exact fun j => mLinkOwn_fresh inv hm hc hfirst (Nat.le_of_lt hfi) pkm b

theorem inv_link_hardlink {ms : List MEnt} (ok : TreeOK ms) {i : Nat} {sm : MState} {sd : DState}
    (q : Path) (b : String) (pkm pkd org : Key) (m : MEnt)
    (inv : Inv ms i sm sd [] (fun k => if k = org then 1 else 0))
    (hm : ms[i]? = some m) (hh : m.e.type = "hardlink")
    (hpath : m.path = q ++ [b])
    (hq : look ms i sm.imps q = some pkd) (hcan : canon ms pkm = pkd) (hlive : MLiveDir ms pkm)
    (hdir : IsDirKey ms pkd) (hroot : pkm = .root → [] ∈ sm.imps)
    (horg : resolveKey ms i = org) (hoc : Created ms i sm.imps org) (hod : ¬ IsDirKey ms org)
    (hcano : canon ms org = org) (hlasto : lastOf ms org = org) :
    Inv ms (i + 1)
      (mAddChild ms { sm with nl := fun k =>
          if k = org then (if k = .ent i then sm.nl k + 1 else sm.nl k) + 1
          else (if k = .ent i then sm.nl k + 1 else sm.nl k) } pkm b org)
      (dSetChild sd pkd b org false) [] (fun _ => 0) := by
  have hc : m.e.type ≠ "chunk" := by rw [hh]; decide
  have hndir : m.e.type ≠ "dir" := by rw [hh]; decide
  have hfirst := (nondir_first_last ok hm hc hndir).1
  have hpkc := look_created ok hq
  have hne : org ≠ pkd := fun e => hod (e ▸ hdir)
  have hkt : keyType ms org ≠ "dir" := isDirKey_keyType hod
  have hsdkids := dSetChild_kids sd pkd b org false
  have hsdnodes : (dSetChild sd pkd b org false).nodes = sd.nodes := by simp [dSetChild]
  have hkidso : sd.kids org = [] := inv.noKids org (fun ⟨_, h2⟩ => hod h2)
  have hcr : ∀ k, Created ms (i + 1) sm.imps k ↔ Created ms i sm.imps k := created_succ_same hm (.inr (.inl hh))
  refine inv_link ok inv hcan hlive hcano hpkc hdir hroot (hmono := fun k h => (hcr k).mpr h)
    (hcd := (hcr _).mpr hoc) (himps := rfl) (hsmk := rfl) (hsdk := hsdkids) (hii := Nat.le_succ _)
    (pend := fun p hp => by cases hp) (walk := ?walk) (node := ?node) (freshNl := ?freshNl)
  case walk =>
    intro p
    rw [hsdkids]
    exact walk_link_first ok inv hm hpath hfirst hq hdir horg hkidso hne p
  case node =>
    intro k hk
    rw [hsdnodes]
    have hko := (hcr k).mp hk
    obtain ⟨b', h1, h2, h3⟩ := inv.node k hko
    have hcl := (canon_lastOf ok hko).1
    have hki : lastOf ms k ≠ .ent i := by
      intro e
      rw [e, canon_of_nondir hm hndir] at hcl
      rw [← hcl] at hko; exact absurd hko.1 (by omega)
    refine ⟨b', h1, h2, ?_⟩
    show readNumLink b' = nlEff _ (lastOf ms k) + 0 + pendOwn ms (i + 1) k
    rw [h3, pendOwn_step i k hki]
    unfold nlEff
    simp only [mAddChild, hkt, ↓reduceIte, hki]
    by_cases hko' : k = org
    · subst hko'
      rw [hlasto]
      have : k ≠ .root := by
        intro e; subst e
        obtain ⟨r, hr⟩ := resolveKey_is_ent ms i
        rw [hr] at horg; cases horg
      simp [this]
    · have : lastOf ms k ≠ org := by
        intro e; rw [e, hcano] at hcl; exact hko' hcl.symm
      simp [hko', this]
  case freshNl =>
    intro j hf _
    have hji : Key.ent j ≠ .ent i := fun e => hf.ne_of_met hm hc hfirst (Nat.lt_succ_self i) (Key.ent.inj e)
    have hjo : Key.ent j ≠ org := by
      intro e; rw [← e] at hoc
      obtain ⟨h1, m', hm', hc', _, hf'⟩ := hoc
      exact hf.ne_of_met hm' hc' hf' (Nat.lt_succ_of_lt h1) rfl
    simp only [mAddChild, hkt, ↓reduceIte, hjo, hji]
    exact inv.freshNl j (hf.mono (Nat.le_succ i))

/-! ## One step of both interpreters -/

/-- keys a hardlink may be resolved to: existing nodes that are not directories -/
def HlOK (ms : List MEnt) (i : Nat) (sm : MState) : Prop :=
  ∀ org, org ∈ sm.hlSources → Created ms i sm.imps org ∧ ¬ IsDirKey ms org

theorem hlOK_succ {ms : List MEnt} {i : Nat} {sm sm' : MState} (h : HlOK ms i sm)
    (e1 : sm'.hlSources = sm.hlSources) (e2 : ∀ p, p ∈ sm.imps → p ∈ sm'.imps) : HlOK ms (i + 1) sm' := by
  intro org horg
  rw [e1] at horg
  exact ⟨created_succ (created_mono_imps e2 (h org horg).1), (h org horg).2⟩

structure StepSim (ms : List MEnt) (i : Nat) (sm : MState) (sd : DState) (m : MEnt) (sm' : MState)
    (sd' : DState) : Prop where
  mem : pass2Step ms sm i m = some sm'
  db : dStep sd i m.e = some sd'
  inv : Inv ms (i + 1) sm' sd' [] (fun _ => 0)
  chunks : cproj sd' = cStep ms (cproj sd) i m.e
  hl : HlOK ms (i + 1) sm'

theorem attrOfEntry_nl (e : Entry) (n : Int) : attrOfEntry e n = { attrOfEntry e 0 with numLink := n } := rfl

/-- `pass`: when `i` is no hardlink the memory store goes on to link the entry itself below its parent -/
structure ParentSim (ms : List MEnt) (i : Nat) (sm : MState) (sd : DState) (δ : Key → Int) (m : MEnt)
    (sm' : MState) (sd' : DState) (km kd : Key) : Prop where
  ne : m.path ≠ []
  split : m.path = parentDir m.path ++ [baseName m.path]
  dir : DirSim ms i sm sd [] δ (parentDir m.path).reverse sm' sd' km kd
  look : look ms i sm'.imps (parentDir m.path) = some kd
  hlSources : sm'.hlSources = sm.hlSources
  pass : m.e.type ≠ "hardlink" → pass2Step ms sm i m = some (mLinkOwn ms sm' km (baseName m.path) i)

theorem getOrCreateDir_parent {ms : List MEnt} (ok : TreeOK ms) {i : Nat} {sm : MState} {sd : DState} {δ : Key → Int}
    {m : MEnt} (hm : ms[i]? = some m) (hc : m.e.type ≠ "chunk") (inv : Inv ms i sm sd [] δ)
    (hδ : ∀ p, δ (.imp p) = 0) : ∃ sm' sd' km kd, ParentSim ms i sm sd δ m sm' sd' km kd := by
  have hnc : NonChunkAt ms i m.path := ⟨m, hm, hc, rfl⟩
  have hdne : m.path ≠ [] := fun e => ok.noRoot i (e ▸ hnc)
  have hadm : Admissible ms i (parentDir m.path).reverse.reverse := by
    rw [List.reverse_reverse]; exact admissible_parent ok hnc
  obtain ⟨sm2, sd2, km, kd, h⟩ :=
    getOrCreateDir_sim ok i (parentDir m.path).reverse sm sd [] δ inv hδ hadm (fun _ _ h => by cases h)
  refine ⟨sm2, sd2, km, kd,
    { ne := hdne, split := path_split m.path hdne, dir := h, look := ?_, hlSources := ?_, pass := fun hh => ?_ }⟩
  · have := h.look; rwa [List.reverse_reverse] at this
  · have := mGetOrCreateDir_hlSources ms (parentDir m.path).reverse sm; rw [h.mem] at this; exact this
  · unfold pass2Step
    rw [if_neg hc, if_neg hdne]
    simp only [h.mem, hh, ↓reduceIte]

theorem step_plain {ms : List MEnt} (ok : TreeOK ms) {i : Nat} {sm : MState} {sd : DState} (m : MEnt)
    (inv : Inv ms i sm sd [] (fun _ => 0)) (hhl : HlOK ms i sm)
    (hm : ms[i]? = some m) (hc : m.e.type ≠ "chunk") (hh : m.e.type ≠ "hardlink")
    (hfirst : firstIdx ms m.path = some i)
    (hname : cleanName m.e.name = m.path) :
    ∃ sm' sd', StepSim ms i sm sd m sm' sd' := by
  -- the bucket of the entry is written first
  have inv1 := inv_setNode_fresh inv i (Nat.le_refl _)
    (writeAttr {} (attrOfEntry m.e (if m.e.type = "dir" then 2 else 1)))
  obtain ⟨sm2, sd2, pkm, pkd, hp⟩ := getOrCreateDir_parent ok hm hc inv1 (fun _ => rfl)
  have hdne := hp.ne
  have hnode2 : sd2.nodes (.ent i) = some (writeAttr {} (attr0 ms (.ent i))) := by
    rw [hp.dir.nodesAbove i (Nat.le_refl _)]
    simp [setNode, attr0, hm]
  have inv3 := inv_link_entry ok (parentDir m.path) (baseName m.path) pkm pkd m hp.dir.inv hm hc hh hfirst hp.split
    hp.look hp.dir.canon hp.dir.live hp.dir.isDir hp.dir.rootImp hnode2
  have hlookd : dGetIDByName sd m.path = none := by
    unfold dGetIDByName
    rw [inv.walk_nil]
    rw [look_of_first hdne hfirst, if_neg (Nat.lt_irrefl i)]
  have hcani : canon ms (.ent i) = .ent i := canon_first hm hfirst
  have hdstep : dStep sd i m.e = some
      (if m.e.type = "reg" ∧ m.e.size > 0 then
        addChunk { dSetChild sd2 pkd (baseName m.path) (.ent i) (m.e.type = "dir") with
                   lastEnt := some (.ent i), lastEntSize := m.e.size } (.ent i)
          (dbRow sd.lastEntSize m.e)
       else { dSetChild sd2 pkd (baseName m.path) (.ent i) (m.e.type = "dir") with
              lastEnt := some (.ent i), lastEntSize := m.e.size }) := by
    unfold dStep
    simp only [hname, hc, false_and, ↓reduceIte, hh, hdne, hlookd, ite_self, hp.dir.db, or_false]
    by_cases hreg : m.e.type = "reg" ∧ m.e.size > 0
    · rw [if_pos hreg, if_pos hreg]
      simp only [dbRow, dbChunkSize, hc, false_and, ↓reduceIte]
    · rw [if_neg hreg, if_neg hreg]
  refine ⟨_, _, { mem := hp.pass hh, db := hdstep, inv := ?_, chunks := ?_,
                  hl := hlOK_succ hhl hp.hlSources hp.dir.impsMono }⟩
  · apply inv3.congr_db
    · split <;> rfl
    · split <;> rfl
  · unfold cproj cStep
    simp only [hc, ↓reduceIte, hh, hcani]
    by_cases hreg : m.e.type = "reg" ∧ m.e.size > 0
    · rw [if_pos hreg, if_pos hreg]
      simp only [addChunk, cAppend, dSetChild_chunks, hp.dir.chunks, setNode]
    · rw [if_neg hreg, if_neg hreg]
      simp only [dSetChild_chunks, hp.dir.chunks, setNode]

theorem step_dup {ms : List MEnt} (ok : TreeOK ms) {i f : Nat} {sm : MState} {sd : DState} (m : MEnt)
    (inv : Inv ms i sm sd [] (fun _ => 0)) (hhl : HlOK ms i sm)
    (hm : ms[i]? = some m) (hd : m.e.type = "dir")
    (hfirst : firstIdx ms m.path = some f) (hfi : f < i)
    (hname : cleanName m.e.name = m.path) :
    ∃ sm' sd', StepSim ms i sm sd m sm' sd' := by
  have hc := dir_nonchunk hd
  have hh := dir_nonhardlink hd
  have hnr : m.e.type ≠ "reg" := by rw [hd]; decide
  have hdne : m.path ≠ [] := fun e => ok.noRoot i (e ▸ ⟨m, hm, hc, rfl⟩)
  obtain ⟨mf, hmf, hcf, hpf⟩ := firstIdx_nonChunk hfirst
  obtain ⟨hdf, hsame⟩ := same_name_dir ok hm hmf hc hcf hpf.symm hd
  -- the node exists; writing the same attributes again changes nothing
  have hlookd : look ms i sm.imps m.path = some (.ent f) := by
    rw [look_of_first hdne hfirst, if_pos hfi, resolveKey_nonhardlink ok hmf (dir_nonhardlink hdf)]
  have hwalkd : dGetIDByName sd m.path = some (.ent f) := by
    unfold dGetIDByName
    rw [inv.walk_nil, hlookd]
  obtain ⟨bf, hbf, hbfe, _⟩ := inv.node (.ent f) (look_created ok hlookd)
  have hidem : writeAttr bf (attrOfEntry m.e (readNumLink bf)) = bf := by
    have ha0 : attr0 ms (.ent f) = attrOfEntry mf.e 2 := by simp [attr0, hmf, hdf]
    have := writeAttr_idem bf (attr0 ms (.ent f)) hbfe
    rw [ha0] at this
    rw [attrOfEntry_nl m.e, hsame]
    exact this
  have inv1 : Inv ms i sm (setNode sd (.ent f) bf) [] (fun _ => 0) := by
    refine inv.congr_db (sd' := setNode sd (.ent f) bf) rfl ?_
    funext k
    simp only [setNode]
    by_cases hk : k = .ent f
    · subst hk; simp [hbf]
    · simp [hk]
  obtain ⟨sm2, sd2, pkm, pkd, hp⟩ := getOrCreateDir_parent ok hm hc inv1 (fun _ => rfl)
  have inv3 := inv_relink_dup ok (parentDir m.path) (baseName m.path) pkm pkd m hp.dir.inv hm hd hfirst hfi hp.split
    hp.look hp.dir.canon hp.dir.live hp.dir.isDir hp.dir.rootImp
  have hcani : canon ms (.ent i) = .ent f := canon_of_dir hm hd hfirst
  have hdstep : dStep sd i m.e = some
      { dSetChild sd2 pkd (baseName m.path) (.ent f) true with
        lastEnt := some (.ent f), lastEntSize := m.e.size } := by
    -- the name is found, the bucket is rewritten with the same attributes, then the child is linked again
    unfold dStep
    simp only [hname, hc, false_and, ↓reduceIte, hh, hdne, hwalkd, hbf, or_false, hnr]
    simp only [hd, ↓reduceIte, hidem, hp.dir.db, decide_true]
  refine ⟨_, _, { mem := hp.pass hh, db := hdstep, inv := inv3.congr_db rfl rfl, chunks := ?_,
                  hl := hlOK_succ hhl hp.hlSources hp.dir.impsMono }⟩
  · unfold cproj cStep
    simp only [hc, ↓reduceIte, hh, hcani, hnr, false_and, dSetChild_chunks, hp.dir.chunks, setNode]

theorem inv_bump_org {ms : List MEnt} {i : Nat} {sm : MState} {sd : DState}
    (inv : Inv ms i sm sd [] (fun _ => 0)) (org : Key) (bo : DbAttr) (hbo : sd.nodes org = some bo) :
    Inv ms i sm (setNode sd org (bumpNumLink bo)) [] (fun k => if k = org then 1 else 0) := by
  refine { inv with node := ?_ }
  intro k hk
  obtain ⟨b', h1, h2, h3⟩ := inv.node k hk
  by_cases hko : k = org
  · subst hko
    rw [hbo] at h1; cases h1
    refine ⟨bumpNumLink bo, by simp [setNode], by rw [eraseNL_bump]; exact h2, ?_⟩
    rw [readNumLink_bump, h3]; simp; omega
  · exact ⟨b', by simp [setNode, hko, h1], h2, by rw [h3]; simp [hko]⟩

theorem step_hardlink {ms : List MEnt} (ok : TreeOK ms) {i : Nat}
    {sm : MState} {sd : DState} (m : MEnt)
    (inv : Inv ms i sm sd [] (fun _ => 0)) (hhl : HlOK ms i sm)
    (hm : ms[i]? = some m) (hh : m.e.type = "hardlink")
    (hname : cleanName m.e.name = m.path) :
    ∃ sm' sd', StepSim ms i sm sd m sm' sd' := by
  have hc : m.e.type ≠ "chunk" := by rw [hh]; decide
  obtain ⟨t, ht, hl, mt, hmt, hct, hdt⟩ := hardlink_target ok hm hh
  obtain ⟨r, mr, hr⟩ := resolveKey_spec ok i m hm hc
  have hres : resolveKey ms i = resolveKey ms t := by
    rw [resolveKey_unfold ok hm, if_pos hh]; simp only [hl]
  have hrt : r ≤ t := by
    obtain ⟨r', _, h'⟩ := resolveKey_spec ok t mt hmt hct
    cases (hres.symm.trans hr.key).symm.trans h'.key; exact h'.le
  have hrnd : mr.e.type ≠ "dir" := hr.nondir hh
  have hoc : ∀ imps, Created ms i imps (.ent r) :=
    fun _ => ⟨by omega, mr, hr.get, hr.nonchunk, hr.nonhardlink, (nondir_first_last ok hr.get hr.nonchunk hrnd).1⟩
  have hod : ¬ IsDirKey ms (.ent r) := by
    rintro ⟨m', h1, h2⟩; rw [hr.get] at h1; cases h1; exact hrnd h2
  obtain ⟨bo, hbo, hboe, _⟩ := inv.node (.ent r) (hoc _)
  -- the stored mode of the target is not a directory's
  have hbomode : fmIsDir ((bo.mode.getD 0) % 4294967296) = false := by
    have hmode : (readAttr bo).mode = (attr0 ms (.ent r)).mode := by
      rw [readAttr_eraseNL hboe, readAttr_writeAttr_mode, Nat.mod_eq_of_lt (attr0_mode_lt _ _)]
      split
      · rfl
      · rename_i h; exact (Decidable.not_not.mp h).symm
    show fmIsDir (readAttr bo).mode = false
    rw [hmode]
    simp only [attr0, hr.get, attrOfEntry]
    exact fmIsDir_go_false _ _ hrnd
  have hft : firstIdx ms (cleanName m.e.linkName) = some t := by
    have := (nondir_first_last ok hmt hct hdt).1
    have hp : mt.path = cleanName m.e.linkName := by
      obtain ⟨mt', h1, _, h3⟩ := lastIdx_nonChunk hl
      rw [hmt] at h1; cases h1; exact h3
    rw [hp] at this; exact this
  have hwalkt : dGetIDByName sd (cleanName m.e.linkName) = some (.ent r) := by
    unfold dGetIDByName
    rw [inv.walk_nil]
    have hne : cleanName m.e.linkName ≠ [] := by
      intro e
      have := lastIdx_nonChunk hl
      rw [e] at this; exact ok.noRoot t this
    rw [look_of_first hne hft, if_pos ht, ← hres, hr.key]
  have inv1 := inv_bump_org inv (.ent r) bo hbo
  obtain ⟨sm2, sd2, pkm, pkd, hp⟩ := getOrCreateDir_parent ok hm hc inv1 (fun p => by simp)
  have hdne := hp.ne
  have inv3 := inv_link_hardlink ok (parentDir m.path) (baseName m.path) pkm pkd (.ent r) m hp.dir.inv hm hh hp.split
    hp.look hp.dir.canon hp.dir.live hp.dir.isDir hp.dir.rootImp hr.key (hoc _) hod (canon_of_nondir hr.get hrnd) (lastOf_of_nondir hr.get hrnd)
  have hgs : ∀ s : MState, s.imps = sm2.imps →
      mGetSource ms s (lenM ms s) 0 (.ent i) = some (.ent r) := by
    intro s _
    rw [← hr.key]
    apply mGetSource_ok ok s (lenM ms s) i m hm hc 0
    intro _
    have h1 := countHl_le_total ms i
    have h2 := hl_le_distinct ok
    unfold lenM; omega
  have hkt : keyType ms (.ent r) ≠ "dir" := isDirKey_keyType hod
  have hpass : pass2Step ms sm i m = some (mAddChild ms
      { sm2 with nl := (fun k => if k = Key.ent r then (if k = Key.ent i then sm2.nl k + 1 else sm2.nl k) + 1 else (if k = Key.ent i then sm2.nl k + 1 else sm2.nl k)),
                 hlSources := Key.ent r :: sm2.hlSources }
      pkm (baseName m.path) (Key.ent r)) := by
    unfold pass2Step
    rw [if_neg hc, if_neg hdne]
    simp only [hp.dir.mem, hh, ↓reduceIte]
    rw [hgs { sm2 with nl := fun k => if k = Key.ent i then sm2.nl k + 1 else sm2.nl k } rfl]
    simp only [hkt, ↓reduceIte]
  have hdstep : dStep sd i m.e = some
      { dSetChild sd2 pkd (baseName m.path) (.ent r) false with
        lastEnt := some (.ent r), lastEntSize := m.e.size } := by
    -- the target is found and is no directory: its count is raised and it is linked under the new name
    unfold dStep
    simp [hname, hh, hdne, hwalkt, hbo, hp.dir.db, hbomode]
  refine ⟨_, _, { mem := hpass, db := hdstep, inv := ?_, chunks := ?_, hl := ?_ }⟩
  · exact Inv.set_hl (inv3.congr_db (sd' := { dSetChild sd2 pkd (baseName m.path) (.ent r) false with
      lastEnt := some (.ent r), lastEntSize := m.e.size }) rfl rfl) (Key.ent r :: sm2.hlSources)
  · unfold cproj cStep
    simp [hh, hr.key, dSetChild_chunks, hp.dir.chunks, setNode]
  · intro o ho
    simp only [mAddChild, hp.hlSources, List.mem_cons] at ho
    rcases ho with e | e
    · rw [e]; exact ⟨created_succ (hoc _), hod⟩
    · exact ⟨created_succ (created_mono_imps hp.dir.impsMono (hhl o e).1), (hhl o e).2⟩

theorem step_chunk {ms : List MEnt} {i : Nat} {sm : MState} {sd : DState} (m : MEnt)
    (inv : Inv ms i sm sd [] (fun _ => 0)) (hhl : HlOK ms i sm)
    (hm : ms[i]? = some m) (hc : m.e.type = "chunk") (hlast : sd.lastEnt.isSome) :
    ∃ sd', StepSim ms i sm sd m sm sd' := by
  have hno : ∀ p, ¬ NonChunkAt ms i p := by
    rintro p ⟨m', hm', h2, _⟩; rw [hm] at hm'; cases hm'; exact h2 hc
  have hnf : ∀ p, firstIdx ms p ≠ some i := fun p h => hno p (firstIdx_nonChunk h)
  have hcr : ∀ k, Created ms (i + 1) sm.imps k ↔ Created ms i sm.imps k := created_succ_same hm (.inl hc)
  have hpo : ∀ k, Created ms i sm.imps k → pendOwn ms (i + 1) k = pendOwn ms i k := by
    intro k hk
    apply pendOwn_step
    intro e
    cases k with
    | root => simp [lastOf] at e
    | imp p => simp [lastOf] at e
    | ent f =>
      obtain ⟨hfi, mf, hmf, _, _, _⟩ := hk
      by_cases hd : mf.e.type = "dir"
      · obtain ⟨L, hL, _⟩ := dir_last hmf hd
        rw [lastOf_of_dir hmf hd hL] at e
        cases e
        exact hno _ (lastIdx_nonChunk hL)
      · rw [lastOf_of_nondir hmf hd] at e
        cases e; omega
  have inv' : Inv ms (i + 1) sm sd [] (fun _ => 0) := by
    refine { inv with
             walk := ?_, node := ?_, noKids := ?_, freshNl := ?_,
             kidsCreated := fun k kv hkv => (hcr _).mpr (inv.kidsCreated k kv hkv) }
    · intro p; rw [inv.walk p, look_succ_ne i _ _ (hnf p)]
    · intro k hk
      obtain ⟨b, h1, h2, h3⟩ := inv.node k ((hcr k).mp hk)
      exact ⟨b, h1, h2, by rw [h3, hpo k ((hcr k).mp hk)]⟩
    · intro k hk; exact inv.noKids k (fun ⟨h1, h2⟩ => hk ⟨(hcr k).mpr h1, h2⟩)
    · intro j hf; exact inv.freshNl j (hf.mono (Nat.le_succ i))
  obtain ⟨k, hk⟩ := Option.isSome_iff_exists.mp hlast
  have hdstep : dStep sd i m.e = some
      (if dbChunkSize sd.lastEntSize m.e > 0 then addChunk sd k (dbRow sd.lastEntSize m.e) else sd) := by
    unfold dStep
    simp [hc, hk, dbRow, dbChunkSize]
    exact (apply_ite some _ _ _).symm
  refine ⟨_, { mem := by unfold pass2Step; rw [if_pos hc], db := hdstep, inv := ?_, chunks := ?_,
               hl := hlOK_succ hhl rfl (fun _ h => h) }⟩
  · apply inv'.congr_db <;> (split <;> rfl)
  · unfold cproj cStep
    simp [hc, hk]
    split <;> simp [addChunk, cAppend, hk]

/-! ## The run -/

/-- the two stores after the entries `< i` of `es` -/
structure At (es : List Entry) (i : Nat) (sm : MState) (sd : DState) : Prop where
  inv : Inv (pass1 es) i sm sd [] (fun _ => 0)
  chunks : cproj sd = cRun (pass1 es) es i
  last : HasEntry (pass1 es) i → sd.lastEnt.isSome
  hl : HlOK (pass1 es) i sm

theorem step_sim {es : List Entry} (sc : SpecConformingR es) {i : Nat} {sm : MState} {sd : DState}
    (hlt : i < es.length) (a : At es i sm sd) :
    ∃ sm' sd', pass2Step (pass1 es) sm i ((pass1 es)[i]'(pass1_length es ▸ hlt)) = some sm' ∧
      dStep sd i es[i] = some sd' ∧ At es (i + 1) sm' sd' := by
  have ok := spec_treeOK sc
  have hltm : i < (pass1 es).length := pass1_length es ▸ hlt
  have hm : (pass1 es)[i]? = some (pass1 es)[i] := List.getElem?_eq_getElem hltm
  have hname := (pass1_getElem es i _ hm).2
  obtain ⟨_, hee⟩ := pass1_entry hm
  have hstep : ∃ sm' sd', StepSim (pass1 es) i sm sd (pass1 es)[i] sm' sd' := by
    by_cases hc : ((pass1 es)[i]).e.type = "chunk"
    · exact ⟨sm, step_chunk _ a.inv a.hl hm hc (a.last (chunk_after_nonchunk sc i _ hm hc))⟩
    · by_cases hh : ((pass1 es)[i]).e.type = "hardlink"
      · exact step_hardlink ok _ a.inv a.hl hm hh (hname hc).symm
      · obtain ⟨f, hf, hfi⟩ := firstIdx_le (⟨_, hm, hc, rfl⟩ : NonChunkAt (pass1 es) i ((pass1 es)[i]).path)
        by_cases hfe : f = i
        · subst hfe
          exact step_plain ok _ a.inv a.hl hm hc hh hf (hname hc).symm
        · have hd : ((pass1 es)[i]).e.type = "dir" := by
            obtain ⟨mf, hmf, hcf, hpf⟩ := firstIdx_nonChunk hf
            rcases ok.names i f _ mf hm hmf hc hcf hpf.symm with e | ⟨h1, _⟩
            · exact absurd e.symm hfe
            · exact h1
          exact step_dup ok _ a.inv a.hl hm hd hf (by omega) (hname hc).symm
  obtain ⟨sm', sd', h⟩ := hstep
  refine ⟨sm', sd', h.mem, hee ▸ h.db, h.inv, ?_, ?_, h.hl⟩
  · rw [cRun_succ _ _ _ hlt, ← a.chunks, hee]; exact h.chunks
  · intro _
    show (cproj sd').lastEnt.isSome
    rw [h.chunks]
    apply cStep_lastEnt
    by_cases hc : ((pass1 es)[i]).e.type = "chunk"
    · exact .inl (a.last (chunk_after_nonchunk sc i _ hm hc))
    · exact .inr hc

/-- both interpreters run from entry `i` in `sm`, `sd` through the rest of the TOC and end in `smF`, `sdF` -/
structure Ran (es : List Entry) (i : Nat) (sm : MState) (sd : DState) (smF : MState) (sdF : DState) : Prop
    extends At es es.length smF sdF where
  mem : pass2 (pass1 es) (enumFrom' i ((pass1 es).drop i)) sm = some smF
  db : dRun (enumFrom' i (es.drop i)) sd = .inl sdF

theorem run_sim {es : List Entry} (sc : SpecConformingR es) :
    ∀ (d i : Nat) (sm : MState) (sd : DState), i + d = es.length → At es i sm sd →
      ∃ smF sdF, Ran es i sm sd smF sdF := by
  intro d
  induction d with
  | zero =>
    intro i sm sd hd a
    obtain rfl : i = es.length := hd
    refine ⟨sm, sd, { a with mem := ?_, db := ?_ }⟩
    · rw [enum_drop_nil _ _ (Nat.le_of_eq (pass1_length es))]; rfl
    · rw [enum_drop_nil _ _ (Nat.le_refl _)]; rfl
  | succ d ih =>
    intro i sm sd hd a
    have hlt : i < es.length := by omega
    obtain ⟨sm', sd', h1, h2, a'⟩ := step_sim sc hlt a
    obtain ⟨smF, sdF, r⟩ := ih (i + 1) sm' sd' (by omega) a'
    exact ⟨smF, sdF, { r with mem := by rw [enum_drop _ _ (pass1_length es ▸ hlt)]; simp only [pass2, h1]; exact r.mem,
                              db := by rw [enum_drop _ _ hlt]; simp only [dRun, h2]; exact r.db }⟩

end SV.Toc.R
