/-
Lemmas for C04 (`SV/Model/Hostile.lean`).  `Safe P x`: `x` is not a panic and what it returns satisfies `P`; a model
function is taken apart with `iteInduction` at a test, `Safe.bind` at a `>>=`, `Safe.elim` at a bind written as a `match`.
Then footers (`safe_gzipFooter` ..); `int64` arithmetic, on which `Open` (`RunOK`, `openBlob_spec`) and `ReadAt`
(`ReadOK`, `budget`, `readLoop_spec`) stand; hardlinks (`safe_getSource`), used by the tree (`TreeInv`,
`safe_initTree`, `initTree_edges`, `chain_length`).
-/
import SV.Model.Hostile

namespace SV.Hostile

/-! ### `Safe` -/

@[simp] theorem ok_bind {α β : Type} (a : α) (f : α → Outcome β) : (Outcome.ok a >>= f) = f a := rfl
@[simp] theorem err_bind {α β : Type} (f : α → Outcome β) : ((Outcome.err : Outcome α) >>= f) = Outcome.err := rfl
@[simp] theorem panic_bind {α β : Type} (f : α → Outcome β) : ((Outcome.panic : Outcome α) >>= f) = Outcome.panic := rfl
@[simp] theorem pure_eq_ok {α : Type} (a : α) : (pure a : Outcome α) = Outcome.ok a := rfl

def Safe {α : Type} (P : α → Prop) : Outcome α → Prop
  | Outcome.ok a => P a
  | Outcome.err => True
  | Outcome.panic => False

theorem ok_ne_panic {α : Type} {a : α} : Outcome.ok a ≠ Outcome.panic := nofun

namespace Safe
variable {α β : Type} {P Q : α → Prop} {x : Outcome α}

theorem ne_panic (h : Safe P x) : x ≠ Outcome.panic := by
  intro hx; rw [hx] at h; exact h

theorem of_ok {a : α} (h : Safe P x) (hx : x = Outcome.ok a) : P a := by
  rw [hx] at h; exact h

theorem imp (h : Safe P x) (hPQ : ∀ a, P a → Q a) : Safe Q x := by
  cases x with
  | ok a => exact hPQ a h
  | err => trivial
  | panic => exact h

@[elab_as_elim] theorem elim {motive : Outcome α → Prop} (hx : Safe Q x)
    (ok : ∀ a, Q a → motive (Outcome.ok a)) (err : motive Outcome.err) : motive x := by
  cases x with
  | ok a => exact ok a hx
  | err => exact err
  | panic => exact hx.elim

theorem bind {R : β → Prop} {f : α → Outcome β} (hx : Safe Q x) (hf : ∀ a, Q a → Safe R (f a)) :
    Safe R (x >>= f) :=
  hx.elim hf trivial

end Safe

/-! ### Footer parsers -/

theorem sliceB_length (bs : List UInt8) (lo hi : Nat) (h1 : lo ≤ hi) (h2 : hi ≤ bs.length) :
    ((bs.drop lo).take (hi - lo)).length = hi - lo := by
  rw [List.length_take, List.length_drop]; omega

theorem safe_sliceB {bs : List UInt8} {lo hi : Nat} (h1 : lo ≤ hi) (h2 : hi ≤ bs.length) :
    Safe (fun r => r.length = hi - lo) (sliceB bs lo hi) := by
  unfold sliceB
  rw [if_pos ⟨h1, h2⟩]
  exact sliceB_length bs lo hi h1 h2

theorem safe_indexB {bs : List UInt8} {i : Nat} (h : i < bs.length) : Safe (fun _ => True) (indexB bs i) := by
  unfold indexB
  rw [List.getElem?_eq_getElem h]
  trivial

theorem safe_le16 {b : List UInt8} (h : b.length = 2) : Safe (fun _ => True) (le16 b) :=
  (safe_indexB (by omega)).bind fun _ _ => (safe_indexB (by omega)).bind fun _ _ => trivial

/-- The end of `gzipFooter` and `legacyFooter` in the model, term for term; a negative offset is refused since
18babb7.  The `safe_*Footer` proofs apply this and `subfield` through defeq: edit model and copy together. -/
def offsetTail (sub : List UInt8) : Outcome Footer := do
  let magic ← sliceB sub 16 sub.length
  if magic ≠ stargzMagic then Outcome.err else do
  let hex ← sliceB sub 0 16
  match parseIntHex64 hex with
  | none => Outcome.err
  | some off => if off < 0 then Outcome.err else Outcome.ok ⟨off, off, 0⟩

/-- The FEXTRA payload as `gzipFooter` and `extFooter` of the model take it apart, term for term up to `k`. -/
def subfield (hdr : Option (List UInt8)) (k : Nat → List UInt8 → Outcome Footer) : Outcome Footer :=
  match hdr with
  | none => Outcome.err
  | some extra =>
    if extra.length < 4 then Outcome.err else do
    let si1 ← indexB extra 0
    let si2 ← indexB extra 1
    let sl ← sliceB extra 2 4
    let sub ← sliceB extra 4 extra.length
    if si1 ≠ 83 ∨ si2 ≠ 71 then Outcome.err else do
    let slen ← le16 sl
    k slen sub

theorem safe_offsetTail {sub : List UInt8} (h : sub.length = 22) :
    Safe (fun f : Footer => 0 ≤ f.tocOffset) (offsetTail sub) := by
  refine (safe_sliceB (by omega) (Nat.le_refl _)).bind fun magic _ => iteInduction (fun _ => trivial) fun _ => ?_
  refine (safe_sliceB (by omega) (by omega)).bind fun hex _ => ?_
  cases parseIntHex64 hex with
  | none => trivial
  | some off => exact iteInduction (fun _ => trivial) fun h => Int.not_lt.mp h

theorem safe_subfield {P : Footer → Prop} (hdr : Option (List UInt8)) {k : Nat → List UInt8 → Outcome Footer}
    (hk : ∀ slen sub, Safe P (k slen sub)) : Safe P (subfield hdr k) := by
  cases hdr with
  | none => trivial
  | some extra =>
    refine iteInduction (fun _ => trivial) fun h4 => ?_
    refine (safe_indexB (by omega)).bind fun si1 _ => (safe_indexB (by omega)).bind fun si2 _ => ?_
    refine (safe_sliceB (by omega) (by omega)).bind fun sl hsl => ?_
    refine (safe_sliceB (by omega) (Nat.le_refl _)).bind fun sub _ => iteInduction (fun _ => trivial) fun _ => ?_
    exact (safe_le16 hsl).bind fun slen _ => hk slen sub

theorem safe_legacyFooter (len : Nat) (hdr : Option (List UInt8)) :
    Safe (fun f => 0 ≤ f.tocOffset) (legacyFooter len hdr) := by
  unfold legacyFooter
  refine iteInduction (fun _ => trivial) fun _ => ?_
  cases hdr with
  | none => trivial
  | some extra => exact iteInduction (fun _ => trivial) fun h => safe_offsetTail (Decidable.not_not.mp h)

theorem safe_gzipFooter (len : Nat) (hdr : Option (List UInt8)) :
    Safe (fun f => 0 ≤ f.tocOffset) (gzipFooter len hdr) := by
  unfold gzipFooter
  refine iteInduction (fun _ => trivial) fun _ => safe_subfield hdr fun slen sub => ?_
  refine iteInduction (fun _ => trivial) fun _ => iteInduction (fun _ => trivial) fun h22 => ?_
  exact safe_offsetTail (Decidable.not_not.mp h22)

theorem safe_extFooter (len : Nat) (hdr : Option (List UInt8)) : Safe (fun _ => True) (extFooter len hdr) := by
  unfold extFooter
  refine iteInduction (fun _ => trivial) fun _ => safe_subfield hdr fun slen sub => ?_
  exact iteInduction (fun _ => trivial) fun _ => iteInduction (fun _ => trivial) fun _ => trivial

theorem safe_zstdFooter (p : List UInt8) : Safe (fun _ => True) (zstdFooter p) := by
  unfold zstdFooter
  refine iteInduction (fun _ => trivial) fun h => ?_
  have h40 : p.length = 40 := Decidable.not_not.mp h
  refine (safe_sliceB (by omega) (by omega)).bind fun a _ => (safe_sliceB (by omega) (by omega)).bind fun b _ => ?_
  exact (safe_sliceB (by omega) (by omega)).bind fun m _ => iteInduction (fun _ => trivial) fun _ => trivial

/-! ### `int64` arithmetic -/

def I64 (x : Int) : Prop := -9223372036854775808 ≤ x ∧ x < 9223372036854775808

theorem wrap64_id {x : Int} (h : I64 x) : wrap64 x = x := by
  unfold wrap64; unfold I64 at h; omega

theorem wrap64_range (x : Int) : I64 (wrap64 x) := by
  unfold wrap64 I64; omega

/-- `wrap64` is reduction modulo `2^64`, so wrapping an operand first changes nothing. -/
theorem wrap64_sub_left (a b : Int) : wrap64 (wrap64 a - b) = wrap64 (a - b) := by
  unfold wrap64; omega

theorem wrap64_sub_right (a b : Int) : wrap64 (a - wrap64 b) = wrap64 (a - b) := by
  unfold wrap64; omega

theorem wrap64_add_nonneg {a b : Int} (ha : I64 a) (hb0 : 0 ≤ b) (hb : b < 9223372036854775808)
    (h : 0 ≤ wrap64 (a + b)) : wrap64 (a + b) = a + b := by
  unfold wrap64 at *; unfold I64 at ha; omega

theorem positive_eq (x : Int) : positive x = if x < 0 then 0 else x := rfl

theorem positive_nonneg (x : Int) : 0 ≤ positive x := by
  rw [positive_eq]; split <;> omega

theorem positive_le {x y : Int} (h0 : 0 ≤ y) (h : x ≤ y) : positive x ≤ y := by
  rw [positive_eq]; split <;> omega

theorem slice?_ok {lo hi cap : Int} (h0 : 0 ≤ lo) (h1 : lo ≤ hi) (h2 : hi ≤ cap) :
    slice? lo hi cap = Outcome.ok () := if_pos ⟨h0, h1, h2⟩

theorem make?_ok {n : Int} (h : 0 ≤ n) : make? n = Outcome.ok () := if_pos h

/-! ### `Open` -/

/-- A registered decompressor whose numbers fit `int64` and whose footer size is not negative. -/
def DecOK (d : Dec) : Prop :=
  0 ≤ d.fSize ∧ d.fSize < 9223372036854775808 ∧ ∀ a b, d.footer = some (a, b) → I64 a ∧ I64 b

def AllocsWithin (size : Int) (evs : List Ev) : Prop := ∀ n, Ev.alloc n ∈ evs → 0 ≤ n ∧ n ≤ size

theorem allocsWithin_nil (size : Int) : AllocsWithin size [] := fun _ h => absurd h List.not_mem_nil

theorem allocsWithin_append {size : Int} {a b : List Ev} (ha : AllocsWithin size a) (hb : AllocsWithin size b) :
    AllocsWithin size (a ++ b) :=
  fun n h => (List.mem_append.mp h).elim (ha n) (hb n)

theorem allocsWithin_cons {size : Int} {e : Ev} {l : List Ev} (he : ∀ n, e = Ev.alloc n → 0 ≤ n ∧ n ≤ size)
    (hl : AllocsWithin size l) : AllocsWithin size (e :: l) :=
  fun n h => (List.mem_cons.mp h).elim (fun h => he n h.symm) (hl n)

theorem allocsWithin_secRead (size size' off len : Int) : AllocsWithin size (secRead size' off len).1 := by
  unfold secRead
  split
  · exact allocsWithin_nil _
  · split <;> exact allocsWithin_cons nofun (allocsWithin_nil _)

theorem maxFooterSize_bounds (size : Int) (ds : List Dec) (res : Int) (h0 : 0 ≤ res) (h1 : res ≤ size) :
    0 ≤ maxFooterSize size ds res ∧ maxFooterSize size ds res ≤ size := by
  induction ds generalizing res with
  | nil => exact ⟨h0, h1⟩
  | cons d ds ih =>
    unfold maxFooterSize
    split
    · exact ih _ (by omega) (by omega)
    · exact ih _ h0 h1

def RunOK {α : Type} (size : Int) (r : List Ev × Outcome α) : Prop :=
  r.2 ≠ Outcome.panic ∧ AllocsWithin size r.1

theorem parseTOC_spec (size : Int) (d : Dec) (tocOff tocSize mlen : Int)
    (h : 0 ≤ tocOff → 0 ≤ tocSize ∧ tocSize ≤ size) : RunOK size (parseTOC size d tocOff tocSize mlen) := by
  unfold parseTOC
  refine iteInduction (fun _ => ⟨ok_ne_panic, allocsWithin_cons nofun (allocsWithin_nil _)⟩) fun hoff => ?_
  have hsz := h (by omega)
  have hfirst : AllocsWithin size (if mlen > 0 then [Ev.toc (some mlen)] else []) := by
    split
    · exact allocsWithin_cons nofun (allocsWithin_nil _)
    · exact allocsWithin_nil _
  have hbody := allocsWithin_append hfirst
    (allocsWithin_cons (fun n hn => Ev.alloc.inj hn ▸ hsz) (allocsWithin_secRead size size tocOff tocSize))
  refine iteInduction (fun _ => ⟨ok_ne_panic, hfirst⟩) fun _ => ?_
  rw [make?_ok hsz.1]
  refine iteInduction (fun _ => ⟨ok_ne_panic, hbody⟩) fun _ => ?_
  exact ⟨ok_ne_panic, allocsWithin_append hbody (allocsWithin_cons nofun (allocsWithin_nil _))⟩

section
variable {size : Int} (hs : 0 ≤ size) (hs2 : size < 9223372036854775808)
include hs hs2

theorem tryDec_spec {footerLen : Int} (d : Dec) (hf : 0 ≤ footerLen) (hf2 : footerLen ≤ size) (hd : DecOK d) :
    RunOK size (tryDec size footerLen d) := by
  obtain ⟨hfs0, hfs1, hft⟩ := hd
  unfold tryDec
  extract_lets fOffset
  have hfo0 : 0 ≤ fOffset := positive_nonneg _
  have hfo1 : fOffset ≤ footerLen := positive_le hf (by rw [wrap64_id ⟨by omega, by omega⟩]; omega)
  clear_value fOffset
  rw [slice?_ok (Int.le_refl 0) hfo0 hfo1, slice?_ok hfo0 hfo1 (Int.le_refl _)]
  cases hfoot : d.footer with
  | none => exact ⟨ok_ne_panic, allocsWithin_nil _⟩
  | some pr =>
    obtain ⟨tocOffset, tocSize0⟩ := pr
    dsimp -zeta only
    extract_lets tocSize cut
    obtain ⟨ht0, ht1⟩ : I64 tocSize := by
      unfold tocSize; split
      · exact wrap64_range _
      · exact (hft _ _ hfoot).2
    clear_value tocSize
    refine iteInduction (fun _ => ⟨ok_ne_panic, allocsWithin_nil _⟩) fun hrej => ?_
    -- once both tests have passed on `int64`s the TOC lies inside the blob
    have hacc : 0 ≤ tocOffset → 0 ≤ tocSize ∧ tocSize ≤ size := by
      intro h0
      have hn1 : ¬ tocSize < 0 := fun h => hrej ⟨h0, Or.inl h⟩
      have hn2 : ¬ tocOffset > wrap64 (size - tocSize) := fun h => hrej ⟨h0, Or.inr h⟩
      rw [wrap64_id ⟨by omega, by omega⟩] at hn2
      omega
    have hcut : (if cut then slice? 0 tocSize fOffset else Outcome.ok ()) = Outcome.ok () := by
      split
      · rename_i hc
        exact slice?_ok (Int.le_refl 0) (hacc hc.1).1 (Int.le_of_lt hc.2)
      · rfl
    rw [hcut]
    exact parseTOC_spec size d tocOffset tocSize _ hacc

theorem openLoop_spec {footerLen : Int} (ds : List Dec) (evs : List Ev) (hf : 0 ≤ footerLen) (hf2 : footerLen ≤ size)
    (hd : ∀ d ∈ ds, DecOK d) (hev : AllocsWithin size evs) : RunOK size (openLoop size footerLen ds evs) := by
  induction ds generalizing evs with
  | nil => exact ⟨nofun, hev⟩
  | cons d ds ih =>
    have hsp := tryDec_spec hs hs2 d hf hf2 (hd d (List.mem_cons_self ..))
    unfold openLoop
    generalize tryDec size footerLen d = r at hsp ⊢
    obtain ⟨e, r⟩ := r
    have hall : AllocsWithin size (evs ++ e) := allocsWithin_append hev hsp.2
    cases r with
    | ok st =>
      cases st with
      | found => exact ⟨ok_ne_panic, hall⟩
      | next => exact ih (evs ++ e) (fun d' h' => hd d' (List.mem_cons_of_mem _ h')) hall
    | err => exact ⟨nofun, hall⟩
    | panic => exact absurd rfl hsp.1

theorem openBlob_spec (optTocOff : Int) (ds : List Dec) (hd : ∀ d ∈ ds, DecOK d) :
    RunOK size (openBlob size optTocOff ds) := by
  unfold openBlob
  extract_lets fetch0 fetchSize
  obtain ⟨hm0, hm1⟩ : 0 ≤ fetch0 ∧ fetch0 ≤ size := maxFooterSize_bounds size ds 0 (Int.le_refl 0) hs
  clear_value fetch0
  refine iteInduction (fun _ => ⟨nofun, allocsWithin_nil _⟩) fun hrej => ?_
  have hfb : 0 ≤ fetchSize ∧ fetchSize ≤ size := by
    unfold fetchSize; split
    · rw [wrap64_id ⟨by omega, by omega⟩]; omega
    · omega
  clear_value fetchSize
  rw [make?_ok hfb.1, wrap64_id ⟨by omega, by omega⟩]
  have hev : AllocsWithin size (Ev.alloc fetchSize :: (secRead size (size - fetchSize) fetchSize).1) :=
    allocsWithin_cons (fun n hn => Ev.alloc.inj hn ▸ hfb) (allocsWithin_secRead size size _ _)
  exact iteInduction (fun _ => ⟨nofun, hev⟩) fun _ => openLoop_spec hs hs2 ds _ hfb.1 hfb.2 hd hev

end

/-! ### Hardlink resolution -/

theorem getSourceLoop_succ (m : List Ent) (f i : Nat) (e : Ent) :
    getSourceLoop m (f + 1) i e =
      if e.type ≠ EType.hardlink then Outcome.ok e
      else if i > m.length then Outcome.err
      else match lookup m e.link with
        | none => Outcome.err
        | some org => getSourceLoop m f (i + 1) org := rfl

theorem safe_getSourceLoop (m : List Ent) (fuel i : Nat) (e : Ent) :
    Safe (fun r => r.type ≠ EType.hardlink ∧ (r = e ∨ ∃ n, lookup m n = some r)) (getSourceLoop m fuel i e) := by
  induction fuel generalizing i e with
  | zero => trivial
  | succ f ih =>
    rw [getSourceLoop_succ]
    refine iteInduction (fun h => ⟨h, Or.inl rfl⟩) fun _ => iteInduction (fun _ => trivial) fun _ => ?_
    cases hl : lookup m e.link with
    | none => trivial
    | some org =>
      refine (ih (i + 1) org).imp fun r hr => ⟨hr.1, Or.inr ?_⟩
      rcases hr.2 with h | h
      · exact ⟨e.link, h ▸ hl⟩
      · exact h

theorem safe_getSource (m : List Ent) (e : Ent) :
    Safe (fun r => r.type ≠ EType.hardlink ∧ (r = e ∨ ∃ n, lookup m n = some r)) (getSource m e) :=
  safe_getSourceLoop m _ 0 e

/-- Fuel beyond the loop bound of the Go code (`i > len(r.m)`) changes nothing. -/
theorem getSourceLoop_fuel (m : List Ent) (f i : Nat) (e : Ent) (k : Nat) (h : m.length + 1 ≤ f + i) :
    getSourceLoop m (f + 1 + k) i e = getSourceLoop m (f + 1) i e := by
  induction f generalizing i e with
  | zero =>
    have hi : i > m.length := by omega
    rw [Nat.add_right_comm, getSourceLoop_succ, getSourceLoop_succ, if_pos hi, if_pos hi]
  | succ f ih =>
    rw [Nat.add_right_comm, getSourceLoop_succ, getSourceLoop_succ m (f + 1)]
    cases lookup m e.link with
    | none => rfl
    | some org => simp only [ih (i + 1) org (by omega)]

theorem getSource_fuel_sufficient (m : List Ent) (e : Ent) (k : Nat) :
    getSourceLoop m (m.length + 3 + k) 0 e = getSource m e :=
  getSourceLoop_fuel m (m.length + 2) 0 e k (by omega)

/-! ### Entry tree -/

theorem forall_mem_addEdge {P : Edge → Prop} {es : List Edge} {e : Edge} (hes : ∀ x ∈ es, P x) (he : P e) :
    ∀ x ∈ addEdge es e, P x := by
  intro x hx
  rcases List.mem_cons.mp hx with hx | hx
  · exact hx ▸ he
  · exact hes x (List.mem_filter.mp hx).1

/-- A child edge leads one component deeper, or to a hardlink source that is no directory.  Once the sources are
known to be childless this gives `Downward`, and dropping the source gives `EdgeOK` (`initTree_edges`). -/
def EdgeInv (srcs : List Name) (e : Edge) : Prop :=
  e.target = e.base :: e.parent ∨ (e.target ∈ srcs ∧ e.ttype ≠ EType.dir)

theorem EdgeInv.mono {srcs : List Name} {e : Edge} (h : EdgeInv srcs e) (s : Name) : EdgeInv (s :: srcs) e :=
  h.imp id (And.imp_left (List.mem_cons_of_mem s))

/-- Invariant of the second loop of `initFields`. -/
def TreeInv (t : Tree) : Prop := ∀ e ∈ t.edges, EdgeInv t.sources e

theorem getOrCreateDir_inv (n : Name) {t : Tree} (h : TreeInv t) : TreeInv (getOrCreateDir t n) := by
  induction n generalizing t with
  | nil => unfold getOrCreateDir; split <;> exact h
  | cons b p ih =>
    unfold getOrCreateDir
    split
    · exact h
    · exact forall_mem_addEdge (ih (t := { t with m := _ }) h) (Or.inl rfl)

theorem safe_treeStep {t : Tree} (h : TreeInv t) (e : Ent) : Safe TreeInv (treeStep t e) := by
  unfold treeStep
  refine iteInduction (fun _ => h) fun _ => ?_
  cases e.name with
  | nil => exact h
  | cons base pdir =>
    have h1 := getOrCreateDir_inv pdir h
    refine iteInduction (fun _ => ?_) fun _ => forall_mem_addEdge h1 (Or.inl rfl)
    refine (safe_getSource (getOrCreateDir t pdir).m e).elim (fun org _ => ?_) trivial
    exact iteInduction (fun _ => trivial) fun hd =>
      forall_mem_addEdge (fun x hx => (h1 x hx).mono _) (Or.inr ⟨List.mem_cons_self .., hd⟩)

theorem safe_treeLoop (ents : List Ent) {t : Tree} (h : TreeInv t) : Safe TreeInv (treeLoop ents t) := by
  induction ents generalizing t with
  | nil => exact h
  | cons e es ih => unfold treeLoop; exact (safe_treeStep h e).elim (fun _ h' => ih h') trivial

theorem safe_initTree (ents : List Ent) :
    Safe (fun t => TreeInv t ∧ ∀ s ∈ t.sources, hasChild t.edges s = false) (initTree ents) := by
  unfold initTree
  refine (safe_treeLoop ents (fun _ he => absurd he List.not_mem_nil)).elim (fun t ht => ?_) trivial
  refine iteInduction (fun _ => trivial) fun hany => ⟨ht, ?_⟩
  intro s hs
  cases hc : hasChild t.edges s with
  | false => rfl
  | true => exact absurd (List.any_eq_true.mpr ⟨s, hs, hc⟩) hany

inductive Chain (es : List Edge) : Name → Name → Nat → Prop where
  | nil (n : Name) : Chain es n n 0
  | step {a b : Name} {k : Nat} (e : Edge) : Chain es a b k → e ∈ es → e.parent = b →
      Chain es a e.target (k + 1)

theorem hasChild_of_mem {es : List Edge} {e : Edge} (h : e ∈ es) : hasChild es e.parent = true :=
  List.any_eq_true.mpr ⟨e, h, decide_eq_true rfl⟩

def Downward (es : List Edge) (e : Edge) : Prop := e.target = e.base :: e.parent ∨ hasChild es e.target = false

theorem chain_length {es : List Edge} (hes : ∀ e ∈ es, Downward es e) {a b : Name} {k : Nat} (h : Chain es a b k)
    (hb : hasChild es b = true) : b.length = a.length + k := by
  induction h with
  | nil => rfl
  | step e _ hm hp ih =>
    rcases hes e hm with h1 | h1
    · rw [h1, List.length_cons, hp, ih (hp ▸ hasChild_of_mem hm)]; rfl
    · rw [h1] at hb; exact Bool.noConfusion hb

theorem chain_start_hasChild {es : List Edge} {a b : Name} {k : Nat} (h : Chain es a b (k + 1)) :
    hasChild es a = true := by
  generalize hk : k + 1 = k' at h
  induction h generalizing k with
  | nil => omega
  | step e hc hm hp ih =>
    cases hc with
    | nil => exact hp ▸ hasChild_of_mem hm
    | step => exact ih rfl

/- A walker that descends into directories only: `EdgeOK` on every edge bounds its depth, with no condition
on the end of the walk. -/

def EdgeOK (e : Edge) : Prop := e.target = e.base :: e.parent ∨ e.ttype ≠ EType.dir

def EdgesOK (es : List Edge) : Prop := ∀ e ∈ es, EdgeOK e

inductive DirChain (es : List Edge) : Name → Name → Nat → Prop where
  | nil (n : Name) : DirChain es n n 0
  | step {a b : Name} {k : Nat} (e : Edge) : DirChain es a b k → e ∈ es → e.parent = b →
      e.ttype = EType.dir → DirChain es a e.target (k + 1)

theorem dirChain_length {es : List Edge} (hes : EdgesOK es) {a b : Name} {k : Nat} (h : DirChain es a b k) :
    b.length = a.length + k := by
  induction h with
  | nil => rfl
  | step e _ hm hp ht ih =>
    rcases hes e hm with h1 | h1
    · rw [h1, List.length_cons, hp, ih]; rfl
    · exact absurd ht h1

theorem initTree_edges {ents : List Ent} {t : Tree} (h : initTree ents = Outcome.ok t) :
    ∀ e ∈ t.edges, Downward t.edges e ∧ EdgeOK e := by
  obtain ⟨hinv, hsrc⟩ := (safe_initTree ents).of_ok h
  exact fun e he => ⟨(hinv e he).imp id fun hs => hsrc _ hs.1, (hinv e he).imp id And.right⟩

/-! ### `file.ReadAt` -/

/-- What is left to assume about a chunk triple since `chunkContains` (95288ee) checks the rest:
the numbers are `int64`s (they are, in Go) and the size is one the process is able to allocate. -/
structure ChunkSane (bound : Int) (c : Chunk) : Prop where
  co64 : I64 c.co
  cs64 : I64 c.cs
  grow : c.cs ≤ bound

theorem clampN_spec (n : Int) {len : Int} (h : 0 < len) :
    0 ≤ clampN n len ∧ clampN n len ≤ len ∧ (0 < n → 0 < clampN n len) := by
  unfold clampN; split
  · omega
  · split <;> omega

theorem hitRes_spec (c : Chunk) (nr expected lenP : Int) (hnr : 0 ≤ nr) (he0 : 0 < expected)
    (he1 : expected ≤ lenP - nr) :
    hitRes c nr expected lenP = Outcome.ok none ∨ hitRes c nr expected lenP = Outcome.ok (some expected) := by
  unfold hitRes
  by_cases h1 : c.hit < 0
  · exact Or.inl (if_pos h1)
  · rw [if_neg h1, slice?_ok hnr (by omega) (by omega)]
    by_cases h2 : clampN c.hit expected = expected
    · exact Or.inr (if_pos h2)
    · exact Or.inl (if_neg h2)

theorem chunkContains_true {co cs pos : Int} (h : chunkContains co cs pos = true) :
    cs > 0 ∧ co ≥ 0 ∧ cs ≤ 9223372036854775807 - co ∧ co ≤ pos ∧ pos - co < cs :=
  of_decide_eq_true h

/-- Once the chunk contains the current position `off + nr` nothing in the discards wraps: they
have their mathematical values, whatever `int64`s the offset, the length and the chunk are. -/
theorem discards_exact (lenP off nr : Int) (c : Chunk) (hoff : I64 off) (hnr : 0 ≤ nr) (hnr2 : nr < lenP)
    (hl : lenP < 9223372036854775808) (hg : chunkContains c.co c.cs (wrap64 (off + nr)) = true) :
    lowerOf off c = positive (off - c.co) ∧
      upperOf lenP off c = positive (c.co + c.cs - (off + lenP)) ∧
      expectedOf c (lowerOf off c) (upperOf lenP off c) = c.cs - upperOf lenP off c - lowerOf off c := by
  obtain ⟨g1, g2, g3, g4, g5⟩ := chunkContains_true hg
  have hw := wrap64_add_nonneg hoff hnr (by omega) (Int.le_trans g2 g4)
  rw [hw] at g4 g5
  clear hw hg
  obtain ⟨ho1, ho2⟩ := hoff
  have hlo : lowerOf off c = positive (off - c.co) := congrArg positive (wrap64_id ⟨by omega, by omega⟩)
  -- `offset + len(p)` may wrap; modulo `2^64` the difference is the same, and it fits
  have hup : upperOf lenP off c = positive (c.co + c.cs - (off + lenP)) := by
    unfold upperOf
    rw [wrap64_sub_left, wrap64_sub_right, wrap64_id ⟨by omega, by omega⟩]
  refine ⟨hlo, hup, ?_⟩
  rw [hlo, hup]
  clear hlo hup
  unfold expectedOf
  have hu0 := positive_nonneg (c.co + c.cs - (off + lenP))
  have hu1 : positive (c.co + c.cs - (off + lenP)) ≤ c.co + c.cs := positive_le (by omega) (by omega)
  have hl0 := positive_nonneg (off - c.co)
  have hl1 : positive (off - c.co) ≤ off + nr - c.co := positive_le (by omega) (by omega)
  rw [wrap64_sub_left, wrap64_id ⟨by omega, by omega⟩]

def isC : REv → Bool
  | REv.chunkAt _ => true
  | _ => false

/-- Number of loop iterations = number of `ChunkEntryForOffset` calls. -/
def countC (evs : List REv) : Nat := (evs.filter isC).length

theorem countC_append (a b : List REv) : countC (a ++ b) = countC a + countC b := by
  unfold countC; rw [List.filter_append, List.length_append]

theorem countC_snoc (evs : List REv) (x : Int) : countC (evs ++ [REv.chunkAt x]) = countC evs + 1 :=
  countC_append ..

/-- What one iteration adds to `nr`: never negative, positive when the store delivered a byte. -/
structure Advance (c : Chunk) (n : Int) : Prop where
  nonneg : 0 ≤ n
  pos : 0 < c.n → 0 < n

theorem missPath_spec (bound lenP nr : Int) (c : Chunk) (lower upper : Int) (hcs : 0 < c.cs) (hgrow : c.cs ≤ bound)
    (hnr : 0 ≤ nr) (hlo : 0 ≤ lower) (hup : 0 ≤ upper)
    (he0 : 0 < c.cs - upper - lower) (he1 : c.cs - upper - lower ≤ lenP - nr) :
    ∃ e r, missPath bound lenP nr c lower upper (c.cs - upper - lower) = (e, r) ∧ r ≠ Outcome.panic ∧
      countC e = 0 ∧ ∀ n, r = Outcome.ok n → Advance c n := by
  unfold missPath
  by_cases hz : lower = 0 ∧ upper = 0
  · rw [if_pos hz, slice?_ok hnr (by omega) (by omega)]
    refine ⟨_, _, rfl, ok_ne_panic, rfl, fun n hn => ?_⟩
    have hb := clampN_spec c.n hcs
    exact Outcome.ok.inj hn ▸ ⟨hb.1, hb.2.2⟩
  · rw [if_neg hz, if_neg (Int.not_lt.mpr hgrow), slice?_ok (Int.le_refl 0) (Int.le_of_lt hcs) (Int.le_refl _),
      slice?_ok hlo (by omega) (by omega), slice?_ok hnr (by omega) (Int.le_refl _)]
    conv => zeta
    rw [if_neg (Int.not_lt.mpr he1), if_neg (not_not_intro rfl)]
    exact ⟨_, _, rfl, ok_ne_panic, rfl, fun n hn => Outcome.ok.inj hn ▸ ⟨Int.le_of_lt he0, fun _ => he0⟩⟩

/-- Whenever part of the chunk is discarded and the chunk cache does not answer, the chunk size the
TOC names is an allocation size. -/
theorem readLoop_grow_panic (bound lenP off nr : Int) (c : Chunk) (rest : List Chunk) (evs : List REv)
    (hlt : nr < lenP) (hg : chunkContains c.co c.cs (wrap64 (off + nr)) = true)
    (he0 : 0 < expectedOf c (lowerOf off c) (upperOf lenP off c))
    (he1 : expectedOf c (lowerOf off c) (upperOf lenP off c) ≤ lenP - nr) (hhit : c.hit < 0)
    (hd : ¬ (lowerOf off c = 0 ∧ upperOf lenP off c = 0)) (hbig : c.cs > bound) :
    (readLoop bound lenP off (c :: rest) nr evs).2 = Outcome.panic := by
  show (if nr ≥ lenP then _ else _ : List REv × Outcome Int).2 = Outcome.panic
  rw [if_neg (by omega)]
  conv => zeta
  refine iteInduction (motive := fun r : List REv × Outcome Int => r.2 = Outcome.panic) (fun hguard => ?_) fun _ => ?_
  · rw [hg] at hguard
    rcases hguard with h | h | h
    · cases h
    · omega
    · omega
  · rw [show hitRes c nr _ lenP = Outcome.ok none from if_pos hhit]
    unfold missPath
    rw [if_neg hd, if_pos hbig]

/-- `r` is no panic and, if `H` (every answer of the store delivers at least one byte), it made at most `B` calls
of `ChunkEntryForOffset`. -/
def ReadOK (B : Int) (H : Prop) (r : List REv × Outcome Int) : Prop :=
  r.2 ≠ Outcome.panic ∧ (H → (countC r.1 : Int) ≤ B)

/-- The loop variant: the calls of `ChunkEntryForOffset` so far, the bytes still wanted, and the one call that
finds the buffer full or the script at its end. -/
def budget (evs : List REv) (lenP nr : Int) : Int := countC evs + positive (lenP - nr) + 1

theorem le_budget {evs evs' : List REv} (lenP nr : Int) (h : countC evs' ≤ countC evs + 1) :
    (countC evs' : Int) ≤ budget evs lenP nr := by
  have := positive_nonneg (lenP - nr)
  unfold budget; omega

theorem budget_advance {evs evs' : List REv} {lenP nr n : Int} (hc : countC evs' = countC evs + 1)
    (hlt : nr < lenP) (hn : 0 < n) : budget evs' lenP (nr + n) ≤ budget evs lenP nr := by
  unfold budget
  rw [hc, positive_eq, positive_eq]
  split <;> split <;> omega

theorem budget_start {lenP : Int} (h : 0 ≤ lenP) : budget [] lenP 0 = lenP + 1 := by
  unfold budget
  rw [positive_eq, if_neg (by omega)]
  show (0 : Int) + (lenP - 0) + 1 = lenP + 1
  omega

theorem readLoop_cons_cases {P : List REv × Outcome Int → Prop} (bound lenP off nr : Int) (c : Chunk)
    (rest : List Chunk) (evs : List REv) (hoff : I64 off) (hl : lenP < 9223372036854775808) (hnr : 0 ≤ nr)
    (hgrow : c.cs ≤ bound) (hdone : nr ≥ lenP → P (evs, Outcome.ok nr))
    (herr : nr < lenP → ∀ evs', countC evs' = countC evs + 1 → P (evs', Outcome.err))
    (hnext : nr < lenP → ∀ evs' n, countC evs' = countC evs + 1 → Advance c n →
      P (readLoop bound lenP off rest (nr + n) evs')) :
    P (readLoop bound lenP off (c :: rest) nr evs) := by
  show P (if nr ≥ lenP then _ else _)
  refine iteInduction hdone fun h => ?_
  have hlt : nr < lenP := by omega
  extract_lets evs1 lower upper expected
  have hcnt : countC evs1 = countC evs + 1 := countC_snoc ..
  refine iteInduction (fun _ => herr hlt _ hcnt) fun hg => ?_
  obtain ⟨hg1, hg2⟩ := not_or.mp hg
  obtain ⟨hg2, hg3⟩ := not_or.mp hg2
  have hgc := Bool.of_not_eq_false hg1
  obtain ⟨_, _, hexp : expected = c.cs - upper - lower⟩ := discards_exact lenP off nr c hoff hnr hlt hl hgc
  clear_value expected
  subst hexp
  have he0 := Int.not_le.mp hg2
  have he1 := Int.not_lt.mp hg3
  rcases hitRes_spec c nr _ lenP hnr he0 he1 with hh | hh <;> rw [hh]
  · obtain ⟨e2, r, hm, m1, mC, m2⟩ := missPath_spec bound lenP nr c lower upper (chunkContains_true hgc).1 hgrow hnr
      (positive_nonneg _) (positive_nonneg _) he0 he1
    rw [hm]
    have hcev : countC (evs1 ++ e2) = countC evs + 1 := by rw [countC_append, hcnt, mC]
    cases r with
    | panic => exact absurd rfl m1
    | err => exact herr hlt _ hcev
    | ok n => exact hnext hlt _ n hcev (m2 n rfl)
  · exact hnext hlt _ _ hcnt ⟨Int.le_of_lt he0, fun _ => he0⟩

theorem readLoop_spec (bound lenP off : Int) (script : List Chunk) (nr : Int) (evs : List REv)
    (hoff : I64 off) (hl : lenP < 9223372036854775808) (hnr : 0 ≤ nr)
    (hs : ∀ c ∈ script, ChunkSane bound c) :
    ReadOK (budget evs lenP nr) (∀ c ∈ script, 0 < c.n) (readLoop bound lenP off script nr evs) := by
  induction script generalizing nr evs with
  | nil =>
    show ReadOK _ _ (if nr ≥ lenP then _ else _)
    exact iteInduction (fun _ => ⟨ok_ne_panic, fun _ => le_budget _ _ (Nat.le_succ _)⟩) fun _ =>
      ⟨ok_ne_panic, fun _ => le_budget _ _ (Nat.le_of_eq (countC_snoc ..))⟩
  | cons c rest ih =>
    refine readLoop_cons_cases bound lenP off nr c rest evs hoff hl hnr (hs c (List.mem_cons_self ..)).grow
      (fun _ => ⟨ok_ne_panic, fun _ => le_budget _ _ (Nat.le_succ _)⟩)
      (fun _ evs' hc => ⟨nofun, fun _ => le_budget _ _ (Nat.le_of_eq hc)⟩) fun hlt evs' n hc ha => ?_
    obtain ⟨i1, i2⟩ := ih (nr + n) evs' (Int.add_nonneg hnr ha.nonneg) fun c' h' => hs c' (List.mem_cons_of_mem _ h')
    exact ⟨i1, fun hall => Int.le_trans (i2 fun c' h' => hall c' (List.mem_cons_of_mem _ h'))
      (budget_advance hc hlt (ha.pos (hall c (List.mem_cons_self ..))))⟩

end SV.Hostile
