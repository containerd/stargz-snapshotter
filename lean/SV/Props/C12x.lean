import SV.Lemmas.CacheDir

/-!
# C12x — a released cache handle stays gone under writers that are still in flight

C12: "Once every holder has released a layer … both cache directories are gone".  The layer model
(`SV.Model.LayerLife`) keeps one flag per cache handle that `Close` clears; it has no writers, so nothing could
set it again.  `SV.Model.CacheDir` adds them: any number of writers, each anywhere inside
`Add … closed-check … MkdirAll … Rename`, interleaved action by action with `Close` and with each other.
Proved: after `Close`, with no writer between its closed-check and its `MkdirAll`, the directory, the wip
files and the chunk files stay gone under every continuation, and the handle accepts nothing; examples show
that the window hypothesis and the order check-before-`MkdirAll` are both needed.
-/

namespace SV.Props.C12x
open SV.Model.CacheDir

/-- For EVERY history `pre` of the handle before the release and EVERY continuation `ops` of the writers that
are still in flight afterwards (late commits in any interleaving, aborts, new `Add`s, further `Close`s): if at the
release no writer stood between its closed-check and its `MkdirAll`, the directory never comes back, no wip file
and no chunk file exists, and the handle stays closed. -/
theorem released_dir_stays_gone (pre ops : List Op)
    (hopen : (run true pre).closed = false) (hwin : NoWindow (run true pre)) :
    (run true (pre ++ Op.close :: ops)).closed = true ∧ (run true (pre ++ Op.close :: ops)).dir = false ∧
    (run true (pre ++ Op.close :: ops)).files = 0 ∧ ∀ b ∈ (run true (pre ++ Op.close :: ops)).wip, b = false := by
  rw [run_append_close]
  have g := gone_run (close_gone hopen hwin) ops
  exact ⟨g.closed, g.dir, g.files, g.wip⟩

/-- A released handle accepts nothing: `Add` fails, a late `Commit` stops at its closed-check, `MkdirAll` is never
reached, a `Rename` that was already past the check fails (its wip file is gone). -/
theorem released_accepts_nothing (s : State) (g : Gone s) (w : Nat) :
    (step true s .add).2 = .err ∧ (step true s (.check w)).2 ≠ .ok ∧
    (step true s (.mkdir w)).2 = .disabled ∧ (step true s (.rename w)).2 ≠ .ok := by
  refine ⟨by simp [step, g.closed], ?_, ?_, ?_⟩
  · simp only [step]; split
    · rw [if_pos g.closed]; simp
    · simp
  · have := gone_no_mkdir g w
    simp [step, this]
  · simp only [step]; split
    · have : (s.wip[w]? = some true && s.dir) = false := by simp [g.dir]
      simp only [this]; simp
    · simp

/-- non-vacuity: a history with three writers in flight (one not yet committing, one already past its
`MkdirAll`, one aborted) meets the hypotheses -/
example : (run true [.add, .add, .add, .check 1, .mkdir 1, .abort 2]).closed = false ∧
    NoWindow (run true [.add, .add, .add, .check 1, .mkdir 1, .abort 2]) := by
  exact ⟨by decide, by unfold NoWindow; decide⟩

/-- …and the late commit of the first writer then fails without touching the file system -/
example : (run true [.add, .add, .add, .check 1, .mkdir 1, .abort 2, .close, .check 0, .mkdir 0, .rename 0, .rename 1]).dir = false := by
  decide

/-- the window hypothesis is needed (residual window of the repository order: check, `Close`, `MkdirAll`) -/
example : (run true [.add, .check 0, .close, .mkdir 0]).dir = true := by decide

/-- the order matters: with the closed-check AFTER `MkdirAll` every late commit brings the
directory back although no writer was inside any window at the release -/
example : (run false [.add]).closed = false ∧ (run false [.add, .close, .mkdir 0, .check 0]).dir = true ∧
    (run false [.add, .close, .mkdir 0, .check 0]).closed = true := by decide

end SV.Props.C12x
