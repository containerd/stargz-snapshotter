/-
C04 — Untrusted layer bytes and registry replies cause errors, never a crash or a hang.

Theorems over the model of the attacker-facing arithmetic (SV.Model.Hostile), which mirrors the
Go code in /repo.  `Outcome.panic` is what the Go runtime would do (slice bounds, index, negative
`make`, allocation beyond the bound); the theorems say it is never the answer.

Where the full statement does not hold for the current code it is kept as a `def …Full : Prop` and its
negation is proved on a concrete witness (`…_full_fails`; `read_alloc_unbounded` is the witness of
`read_arith_total_full_fails` for every bound); what does hold is named `…_partial` (the passthrough
merge has no such part).  Every witness is replayed on the real code by the harness (suspects stream).
-/
import SV.Lemmas.Hostile

namespace SV.Props.C04
open SV.Hostile

/-- No footer parser panics, whatever the bytes are: for every length, every result of the gzip
header parse (`none`, or any FEXTRA payload) and every byte string handed to the zstd parser. -/
theorem footer_total (len : Nat) (hdr : Option (List UInt8)) (p : List UInt8) :
    gzipFooter len hdr ≠ Outcome.panic ∧ legacyFooter len hdr ≠ Outcome.panic ∧
      extFooter len hdr ≠ Outcome.panic ∧ zstdFooter p ≠ Outcome.panic :=
  ⟨(safe_gzipFooter len hdr).ne_panic, (safe_legacyFooter len hdr).ne_panic, (safe_extFooter len hdr).ne_panic,
    (safe_zstdFooter p).ne_panic⟩

/-- A gzip-based footer that is accepted names a TOC inside the blob's coordinate system: its offset is
never negative, so `Open` never takes the "external TOC" branch (`ParseTOC(nil)`) for the two
built-in gzip decompressors (commit 18babb7; only `externaltoc` answers -1). -/
theorem footer_offset_nonneg (len : Nat) (hdr : Option (List UInt8)) (f : Footer) :
    (gzipFooter len hdr = Outcome.ok f → 0 ≤ f.tocOffset) ∧ (legacyFooter len hdr = Outcome.ok f → 0 ≤ f.tocOffset) :=
  ⟨(safe_gzipFooter len hdr).of_ok, (safe_legacyFooter len hdr).of_ok⟩

/-- The parsers do accept something: a regular eStargz footer with TOC offset 0x2a. -/
example : gzipFooter 51 (some ([83, 71, 22, 0] ++ [48, 48, 48, 48, 48, 48, 48, 48, 48, 48, 48, 48, 48, 48, 50, 97] ++
    stargzMagic)) = Outcome.ok ⟨42, 42, 0⟩ := by decide +kernel

/-- `strconv.ParseInt` accepts a sign; a negative TOC offset is refused since commit 18babb7. -/
example : gzipFooter 51 (some ([83, 71, 22, 0] ++ [45, 48, 48, 48, 48, 48, 48, 48, 48, 48, 48, 48, 48, 48, 48, 49] ++
    stargzMagic)) = Outcome.err := by decide +kernel

/-- `Open` never panics while selecting a footer and cutting out the TOC, and every buffer it
allocates (`make([]byte, fetchSize)`, `make([]byte, tocSize)`) is at most as large as the blob:
for every blob size, every `WithTOCOffset`, every list of decompressors with a non-negative footer
size, every `(tocOffset, tocSize)` a footer parser can return (any `int64`s) and every outcome of
the TOC decoders.  `int64` wrap-around is part of the model, there is no side condition on it. -/
theorem open_slicing_total (size optTocOff : Int) (ds : List Dec) (hs : 0 ≤ size)
    (hs2 : size < 9223372036854775808) (hd : ∀ d ∈ ds, DecOK d) :
    (openBlob size optTocOff ds).2 ≠ Outcome.panic ∧
      ∀ n, Ev.alloc n ∈ (openBlob size optTocOff ds).1 → 0 ≤ n ∧ n ≤ size :=
  openBlob_spec hs hs2 optTocOff ds hd

/-- Non-vacuity: the four real decompressors satisfy the hypothesis; a 1000-byte blob whose zstd
footer announces a 2^62-byte TOC at offset 100 is rejected without any TOC allocation. -/
example : (openBlob 1000 0 [⟨51, none, false, false⟩, ⟨47, none, false, false⟩,
    ⟨40, some (100, 4611686018427387904), true, true⟩, ⟨46, none, false, false⟩]) =
    ([Ev.alloc 51, Ev.read 949 51], Outcome.err) := by decide

example : DecOK ⟨40, some (100, 4611686018427387904), true, true⟩ := by
  refine ⟨by decide, by decide, fun a b h => ?_⟩
  cases h
  exact ⟨⟨by decide, by decide⟩, by decide, by decide⟩

/-- A well-formed TOC range is read with exactly one allocation of its size. -/
example : (openBlob 1000 0 [⟨51, some (800, 0), true, false⟩]) =
    ([Ev.alloc 51, Ev.read 949 51, Ev.alloc 149, Ev.read 800 149, Ev.toc (some 149)], Outcome.ok true) := by decide

/-- `getSource` terminates for every table and entry (the model's fuel is never the reason for an
answer: more fuel gives the same answer), never panics, and an entry it returns is not a hardlink. -/
theorem getSource_terminates (m : List Ent) (e : Ent) :
    getSource m e ≠ Outcome.panic ∧
      (∀ r, getSource m e = Outcome.ok r → r.type ≠ EType.hardlink) ∧
      (∀ k, getSourceLoop m (m.length + 3 + k) 0 e = getSource m e) :=
  ⟨(safe_getSource m e).ne_panic, fun _ h => ((safe_getSource m e).of_ok h).1, getSource_fuel_sufficient m e⟩

/-- A chain that never leaves the hardlinks (in particular a cycle) ends in an error. -/
theorem getSource_cycle_err (m : List Ent) (e : Ent) (he : e.type = EType.hardlink)
    (hm : ∀ n r, lookup m n = some r → r.type = EType.hardlink) : getSource m e = Outcome.err := by
  refine (safe_getSource m e).elim (fun r hr => ?_) rfl
  obtain ⟨hne, h1 | ⟨n, h1⟩⟩ := hr
  · exact absurd (h1 ▸ he) hne
  · exact absurd (hm n r h1) hne

/-- The cycle `a ↔ b` of the repaired defect. -/
example : getSource [⟨["b"], .hardlink, ["a"]⟩, ⟨["a"], .hardlink, ["b"]⟩] ⟨["a"], .hardlink, ["b"]⟩ = Outcome.err := by
  decide

/-- A chain through every entry of the table still resolves. -/
example : getSource [⟨["c"], .reg, []⟩, ⟨["b"], .hardlink, ["c"]⟩, ⟨["a"], .hardlink, ["b"]⟩] ⟨["a"], .hardlink, ["b"]⟩ =
    Outcome.ok ⟨["c"], .reg, []⟩ := by decide

/-- Building the tree never panics, for every entry list. -/
theorem tree_total (ents : List Ent) : initTree ents ≠ Outcome.panic :=
  (safe_initTree ents).ne_panic

/-- Every child edge of a tree `initFields` accepts leads to a strictly longer cleaned name
(`base :: parent`) or to an entry that has no children at all (`Downward`: a hardlink source, which the code
requires to be childless since commit f3cca50) — and such an entry is never a directory (`EdgeOK`). -/
theorem tree_edges (ents : List Ent) (t : Tree) (h : initTree ents = Outcome.ok t) :
    ∀ e ∈ t.edges, Downward t.edges e ∧ EdgeOK e :=
  initTree_edges h

/-- The tree is acyclic for EVERY walker (also one that descends into every entry that has
children, whatever its type, as `memory.assignIDs` does): a node with children that is reached
after `k` steps lies exactly `k` components below the start, and no walk returns to its start. -/
theorem tree_acyclic (ents : List Ent) (t : Tree) (h : initTree ents = Outcome.ok t)
    (a b : Name) (k : Nat) (hc : Chain t.edges a b k) :
    (hasChild t.edges b = true → b.length = a.length + k) ∧ (b = a → k = 0) := by
  have hes := fun e he => (tree_edges ents t h e he).1
  refine ⟨chain_length hes hc, fun hab => ?_⟩
  cases k with
  | zero => rfl
  | succ j =>
    -- a walk of `j + 1` steps starts at a node with children, so its end lies `j + 1` deeper
    subst hab
    have := chain_length hes hc (chain_start_hasChild hc)
    omega

/-- Walk depth is bounded by the names: `k` steps down from the root along entries with children end
at a name of `k` components. -/
theorem tree_walk_depth (ents : List Ent) (t : Tree) (h : initTree ents = Outcome.ok t)
    (b : Name) (k : Nat) (hc : Chain t.edges [] b k) (hb : hasChild t.edges b = true) : b.length = k :=
  ((tree_acyclic ents t h [] b k hc).1 hb).trans (Nat.zero_add k)

/-- The repaired inputs are rejected by the model too: hardlink to the own parent directory
(588493d) and hardlink to a non-directory ancestor (f3cca50). -/
example : initTree [⟨["d"], .dir, []⟩, ⟨["x", "d"], .hardlink, ["d"]⟩] = Outcome.err := by decide
example : initTree [⟨["p"], .reg, []⟩, ⟨["x", "p"], .hardlink, ["p"]⟩] = Outcome.err := by decide

/-- Non-vacuity: a tree with an implicit directory and a hardlink is accepted. -/
example : (initTree [⟨["f", "d"], .reg, []⟩, ⟨["l"], .hardlink, ["f", "d"]⟩]) =
    Outcome.ok ⟨[⟨[], .dir, []⟩, ⟨["d"], .dir, []⟩, ⟨["l"], .hardlink, ["f", "d"]⟩, ⟨["f", "d"], .reg, []⟩],
      [⟨[], "l", ["f", "d"], .reg⟩, ⟨["d"], "f", ["f", "d"], .reg⟩, ⟨[], "d", ["d"], .dir⟩], [["f", "d"]]⟩ := by decide +kernel

/-- For EVERY read `(len p, off)` (any `int64` offset, any slice length) and every sequence of
answers of the metadata store (any `int64` chunk triples, any number of bytes delivered, any
chunk-cache behaviour) `file.ReadAt` never panics: every slice expression is in range.  The one
thing left to assume is that the chunk sizes are allocatable (`c.cs ≤ bound`); that a chunk starts
at an offset ≥ 0, does not overflow and contains the position is checked by the code
(`chunkContains`, commit 95288ee) and is part of the model. -/
theorem read_arith_total_partial (bound lenP off : Int) (script : List Chunk)
    (hoff : I64 off) (hl : lenP < 9223372036854775808)
    (hs : ∀ c ∈ script, ChunkSane bound c) :
    (fileReadAt bound lenP off script).2 ≠ Outcome.panic :=
  (readLoop_spec bound lenP off script 0 [] hoff hl (Int.le_refl 0) hs).1

/-- The full statement of the property: no assumption on the sizes the TOC names. -/
def ReadArithTotalFull : Prop :=
  ∀ (bound lenP off : Int) (script : List Chunk), 0 < bound → I64 off → lenP < 9223372036854775808 →
    (∀ c ∈ script, I64 c.co ∧ I64 c.cs) → (fileReadAt bound lenP off script).2 ≠ Outcome.panic

/-- The chunk size is used as an allocation size whatever the blob and the read are: a 4096-byte
read of a file whose TOC claims one chunk of `bound + 4097` bytes grows a buffer of that many
bytes; whatever `bound` the machine has, the TOC names a larger size (known finding). -/
theorem read_alloc_unbounded (bound : Int) (hb : 0 < bound) (hbig : bound + 4097 < 9223372036854775808) :
    (fileReadAt bound 4096 0 [⟨0, bound + 4097, 0, -1⟩]).2 = Outcome.panic := by
  generalize hc : (⟨0, bound + 4097, 0, -1⟩ : Chunk) = c
  have hco : c.co = 0 := hc ▸ rfl
  have hcs : c.cs = bound + 4097 := hc ▸ rfl
  have hhit : c.hit = -1 := hc ▸ rfl
  have hg : chunkContains c.co c.cs (wrap64 (0 + 0)) = true := by
    rw [show wrap64 (0 + 0) = 0 by decide]
    exact decide_eq_true (by omega)
  obtain ⟨hlo, hup, hexp⟩ := discards_exact 4096 0 0 c ⟨by decide, by decide⟩ (Int.le_refl 0) (by decide)
    (by decide) hg
  rw [positive_eq, if_neg (by omega)] at hlo hup
  refine readLoop_grow_panic bound 4096 0 0 c [] [] (by decide) hg ?_ ?_ (by omega) (fun h => ?_) (by omega)
  · rw [hexp]; omega
  · rw [hexp]; omega
  · omega

theorem read_arith_total_full_fails : ¬ ReadArithTotalFull := by
  intro h
  have := h 1099511627776 4096 0 [⟨0, 1099511627776 + 4097, 0, -1⟩] (by decide) ⟨by decide, by decide⟩ (by decide) (by
    intro c hc
    cases List.mem_singleton.mp hc
    exact ⟨⟨by decide, by decide⟩, by decide, by decide⟩)
  exact this (read_alloc_unbounded 1099511627776 (by decide) (by decide))

/-- The wrap-around input of the repaired defect (chunkOffset = -2^63+10 on a 100-byte file,
200-byte read at 5) is now answered with an error. -/
example : (fileReadAt 4611686018427387904 200 5 [⟨-9223372036854775798, 100, 100, -1⟩]).2 = Outcome.err := by decide

/-- When every answer of the store delivers at least one byte the loop advances: it makes at
most `len p + 1` iterations however long the store keeps answering. -/
theorem read_progress_partial (bound lenP off : Int) (script : List Chunk)
    (hoff : I64 off) (hl0 : 0 ≤ lenP) (hl : lenP < 9223372036854775808)
    (hs : ∀ c ∈ script, ChunkSane bound c) (hn : ∀ c ∈ script, 0 < c.n) :
    (countC (fileReadAt bound lenP off script).1 : Int) ≤ lenP + 1 :=
  budget_start hl0 ▸ (readLoop_spec bound lenP off script 0 [] hoff hl (Int.le_refl 0) hs).2 hn

/-- The full statement: the loop advances for every store. -/
def ReadProgressFull : Prop :=
  ∀ (bound lenP off : Int) (script : List Chunk), I64 off → 0 ≤ lenP → lenP < 9223372036854775808 →
    (∀ c ∈ script, ChunkSane bound c) → (countC (fileReadAt bound lenP off script).1 : Int) ≤ lenP + 1

/-- It does not hold for the current code: when the store's `ReadAt` delivers 0 bytes for a chunk
that does contain the position (io.EOF is accepted) and the chunk cache does not take the data,
`nr` stays where it is and the same chunk is asked for again — for ever in the real code, for as
long as the script lasts here. -/
theorem read_progress_full_fails : ¬ ReadProgressFull := by
  intro h
  have := h 1024 1 0 [⟨0, 1, 0, -1⟩, ⟨0, 1, 0, -1⟩, ⟨0, 1, 0, -1⟩] ⟨by decide, by decide⟩ (by decide) (by decide) (by
    intro c hc
    simp only [List.mem_cons, List.mem_nil_iff, or_false, or_self] at hc
    subst hc
    exact ⟨⟨by decide, by decide⟩, ⟨by decide, by decide⟩, by decide⟩)
  exact absurd this (by decide +kernel)

/-- Non-vacuity: a page-sized read of a 10-byte file in chunks of 4, 4 and 2 bytes. -/
example : fileReadAt 1024 4096 0 [⟨0, 4, 4, -1⟩, ⟨4, 4, 4, -1⟩, ⟨8, 2, 2, -1⟩] =
    ([REv.chunkAt 0, REv.storeRead 4 0, REv.chunkAt 4, REv.storeRead 4 4, REv.chunkAt 8, REv.storeRead 2 8,
      REv.chunkAt 10], Outcome.ok 10) := by decide +kernel

/-- Full statement for the batch merge of `prefetchEntireFile`. -/
def PassthroughTotalFull : Prop :=
  ∀ (B : Int) (W : Nat) (script : List (Int × Int)), 0 < B → 0 < W → (passthrough B W script).2 ≠ Outcome.panic

/-- It does not hold for the current code: chunk entries that overlap (file of 6 bytes, chunks
`[0,4)` and `[2,6)`, merge buffer 6) are packed behind each other into one batch and the second one
is sliced beyond the batch buffer; the straddle test of commit 6332cf7 and `chunkContains`
(95288ee) look at each chunk alone (known finding). -/
theorem passthrough_total_full_fails : ¬ PassthroughTotalFull := by
  intro h
  exact h 6 2 [(0, 4), (2, 4)] (by decide) (by decide) (by decide)

/-- The repaired case (10-byte file, 4-byte chunks, 6-byte merge buffer) takes the sequential path. -/
example : passthrough 6 2 [(0, 4), (4, 4), (8, 2)] = ([], Outcome.ok ()) := by decide

end SV.Props.C04
