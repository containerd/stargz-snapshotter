/-
C18 — Registry credentials and custom headers reach only their own image and host.

Keychain (service/keychain/cri/cri.go, service/resolver/cri.go, service/resolver/registry.go):
all theorems hold for EVERY normalisation function `norm` (ParseDockerRef + reference.Parse is a
parameter), every history of connect / PullImage / RemoveImage requests starting from the empty
keychain (every schedule is such a history: the map is only touched under `configMu`), every
queried host and reference, every auth config.

Fetcher headers (fs/remote/resolver.go): all theorems hold for every list of configured registry
hosts, every authorizer behaviour, every server script (answers to the requests in the order
they are sent, including redirects whose Location is again a registry host, 401, 403, 400,
transport errors, scripts that end early) and every history of ReadAt/Cache, Check, Refresh.
They speak about sequences of atomic operations; the last section shows that the claim is FALSE
for two goroutines sharing one fetcher in the code before c16e994 (`header` read outside `urlMu`).
-/
import SV.Lemmas.Creds

namespace SV.Props.C18
open SV.Creds

/-- A non-empty answer for `(host, ref)` is what `ParseAuth` makes of the auth config of a
PullImage request whose image normalises to exactly `ref`, that arrived when the backend was
connected, and after which no PullImage / RemoveImage named `ref` again — i.e. of the MOST RECENT
pull of that reference, not followed by a remove. -/
theorem creds_only_for_latest_pull (norm : String → Option Ref) (hist : List KOp)
    (host : String) (ref : Ref) (u s : Bytes)
    (h : credentials (krun norm {} hist) host ref = .ok u s) (hne : u ≠ [] ∨ s ≠ []) :
    ∃ pre image auth ok post,
      hist = pre ++ KOp.pull image auth ok :: post ∧ norm image = some ref ∧
      (krun norm {} pre).connected = true ∧
      (∀ op ∈ post, touches norm ref op = false) ∧
      parseAuth auth (aliasHost host) = .ok u s := by
  obtain ⟨a, hc, hp⟩ := credentials_nonEmpty h hne
  rcases config_origin norm hist {} kinv_init ref a hc with ⟨h0, _⟩ | ⟨pre, image, ok, post, he, hn, hcn, hpost⟩
  · cases h0
  · exact ⟨pre, image, a, ok, post, he, hn, hcn, hpost, hp⟩

/-- Conversely (so that the theorem above is not vacuous): after a connected pull of `ref` that
nobody named again, the answer for `ref` IS `ParseAuth` of that pull's auth config — whatever
happened before and whatever other images were pulled or removed since. -/
theorem creds_answer_is_latest_pull (norm : String → Option Ref) (pre post : List KOp)
    (image : String) (auth : Option AuthConfig) (ok : Bool) (host : String) (ref : Ref)
    (hc : (krun norm {} pre).connected = true) (hn : norm image = some ref)
    (hp : ∀ op ∈ post, touches norm ref op = false) :
    credentials (krun norm {} (pre ++ KOp.pull image auth ok :: post)) host ref =
      parseAuth auth (aliasHost host) := by
  rw [krun_append, krun_cons, credentials, krun_untouched norm post ref _ hp,
    kstep_pull_stores norm _ image auth ok ref hc hn]

/-- No pull of exactly `ref` in the history (other tags of the same repository, other
repositories, other registries do not count) ⇒ nothing is offered for `ref`. -/
theorem creds_none_for_other_references (norm : String → Option Ref) (hist : List KOp)
    (host : String) (ref : Ref)
    (h : ∀ image auth ok, KOp.pull image auth ok ∈ hist → norm image ≠ some ref) :
    credentials (krun norm {} hist) host ref = .ok [] [] := by
  rw [credentials, config_none norm hist {} kinv_init ref rfl h]

/-- A non-empty answer is never given when the pull request named a server address that does not
denote the host being contacted (after the docker.io aliasing of `credentials`). -/
theorem creds_never_on_address_mismatch (norm : String → Option Ref) (hist : List KOp)
    (host : String) (ref : Ref) (u s : Bytes)
    (h : credentials (krun norm {} hist) host ref = .ok u s) (hne : u ≠ [] ∨ s ≠ []) :
    ∃ a, (krun norm {} hist).config ref = some (some a) ∧
      (a.serverAddress = "" ∨ urlHost a.serverAddress = some (aliasHost host)) := by
  obtain ⟨cfg, hc, hp⟩ := credentials_nonEmpty h hne
  obtain ⟨a, rfl, haddr, _⟩ := parseAuth_nonEmpty cfg (aliasHost host) u s hp hne
  exact ⟨a, hc, haddr⟩

/-- The same, as a statement about `ParseAuth` alone: with a non-empty server address that does
not denote `host` the result is empty (or the parse error of the address). -/
theorem parseAuth_empty_on_address_mismatch (a : AuthConfig) (host : String)
    (h1 : a.serverAddress ≠ "") (h2 : urlHost a.serverAddress ≠ some host) :
    (parseAuth (some a) host = .ok [] [] ∧ urlHost a.serverAddress ≠ none) ∨
    (parseAuth (some a) host = .err ∧ urlHost a.serverAddress = none) := by
  exact parseAuth_on_mismatch a host h1 h2

/-- After RemoveImage of an image that normalises to `ref`, nothing is offered for `ref` until it
is pulled again — whatever else happens (pulls/removes of other references, connects). -/
theorem creds_gone_after_remove (norm : String → Option Ref) (pre post : List KOp)
    (image : String) (ok : Bool) (host : String) (ref : Ref) (hn : norm image = some ref)
    (hp : ∀ img auth ok', KOp.pull img auth ok' ∈ post → norm img ≠ some ref) :
    credentials (krun norm {} (pre ++ KOp.remove image ok :: post)) host ref = .ok [] [] := by
  have hi := krun_inv norm pre {} kinv_init
  rw [krun_append, krun_cons, credentials,
    config_none norm post _ (kstep_inv norm _ _ hi) ref (kstep_remove_clears norm _ hi image ok ref hn) hp]

/-- The first credential function with a non-empty answer wins; the ones behind it are not
consulted (their answer — even an error — does not matter). -/
theorem first_nonempty_wins (pre post : List (String → Ref → Res)) (f : String → Ref → Res)
    (host : String) (ref : Ref) (u s : Bytes)
    (hpre : ∀ g ∈ pre, g host ref = .ok [] []) (hf : f host ref = .ok u s)
    (hne : u ≠ [] ∨ s ≠ []) :
    multiCreds (pre ++ f :: post) host ref = .ok u s := by
  rw [multiCreds_skip_empty pre (f :: post) host ref hpre, multiCreds_cons_nonEmpty _ post, hf]
  rw [hf]
  exact fun e => by cases e; exact hne.elim (· rfl) (· rfl)

/-- Conversely every non-empty answer of the combination is the answer of the first function
that is not empty, and all functions before it answered empty without error. -/
theorem first_nonempty_wins_conv (fs : List (String → Ref → Res)) (host : String) (ref : Ref)
    (u s : Bytes) (h : multiCreds fs host ref = .ok u s) (hne : u ≠ [] ∨ s ≠ []) :
    ∃ pre f post, fs = pre ++ f :: post ∧ (∀ g ∈ pre, g host ref = .ok [] []) ∧
      f host ref = .ok u s := by
  rcases multiCreds_spec fs host ref with he | ⟨pre, f, post, hfs, hp, _, hf⟩
  · cases he.symm.trans h
    exact absurd rfl (hne.elim id id)
  · exact ⟨pre, f, post, hfs, hp, hf.symm.trans h⟩

/-- An error of the combination is the error of the first function that does not answer empty. -/
theorem multiCreds_error_from_first_nonempty (fs : List (String → Ref → Res)) (host : String)
    (ref : Ref) (h : multiCreds fs host ref = .err) :
    ∃ pre f post, fs = pre ++ f :: post ∧ (∀ g ∈ pre, g host ref = .ok [] []) ∧
      f host ref = .err := by
  rcases multiCreds_spec fs host ref with he | ⟨pre, f, post, hfs, hp, _, hf⟩
  · cases he.symm.trans h
  · exact ⟨pre, f, post, hfs, hp, hf.symm.trans h⟩

/-- `RegistryHostsFromConfig`: the `i`-th returned host carries a header table only if it is
mirror `i` and that mirror was configured with one — never the table of another mirror, and the
registry of the reference itself (the last host) carries none. -/
theorem config_headers_stay_with_their_mirror (mirrors : List Bool) (i j : Nat)
    (h : (hostHeaders mirrors)[i]? = some (some j)) : j = i ∧ mirrors[i]? = some true := by
  have := hostHeadersFrom_spec mirrors 0 i j h
  simpa using this

/-- Resolve a blob (`newHTTPFetcher` over all configured hosts, falling through on failures),
then run ANY history of ReadAt/Cache, Check and Refresh operations against ANY server script:
every request that carries the header set configured for registry host `j` goes to host `j`
(never to a redirect target, never to another mirror), and the fetcher state keeps the
invariant "stored header set non-empty ⇒ the stored URL is on the fetcher's own host". -/
theorem headers_only_to_registry_host (cfg : FCfg) (resolveScript : List Ans) (ops : List FOp) :
    (∀ r ∈ (newFetcher cfg.az cfg.force cfg.hosts resolveScript).1, r.confined) ∧
    ∀ st, (newFetcher cfg.az cfg.force cfg.hosts resolveScript).2.1 = some st →
      st.inv ∧ (∀ r ∈ (frun cfg st ops).1, r.confined) ∧ (frun cfg st ops).2.inv := by
  have h := newFetcherFrom_spec cfg.az cfg.force (hosts := cfg.hosts) (i := 0) (sc := resolveScript) rfl
  refine ⟨h.1, ?_⟩
  intro st hst
  have hi := h.2 st hst
  exact ⟨hi, frun_spec cfg ops st hi⟩

/-- The same, path by path, from any fetcher state satisfying the invariant: `redirect` (initial
and from `refreshURL`), `getSize` (HEAD and GET fallback), `fetch` (including the 403-refresh and
the 400-retry), `check` (including its refresh). -/
theorem every_request_path_confined (az : Authz) (st : FState) (sc : List Ans) (hi : st.inv) :
    (∀ r ∈ (redirect az st.host st.org sc).1, r.confined) ∧
    (∀ r ∈ (getSize az st.url st.hdr sc).1, r.confined) ∧
    (∀ r ∈ (refreshURL az st sc).1, r.confined) ∧
    (∀ r ∈ (fetch az st sc).1, r.confined) ∧
    (∀ r ∈ (check az st sc).1, r.confined) :=
  ⟨(redirect_spec (az := az) (sc := sc) rfl hi.org).1,
   getSize_confined (az := az) (sc := sc) rfl hi.fits,
   (refreshURL_spec (az := az) (sc := sc) rfl hi).1,
   (fetch_spec (az := az) (sc := sc) rfl hi).1,
   (check_spec (az := az) (sc := sc) rfl hi).1⟩

/-- After a redirect the stored header set is empty — wherever the Location points, even back to
the registry host — and it stays empty until a refresh is answered 2xx by the registry host
itself; only then the original header set is stored again, together with the original URL. -/
theorem stored_headers_empty_after_redirect (az : Authz) (st st' : FState) (sc : List Ans)
    (h : (refreshURL az st sc).2.1 = some st') :
    ((∀ loc, (roundTrip az .redirect (.reg st.host) st.org sc).2.1 = .redirect loc →
        st'.hdr = none ∧ st'.url = loc) ∧
     (st'.hdr ≠ none →
        (roundTrip az .redirect (.reg st.host) st.org sc).2.1.isBody = true ∧
        st'.hdr = st.org ∧ st'.url = .reg st.host)) := by
  obtain ⟨u, hd, hr, rfl⟩ := refreshURL_some h
  constructor
  · intro loc ha
    rw [ha] at hr
    cases hr
    exact ⟨rfl, rfl⟩
  · intro hne
    rcases redirectResult_spec st.host st.org _ u hd hr with h0 | ⟨h1, h2, h3⟩
    · exact absurd h0 hne
    · exact ⟨h3, h1, h2⟩

/-- The invariant in words: a fetcher whose URL is not on its own registry host stores no
configured header. -/
theorem redirected_fetcher_stores_no_header (st : FState) (hi : st.inv)
    (h : st.url ≠ .reg st.host) : st.hdr = none := by
  exact Decidable.byContradiction fun hne => h (hi.home hne)

/-- A fetcher resolved through a redirect to a foreign host: the probe carries host 0's headers
to host 0, the size probe goes to the foreign host without them. -/
example :
    newFetcher .absent false [⟨true, true⟩] [.redirect .other, .ok200] =
      ([⟨.redirect, .reg 0, some 0⟩, ⟨.head, .other, none⟩],
       some ⟨0, some 0, .other, none, false⟩, []) := by decide

/-- 403 on the redirected URL, the refresh lands on the registry host itself (2xx): the header
set is stored again and the retried fetch carries it — to the registry host. -/
example :
    fetch .absent ⟨0, some 0, .other, none, false⟩ [.forbidden403, .ok200, .partial206] =
      ([⟨.fetch, .other, none⟩, ⟨.redirect, .reg 0, some 0⟩, ⟨.fetch, .reg 0, some 0⟩],
       ⟨0, some 0, .reg 0, some 0, false⟩, true, []) := by decide

/-- The first mirror fails, the second host is used with ITS header set. -/
example :
    (newFetcher .retry false [⟨true, true⟩, ⟨false, true⟩, ⟨true, true⟩]
      [.other, .unauth401, .ok200, .ok200]).1 =
      [⟨.redirect, .reg 0, some 0⟩, ⟨.redirect, .reg 2, some 2⟩, ⟨.redirect, .reg 2, some 2⟩,
       ⟨.head, .reg 2, some 2⟩] := by decide

/-- Keychain: the second pull of the same reference overwrites the first, another tag is a
different reference, a remove deletes (with the identity as normalisation). -/
example :
    let a1 : AuthConfig := { username := [117], password := [49] }
    let a2 : AuthConfig := { identityToken := [116] }
    let hist := [KOp.connect, .pull "r/a:1" (some a1) true, .pull "r/a:2" (some a1) true,
                 .pull "r/a:1" (some a2) false, .remove "r/a:2" true]
    credentials (krun some {} hist) "r" "r/a:1" = .ok [] [116] ∧
    credentials (krun some {} hist) "r" "r/a:2" = .ok [] [] ∧
    credentials (krun some {} hist) "r" "r/a" = .ok [] [] := by
  decide

/-! ### two goroutines sharing one fetcher: the claim does NOT extend

In the code before c16e994 `fetch`/`check` read `f.url` under `urlMu` and `f.header` outside it
(resolver.go, the `maps.Copy(req.Header, f.header)` lines), while `refreshURL` writes both under
`urlMu`; since c16e994 both are read under the lock.  `splitReq` is the old behaviour: a request
may combine the `url` of the state before a concurrent `refreshURL` with the `header` of the state
after it. -/

/-- Full statement for concurrent use: whatever refresh another goroutine completes between the
two reads, the request is confined. -/
def headers_only_to_registry_host_concurrent : Prop :=
  ∀ (az : Authz) (k : ReqKind) (s1 s2 : FState) (sc : List Ans),
    s1.inv → (refreshURL az s1 sc).2.1 = some s2 → (splitReq k s1 s2).confined

/-- What IS provable: the request is confined when both reads see the same state (they do since
c16e994: `header` is read under `urlMu` together with `url`), or when the refresh did not move the
URL back to the registry host. -/
theorem headers_only_to_registry_host_concurrent_partial (az : Authz) (k : ReqKind)
    (s1 s2 : FState) (sc : List Ans) (hi : s1.inv) (hr : (refreshURL az s1 sc).2.1 = some s2)
    (hatomic : s2 = s1 ∨ s2.hdr = none ∨ s1.url = .reg s1.host) :
    (splitReq k s1 s2).confined := by
  have h2 : s2.inv := (refreshURL_spec (az := az) (sc := sc) rfl hi).2 s2 hr
  obtain ⟨u, hd, _, rfl⟩ := refreshURL_some hr
  intro j hj
  rcases hatomic with h | h | h
  · exact hi.fits j (h ▸ hj)
  · cases h.symm.trans hj
  · exact h.trans ((h2.home fun e => nomatch e.symm.trans hj).symm.trans (h2.fits j hj))

/-- The full statement is false: resolved through a redirect (URL on a foreign host, no stored
headers), a concurrent refresh that is answered 2xx by the registry host stores the configured
header set again; a fetch that read the old URL before and the header after sends the
configured headers to the foreign host. -/
theorem headers_only_to_registry_host_concurrent_fails :
    ¬ headers_only_to_registry_host_concurrent := by
  intro h
  have := h .absent .fetch ⟨0, some 0, .other, none, false⟩ ⟨0, some 0, .reg 0, some 0, false⟩
    [.ok200] ⟨by intro j hj; cases hj; rfl, by intro j hj; cases hj⟩ (by decide) 0 rfl
  simp [splitReq] at this

/-- The witness state of the counterexample is a state the code really reaches. -/
example :
    (newFetcher .absent false [⟨true, true⟩] [.redirect .other, .ok200]).2.1 =
      some ⟨0, some 0, .other, none, false⟩ := by decide

end SV.Props.C18
