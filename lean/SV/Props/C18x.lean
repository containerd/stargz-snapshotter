/-
C18 (extension) — credential queries in flight.

The theorems of `SV.Props.C18` quantify over histories of requests and evaluate `credentials` on
the state such a history leaves.  Here the queries themselves are events of the schedule
(`SV.Creds.KEv`): any number of them may have their atomic point anywhere between the requests —
in particular between the pull and the remove / newer pull of the very reference they ask about.
The theorems say that such queries leave nothing behind: what is offered after a RemoveImage / a
newer PullImage has been processed does not depend on the queries that were in flight.
(A `credentials` that stored its answer after releasing `configMu` would break exactly this: a query
that overlapped the removal would bring the removed entry back.)
-/
import SV.Props.C18
import SV.Model.CredsFlight

namespace SV.Props.C18x
open SV.Creds

/-- Queries leave no trace: the state after ANY schedule of requests and queries is the state
after its requests alone. -/
theorem queries_leave_no_trace (norm : String → Option Ref) (evs : List KEv) (s : KState) :
    (erun norm s evs).1 = krun norm s (opsOf evs) := by
  induction evs generalizing s with
  | nil => rfl
  | cons e es ih =>
    cases e with
    | op o => simp [erun, estep, opsOf, krun_cons, ih]
    | query h r => simp [erun, estep, opsOf, ih]

/-- Two schedules with the same requests — whatever queries were in flight, wherever — offer the
same credentials afterwards, for every host and reference. -/
theorem answer_independent_of_queries_in_flight (norm : String → Option Ref) (a b : List KEv)
    (h : opsOf a = opsOf b) (host : String) (ref : Ref) :
    credentials (erun norm {} a).1 host ref = credentials (erun norm {} b).1 host ref := by
  rw [queries_leave_no_trace, queries_leave_no_trace, h]

/-- After RemoveImage of an image that normalises to `ref` nothing is offered for `ref` until it is
pulled again, for EVERY schedule: queries of `ref` (or anything else) may lie before the removal,
between any two later requests, on any host. -/
theorem creds_gone_after_remove_queries_in_flight (norm : String → Option Ref)
    (pre post : List KEv) (image : String) (ok : Bool) (host : String) (ref : Ref)
    (hn : norm image = some ref)
    (hp : ∀ img auth ok', KOp.pull img auth ok' ∈ opsOf post → norm img ≠ some ref) :
    credentials (erun norm {} (pre ++ KEv.op (KOp.remove image ok) :: post)).1 host ref
      = .ok [] [] := by
  rw [queries_leave_no_trace, opsOf_append]
  simp only [opsOf]
  exact SV.Props.C18.creds_gone_after_remove norm (opsOf pre) (opsOf post) image ok host ref hn hp

/-- After a connected PullImage naming `ref`, not followed by another request naming `ref`, the
answer is `ParseAuth` of THAT request's auth config, for every schedule of queries around it — so
the credentials of an older pull cannot come back through a query that was in flight. -/
theorem creds_answer_is_latest_pull_queries_in_flight (norm : String → Option Ref)
    (pre post : List KEv) (image : String) (auth : Option AuthConfig) (ok : Bool)
    (host : String) (ref : Ref)
    (hc : (krun norm {} (opsOf pre)).connected = true) (hn : norm image = some ref)
    (hp : ∀ op ∈ opsOf post, touches norm ref op = false) :
    credentials (erun norm {} (pre ++ KEv.op (KOp.pull image auth ok) :: post)).1 host ref
      = parseAuth auth (aliasHost host) := by
  rw [queries_leave_no_trace, opsOf_append]
  simp only [opsOf]
  exact SV.Props.C18.creds_answer_is_latest_pull norm (opsOf pre) (opsOf post) image auth ok host ref hc hn hp

/-- Non-vacuity: a schedule with a query between pull and remove and another one after it; the
first is answered with the pulled credentials, the second with nothing. -/
example : (erun (fun s => some s) {}
    [.op .connect, .op (.pull "r" (some { username := [117], password := [112] }) true),
     .query "h" "r", .op (.remove "r" true), .query "h" "r"]).2
    = [.ok [117] [112], .ok [] []] := by
  decide

end SV.Props.C18x
