/-
C14 — regenerated tie.  `(*Writer).chunkSize`, the landmark names and the footer sizes of the
estargz writer, regenerated from the CURRENT Go sources by `tools/go2lean` on every run, are what
the hand-written writer model (`SV.Writer`, the model of C03) uses; the tie of C14's own model
(`SV.Sort`) is Props/C03gen2.lean.
-/
import SV.Gen.Estargz
import SV.Model.Writer

namespace SV.Props.C14gen2
open SV

/-- Go `(*Writer).chunkSize()` (receiver field `ChunkSize` as the parameter) is the model's
`effChunk`.  `int` is modelled as unbounded `Int` (no arithmetic happens, so overflow is irrelevant). -/
theorem writer_chunkSize_eq (c : Int) : Gen.Estargz.writer_chunkSize c = (Writer.effChunk c : Int) := by
  unfold Gen.Estargz.writer_chunkSize Writer.effChunk
  by_cases h : c ≤ 0
  · simp [h]
  · simp [h]; omega

/-- the two landmark names the writer model treats as reserved -/
theorem landmarks_eq : Writer.landmarks = [Gen.Estargz.PrefetchLandmark, Gen.Estargz.NoPrefetchLandmark] := rfl

/-- footer lengths of the writer model: gzip footer, zstd skippable-frame header (8) + footer, external-TOC footer -/
theorem footerLen_eq :
    (Writer.Fmt.footerLen .gzip : Int) = Gen.Estargz.FooterSize ∧
    (Writer.Fmt.footerLen .zstd : Int) = 8 + Gen.Estargz.zstdFooterSize ∧
    (Writer.Fmt.footerLen .external : Int) = Gen.Estargz.extFooterSize := by decide

example : Gen.Estargz.writer_chunkSize 0 = 4194304 ∧ Gen.Estargz.writer_chunkSize 7 = 7 := by decide

end SV.Props.C14gen2
