/-
C12b — the HOLDER side of C12: `fs/fs.go` `filesystem.Mount` / `Check` / `Unmount` and the bookkeeping
of `fs.layer[mountpoint]` (model: SV/Model/FsMount.lean, which embeds the resolver model of C12).

`mount` is `filesystem.Mount` as it is since fix 62b0917 (the deferred failure branch deletes the
entry this Mount registered, then `Done()`); all theorems are about it.  `mountOld` is the code before
the fix (the entry registered before a failing FUSE step stays): it only appears in the counterexample
`failed_fuse_mount_leaves_stale_entry` / `failed_fuse_mount_witness`.

Vocabulary.  `FsMount.run ops` is the state after the history `ops` (Mount with ANY input/oracles, Check,
Unmount, the early-error paths, timer expiry of either cache) from `NewFilesystem`.  A holder is a closure
`tok` of the resolver's layer cache; `isLive T tok`: it has not been called; `liveToks T`: number of
un-called closures = outstanding references to layers; `liveEntries s`: entries of `fs.layer` whose
closure is un-called.
-/
import SV.Lemmas.FsMount

namespace SV.Props.C12b
open SV.FsMount SV.LayerLife

/-- The resolver part of every reachable holder-side state is a state reached by a `LayerLife`
history: all C12 theorems apply to it. -/
theorem ll_refines (ops : List FsMount.Op) :
    ∃ lops : List LayerLife.Op, (FsMount.run ops).ll = LayerLife.run lops :=
  reaches_runFrom ops MInv.init

/-- Every entry of `fs.layer` holds an unreleased reference, after ANY history (since fix 62b0917
also after failing FUSE mounts). -/
theorem entries_live (ops : List FsMount.Op) (mp tok : Nat)
    (hm : lookup mp (FsMount.run ops).layer = some tok) :
    isLive (FsMount.run ops).ll.lc.core.toks tok = true :=
  (MInv.run ops).live (mp, tok) (lookup_mem hm)

/-- `entries_live` under the premise `fuseOk`, which the proof does not use. -/
theorem entries_live_of_fuseOk (ops : List FsMount.Op) (_h : fuseOk ops = true) (mp tok : Nat)
    (hm : lookup mp (FsMount.run ops).layer = some tok) :
    isLive (FsMount.run ops).ll.lc.core.toks tok = true :=
  entries_live ops mp tok hm

theorem all_entries_live_count (ops : List FsMount.Op) :
    liveEntries (FsMount.run ops) = (FsMount.run ops).layer.length :=
  List.countP_eq_length.2 (MInv.run ops).live

/-- Every entry of `fs.layer` has an open layer (not closed, reader open, blob reference not
given back); its `Check()` passes whenever the connectivity probe does, and `fs.Check` on the
mountpoint succeeds iff the probe or the refresh succeeds. -/
theorem entry_layer_open (ops : List FsMount.Op) (mp tok : Nat)
    (hm : lookup mp (FsMount.run ops).layer = some tok) :
    ∃ lid l, layerOfTok (FsMount.run ops).ll tok = some lid ∧ (FsMount.run ops).ll.layers[lid]? = some l ∧
      l.closed = false ∧ l.readerClosed = false ∧ l.blobDone = 0 ∧
      (∀ probe, holderCheck (FsMount.run ops).ll tok probe = probe) ∧
      (∀ probe reg, check (FsMount.run ops) mp probe reg = if probe || reg then .ok else .errCheck) := by
  have inv := (MInv.run ops).ll
  obtain ⟨tk, ht, hn⟩ := isLive_some (entries_live ops mp tok hm)
  obtain ⟨l, _, _, held⟩ := held_reads inv ht hn
  have hc : ∀ probe, holderCheck (FsMount.run ops).ll tok probe = probe := by
    intro probe
    simp only [holderCheck, held.layerOf]
    exact layerCheck_open inv held.layer held.lopen probe
  refine ⟨tk.rc, l, held.layerOf, held.layer, held.lopen, held.reader, held.blobDone, hc, ?_⟩
  intro probe reg
  simp only [check, hm, hc, held.refresh]
  cases probe <;> cases reg <;> rfl

/-- `entry_layer_open` with the hypothesis, which the proof does not use, that the reference is
unreleased. -/
theorem live_entry_layer_open (ops : List FsMount.Op) (mp tok : Nat)
    (hm : lookup mp (FsMount.run ops).layer = some tok)
    (_hl : isLive (FsMount.run ops).ll.lc.core.toks tok = true) :
    ∃ lid l, layerOfTok (FsMount.run ops).ll tok = some lid ∧ (FsMount.run ops).ll.layers[lid]? = some l ∧
      l.closed = false ∧ l.readerClosed = false ∧ l.blobDone = 0 ∧
      (∀ probe, holderCheck (FsMount.run ops).ll tok probe = probe) ∧
      (∀ probe reg, check (FsMount.run ops) mp probe reg = if probe || reg then .ok else .errCheck) :=
  entry_layer_open ops mp tok hm

/-- Exactly one reference per entry: the entries' holders are pairwise different, and so are the
mountpoints. -/
theorem entries_distinct (ops : List FsMount.Op) :
    ((FsMount.run ops).layer.map (·.2)).Nodup ∧ ((FsMount.run ops).layer.map (·.1)).Nodup :=
  ⟨(MInv.run ops).toks, (MInv.run ops).keys⟩

/-- A failed Mount releases exactly what it acquired: the number of outstanding references is
unchanged, no holder's state changes (closures created by the call are all released), the kernel
mount table is unchanged; `fs.layer` is unchanged, except that a failing FUSE step leaves the
mountpoint without entry. -/
theorem failed_mount_restores (ops : List FsMount.Op) (mp : Nat) (i : MountIn)
    (hf : (mount (FsMount.run ops) mp i).2 ≠ .ok) :
    let s := FsMount.run ops
    let s' := (mount s mp i).1
    liveToks s'.ll.lc.core.toks = liveToks s.ll.lc.core.toks ∧
    (∀ tok, isLive s'.ll.lc.core.toks tok = isLive s.ll.lc.core.toks tok) ∧
    s'.kmounts = s.kmounts ∧
    s'.layer = (if (mount s mp i).2 = .errFuse then erase mp s.layer else s.layer) := by
  intro s s'
  obtain ⟨Y, hT, _, hc⟩ := mount_spec s mp i (MInv.run ops)
  obtain ⟨dead, kmounts, layer⟩ := hc.failed hf
  exact ⟨by rw [hT, liveToks_append, dead]; rfl, fun tok => by rw [hT]; exact isLive_append_dead _ _ dead tok,
    kmounts, layer⟩

/-- A failed Mount on a mountpoint that was not registered leaves `fs.layer` exactly as it was. -/
theorem failed_mount_leaves_map (ops : List FsMount.Op) (mp : Nat) (i : MountIn)
    (hfree : lookup mp (FsMount.run ops).layer = none)
    (hf : (mount (FsMount.run ops) mp i).2 ≠ .ok) :
    (mount (FsMount.run ops) mp i).1.layer = (FsMount.run ops).layer := by
  rw [(failed_mount_restores ops mp i hf).2.2.2, erase_of_lookup_none hfree]
  exact ite_self _

/-- "A failed Mount leaves `fs.layer` as it was", without the premise that the mountpoint is free —
FALSE in one corner: -/
def FailedMountLeavesMapFull : Prop :=
  ∀ ops mp i, (mount (FsMount.run ops) mp i).2 ≠ .ok →
    (mount (FsMount.run ops) mp i).1.layer = (FsMount.run ops).layer

/-- … a failing FUSE step on a mountpoint registered by an EARLIER Mount: the earlier entry was
overwritten (fs.go 336-338) and the deferred branch then deletes the entry; the earlier Mount's
reference stays outstanding with no entry (the leak of `double_mount_leaks`). -/
theorem failed_remount_drops_earlier_entry : ¬ FailedMountLeavesMapFull := by
  intro h
  have := h [.mount 1 { name := 0, o := ⟨true, true, true, true⟩ }] 1
    { name := 0, o := ⟨true, true, true, true⟩, fuse := false } (by decide)
  revert this
  decide

theorem failed_remount_witness :
    let ops : List FsMount.Op := [.mount 1 { name := 0, o := ⟨true, true, true, true⟩ }]
    let m := mount (FsMount.run ops) 1 { name := 0, o := ⟨true, true, true, true⟩, fuse := false }
    (FsMount.run ops).layer = [(1, 0)] ∧ m.2 = .errFuse ∧ m.1.layer = [] ∧
    liveToks m.1.ll.lc.core.toks = 1 ∧ isLive m.1.ll.lc.core.toks 0 = true ∧ m.1.kmounts = [1] := by
  decide

/-- The same statement for the code BEFORE fix 62b0917 (`mountOld`), even restricted to a free
mountpoint — FALSE: -/
def FailedMountLeavesMapOld : Prop :=
  ∀ ops mp i, lookup mp (FsMount.run ops).layer = none → (mountOld (FsMount.run ops) mp i).2 ≠ .ok →
    (mountOld (FsMount.run ops) mp i).1.layer = (FsMount.run ops).layer

/-- … when the FUSE mount failed, the entry written before it stayed in `fs.layer` although its
reference had been released by the deferred `Done()` (the defect fixed by 62b0917). -/
theorem failed_fuse_mount_leaves_stale_entry : ¬ FailedMountLeavesMapOld := by
  intro h
  have := h [] 1 { name := 0, o := ⟨true, true, true, true⟩, fuse := false } (by decide) (by decide)
  revert this
  decide

/-- The witness spelled out (old code): result `errFuse`, the stale entry `(1, 0)`, whose closure is called. -/
theorem failed_fuse_mount_witness :
    let m := mountOld (FsMount.run []) 1 { name := 0, o := ⟨true, true, true, true⟩, fuse := false }
    m.2 = .errFuse ∧ m.1.layer = [(1, 0)] ∧ isLive m.1.ll.lc.core.toks 0 = false ∧
    liveToks m.1.ll.lc.core.toks = 0 ∧ m.1.kmounts = [] := by
  decide

/-- The same input with `mount`: no entry is left. -/
theorem failed_fuse_mount_fixed :
    let m := mount (FsMount.run []) 1 { name := 0, o := ⟨true, true, true, true⟩, fuse := false }
    m.2 = .errFuse ∧ m.1.layer = [] ∧ liveToks m.1.ll.lc.core.toks = 0 ∧ m.1.kmounts = [] := by
  decide

/-- A successful Mount adds exactly one reference, owned by the new entry; other mountpoints keep
their entries. -/
theorem mount_ok_acquires_one (ops : List FsMount.Op) (mp : Nat) (i : MountIn)
    (h : (mount (FsMount.run ops) mp i).2 = .ok) :
    let s := FsMount.run ops
    let s' := (mount s mp i).1
    liveToks s'.ll.lc.core.toks = liveToks s.ll.lc.core.toks + 1 ∧
    ∃ tok, lookup mp s'.layer = some tok ∧ s.ll.lc.core.toks.length ≤ tok ∧
      isLive s'.ll.lc.core.toks tok = true ∧
      (∀ mp', mp' ≠ mp → lookup mp' s'.layer = lookup mp' s.layer) := by
  intro s s'
  obtain ⟨Y, hT, _, hc⟩ := mount_spec s mp i (MInv.run ops)
  cases hc with
  | ok _ live tok new held layer =>
    refine ⟨by rw [hT, liveToks_append, live], tok, ?_, new, held, ?_⟩
    · rw [layer]; exact lookup_insert_self _ _ _
    · intro mp' hne; rw [layer]; exact lookup_insert_ne hne _ _
  | errFuse res => rw [h] at res; cases res
  | errOther res => rcases res with h' | h' <;> (rw [h] at h'; cases h')

/-- `RootNode` never fails inside Mount: the layer is held, hence open (C12), and the verify /
skip-verify step that succeeded installed a reader. -/
theorem mount_never_rootnode_error (ops : List FsMount.Op) (mp : Nat) (i : MountIn) :
    (mount (FsMount.run ops) mp i).2 ≠ .errRootNode := by
  obtain ⟨Y, _, _, hc⟩ := mount_spec (FsMount.run ops) mp i (MInv.run ops)
  intro h
  cases hc with
  | ok res => rw [h] at res; cases res
  | errFuse res => rw [h] at res; cases res
  | errOther res => rcases res with h' | h' <;> (rw [h] at h'; cases h')

/-- Unmount of a registered mountpoint removes that entry and releases that entry's reference —
no other entry, no other holder; the result is ok or the unmount syscall's error (returned AFTER the
release). -/
theorem unmount_releases_own (ops : List FsMount.Op) (mp tok : Nat)
    (hm : lookup mp (FsMount.run ops).layer = some tok) :
    let s := FsMount.run ops
    let s' := (unmount s mp).1
    lookup mp s'.layer = none ∧ (∀ mp', mp' ≠ mp → lookup mp' s'.layer = lookup mp' s.layer) ∧
    isLive s'.ll.lc.core.toks tok = false ∧
    (∀ t, t ≠ tok → isLive s'.ll.lc.core.toks t = isLive s.ll.lc.core.toks t) ∧
    liveToks s'.ll.lc.core.toks + (if isLive s.ll.lc.core.toks tok then 1 else 0) =
      liveToks s.ll.lc.core.toks ∧
    ((unmount s mp).2 = .ok ∨ (unmount s mp).2 = .errUmount) := by
  intro s s'
  obtain ⟨hL, hll, hres, -⟩ := unmount_spec s mp tok hm
  have d := done_toks_spec s.ll tok true
  rw [← hll] at d
  exact ⟨by rw [hL]; exact lookup_erase_self _ _,
    fun mp' hne => by rw [hL]; exact lookup_erase_ne hne _,
    d.self, d.ne, d.liveToks, by rw [hres]; split <;> simp⟩

theorem check_changes_nothing (s : FsMount.State) (mp : Nat) (p r : Bool) :
    (FsMount.step s (.check mp p r)).1 = s := rfl

theorem mountNoSrc_changes_nothing (s : FsMount.State) (mp : Nat) :
    (FsMount.step s (.mountNoSrc mp)).1 = s ∧ (FsMount.step s (.mountNoSrc mp)).2 = .errSrc := ⟨rfl, rfl⟩

theorem unmountEmpty_changes_nothing (s : FsMount.State) :
    (FsMount.step s .unmountEmpty).1 = s ∧ (FsMount.step s .unmountEmpty).2 = .errEmpty := ⟨rfl, rfl⟩

theorem unknown_mountpoint_is_error (s : FsMount.State) (mp : Nat) (hm : lookup mp s.layer = none) :
    (unmount s mp).2 = .errNotMounted ∧ (unmount s mp).1.layer = s.layer ∧
    (unmount s mp).1.ll.lc.core.toks = s.ll.lc.core.toks ∧
    (unmount s mp).1.ll.layers = s.ll.layers ∧ (unmount s mp).1.ll.fsDirs = s.ll.fsDirs ∧
    (unmount s mp).1.kmounts = s.kmounts ∧ ∀ p r, check s mp p r = .errNotRegistered := by
  simp [unmount, check, hm]

/-- Without a Mount on a mountpoint that is already registered, the outstanding references to
layers are exactly the unreleased entries of `fs.layer`. -/
theorem accounting (ops : List FsMount.Op) (h : noRemount {} ops = true) :
    liveToks (FsMount.run ops).ll.lc.core.toks = liveEntries (FsMount.run ops) :=
  ((acct_runFrom ops MInv.init h).symm.trans (Nat.zero_add _)).trans (all_entries_live_count ops).symm

/-- … which are ALL entries (see `entries_live`). -/
theorem accounting_entries (ops : List FsMount.Op) (h : noRemount {} ops = true) :
    liveToks (FsMount.run ops).ll.lc.core.toks = (FsMount.run ops).layer.length :=
  (acct_runFrom ops MInv.init h).symm.trans (Nat.zero_add _)

/-- `accounting_entries` under the premise `fuseOk`, which the proof does not use. -/
theorem accounting_fuseOk (ops : List FsMount.Op) (h : noRemount {} ops = true) (_h2 : fuseOk ops = true) :
    liveToks (FsMount.run ops).ll.lc.core.toks = (FsMount.run ops).layer.length :=
  accounting_entries ops h

/-- Hypothesis-free: no reference is released twice / no entry counts a reference that does not
exist — the unreleased entries never exceed the outstanding references. -/
theorem no_double_release (ops : List FsMount.Op) :
    liveEntries (FsMount.run ops) ≤ liveToks (FsMount.run ops).ll.lc.core.toks :=
  all_entries_live_count ops ▸ (MInv.run ops).gap

/-- The accounting equation without the `noRemount` premise — FALSE: -/
def AccountingFull : Prop :=
  ∀ ops, liveToks (FsMount.run ops).ll.lc.core.toks = liveEntries (FsMount.run ops)

/-- … a second Mount on a registered mountpoint overwrites the entry without releasing the reference
it held (fs.go 336-338): two outstanding references, one entry. -/
theorem double_mount_leaks : ¬ AccountingFull := by
  intro h
  have := h [.mount 1 { name := 0, o := ⟨true, true, true, true⟩ },
             .mount 1 { name := 0, o := ⟨true, true, true, true⟩ }]
  revert this
  decide

/-- The witness spelled out; after `Unmount` one reference is still outstanding and the map is empty. -/
theorem double_mount_witness :
    let ops : List FsMount.Op := [.mount 1 { name := 0, o := ⟨true, true, true, true⟩ },
                                  .mount 1 { name := 0, o := ⟨true, true, true, true⟩ }]
    liveToks (FsMount.run ops).ll.lc.core.toks = 2 ∧ (FsMount.run ops).layer = [(1, 1)] ∧
    liveToks (FsMount.run (ops ++ [.unmount 1])).ll.lc.core.toks = 1 ∧
    (FsMount.run (ops ++ [.unmount 1])).layer = [] := by
  decide

/-- A history satisfying `noRemount` and `fuseOk`: two mounts of one layer (with a neighbouring layer
pre-resolved) on two mountpoints — two entries, two references, one shared layer object. -/
example :
    let i : MountIn := { name := 0, o := ⟨true, true, true, true⟩, neigh := [(1, ⟨true, true, true, true⟩)] }
    let ops : List FsMount.Op := [.mount 1 i, .mount 2 i]
    noRemount {} ops = true ∧ fuseOk ops = true ∧ (FsMount.run ops).layer.length = 2 ∧
    liveToks (FsMount.run ops).ll.lc.core.toks = 2 ∧
    (FsMount.run ops).layer.map (fun p => layerOfTok (FsMount.run ops).ll p.2) = [some 0, some 0] ∧
    (FsMount.run ops).kmounts = [2, 1] := by
  decide

-- Failing steps exist: verify, resolve, FUSE; and Unmount of a registered mountpoint succeeds.
example : (mount {} 1 { name := 0, o := ⟨true, true, true, true⟩, toc := .wrong }).2 = .errVerify := by decide
example : (mount {} 1 { name := 0, o := ⟨true, true, false, true⟩ }).2 = .errResolve := by decide
example : (mount {} 1 { name := 0, o := ⟨true, true, true, true⟩, fuse := false }).2 = .errFuse ∧
    (mount {} 1 { name := 0, o := ⟨true, true, true, true⟩, fuse := false }).1.layer = [] := by decide
example : (mount {} 1 { name := 0, o := ⟨true, true, true, true⟩ }).2 = .ok := by decide
example :
    (unmount (FsMount.run [.mount 1 { name := 0, o := ⟨true, true, true, true⟩ }]) 1).2 = .ok ∧
    lookup 1 (FsMount.run [.mount 1 { name := 0, o := ⟨true, true, true, true⟩ }]).layer = some 0 := by decide

/-- A failing Mount (verify) and a failing FUSE step in the middle of a history satisfying `noRemount`. -/
example :
    let ops : List FsMount.Op := [.mount 1 { name := 0, o := ⟨true, true, true, true⟩ },
      .mount 2 { name := 0, o := ⟨true, true, true, true⟩, toc := .wrong },
      .mount 3 { name := 0, o := ⟨true, true, true, true⟩, fuse := false }, .unmount 1]
    noRemount {} ops = true ∧ fuseOk ops = false ∧ (FsMount.run ops).layer = [] ∧
    liveToks (FsMount.run ops).ll.lc.core.toks = 0 := by
  decide

end SV.Props.C12b
