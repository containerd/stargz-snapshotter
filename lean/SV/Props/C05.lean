/-
C05 — Memory and DB metadata stores expose the same filesystem for the same blob.

The two interpreters (`memTree`, `dbTree`), the canonical `view`, the bolt model and the decidable fragments
`SpecConformingR` ⊇ `SpecConforming` are in `SV.Model.Toc`; unqualified names of the simulation are those of
namespace `SV.Toc.R`.  The digest span (`tocDigestSpan`) is tied to the implementation by the driver only, no
theorem speaks of it; `Entry.innerOffset` is read by neither interpreter.
-/
import SV.Lemmas.TocSim
import SV.Lemmas.TocFragments

namespace SV.Props.C05
open SV.Toc SV.Toc.R

/-- `cleanEntryName` is idempotent: cleaning the rendering of a cleaned name changes nothing
(both stores clean every name and link target, the db store several times). -/
theorem cleanName_idem (s : String) : cleanName (renderPath (cleanName s)) = cleanName s :=
  cleanName_render s

/-- every component of a cleaned name is a plain one: not empty, not `.`, not `..`, no slash -/
theorem cleanName_components_plain (s : String) :
    ∀ c ∈ cleanChars s.toList, c ≠ [] ∧ c ≠ ['.'] ∧ c ≠ ['.', '.'] ∧ '/' ∉ c :=
  cleanChars_plain s.toList

/-- Attribute encoding round trip of the db store: what `readAttr` gives back for a bucket
written by `writeAttr` is the original `Attr` as far as a container can observe it
(first-xattr/extra-xattr split, zero-valued keys left out, `numLink - 1` offset). -/
theorem attr_roundtrip (a : Attr) (hm : a.mode < 4294967296) (hx : (a.xattrs.map Prod.fst).Nodup) :
    normalise (readAttr (writeAttr {} a)) = normalise a :=
  readAttr_writeAttr a hm hx

/-- `sort.Search` as both `ChunkEntryForOffset`s call it: total and in range for ANY predicate
(an arbitrary chunk table cannot drive the index out of the table). -/
theorem searchFirst_in_range (n : Nat) (f : Nat → Bool) : searchFirst n f ≤ n :=
  searchFirst_le n f

/-- Chunk tables, row level: the memory store's rows (sizes taken from the TOC, `single` shortcut
for files with fewer than two rows) and the db store's rows (only offsets and digests are stored,
sizes recomputed from the neighbouring offsets by `readChunks`) answer `ChunkEntryForOffset`
identically for every file offset, when the TOC rows tile `[0, size)`. -/
theorem chunk_lookup_rows_agree (size : Int) (m d : List Chunk) (hc : Contig 0 size m)
    (he : d.map eraseSize = m.map eraseSize) (x : Int) (hx : 0 ≤ x) :
    (match m with
     | [] => ChunkTab.single 0 0 ""
     | [r] => ChunkTab.single r.chunkOffset r.chunkSize r.digest
     | _ => ChunkTab.table m).lookup x = (ChunkTab.table (readChunks d size)).lookup x :=
  lookup_rows_agree size m d hc he x hx

/-- **Both stores accept every SpecConformingR TOC and expose the same filesystem**: the canonical
views (sorted names, FUSE-normalised attributes incl. link counts and xattrs, node identity of
hardlinked names, `GetOffset`, `OpenFile` outcome, chunk triples at every probe offset) of
`memTree es` and `dbTree es` are equal.

`SpecConformingR` (decidable, `SV.Model.Toc`) allows implicit parent directories at any depth,
directories announced again — any number of times, anywhere after their first entry — by entries
with the same attributes (the memory store keeps the last such entry as the node, the db store the
node of the first: the proof relates the two trees up to that renaming), hardlinks to earlier
entries including hardlinks to hardlinks by any spelling, entries without per-file digest, `./`,
`../`, `//` spellings, arbitrary (also empty-valued) xattrs, any modes and owners, several files
in one stream (offsets are unconstrained), chunked files whose rows tile the file.  It excludes
what the CURRENT stores are observed to disagree on (known findings, replayed on the
implementation every run): an entry for the root directory itself, a directory whose first entry
comes after something below it, a directory announced again with other attributes, any other name
used twice, data entries that carry a digest but no chunkDigest, offsets on entries without
data. -/
theorem stores_agree (es : List Entry) (sc : SpecConformingR es) :
    ∃ tm td, memTree es = .accept tm ∧ dbTree es = .accept td ∧ view tm = view td :=
  views_agree sc

/-- the same, on `viewOf`: equal views, and neither store rejects -/
theorem stores_agree_viewOf (es : List Entry) (sc : SpecConformingR es) :
    viewOf (memTree es) = viewOf (dbTree es) ∧ (viewOf (memTree es)).isSome := by
  obtain ⟨tm, td, h1, h2, h3⟩ := views_agree sc
  rw [h1, h2]; simp [viewOf, h3]

/-- the fragment without repeated names (on which C02's bridge to the tar view is stated) is
included -/
theorem spec_conforming_included (es : List Entry) (sc : SpecConforming es) : SpecConformingR es :=
  spec_of_nodup sc

/-- **Both `ChunkEntryForOffset`s return the same triple for every file offset of every node**:
the nodes both stores list are the same (same paths in the same order, the db store's node ids
being a renaming `g` of the memory store's), and for each of them the memory store's lookup
(binary search over `r.chunks[name]`, or the single-entry shortcut) and the db store's lookup
(binary search over the table `readChunks` rebuilds) agree at every offset `≥ 0`. -/
theorem chunk_lookup_agree (es : List Entry) (sc : SpecConformingR es) :
    ∃ (tm td : Tree) (g : Key → Key), memTree es = .accept tm ∧ dbTree es = .accept td ∧
      (listing td maxDepth [] td.root []).1 =
        (listing tm maxDepth [] tm.root []).1.map (fun pk => (pk.1, g pk.2)) ∧
      ∀ pk, pk ∈ (listing tm maxDepth [] tm.root []).1 → ∀ x : Int, 0 ≤ x →
        (tm.node pk.2).chunks.lookup x = (td.node (g pk.2)).chunks.lookup x := by
  obtain ⟨smF, sdF, t⟩ := trees_agree sc
  have hl := listing_agree t.agree maxDepth [] Key.root [] t.agree.rootC (by intro s h; cases h)
  refine ⟨_, _, canon (pass1 es), t.mem, t.db, ?_,
    fun pk hpk x hx => (t.agree.node pk.2 (hl.paths pk hpk)).lookup x hx⟩
  exact congrArg Prod.fst hl.eq

/-- The statement in the wording of DESIGN.md: `es` is a TOC without repeated
names followed by repetitions of some of its directory entries (same fields, any spelling of the
name).  Proved below (`stores_agree_full`) as an instance of `stores_agree`, whose fragment also
lets the repetitions stand anywhere after the first entry. -/
def StoresAgreeFull : Prop :=
  ∀ es : List Entry,
    (∃ es' : List Entry, SpecConforming es' ∧
      ∃ dup : List (Nat × Entry), (∀ d ∈ dup, ∃ h : d.1 < es'.length,
          es'[d.1].type = "dir" ∧ d.2.type = "dir" ∧ cleanName d.2.name = cleanName es'[d.1].name ∧
          { d.2 with name := "" } = { es'[d.1] with name := "" }) ∧
        es = es' ++ dup.map Prod.snd) →
    viewOf (memTree es) = viewOf (dbTree es)

/-- **`StoresAgreeFull` holds**: a TOC without repeated names followed by repetitions of some of
its directory entries lies in `SpecConformingR`, so `stores_agree` applies. -/
theorem stores_agree_full : StoresAgreeFull := by
  rintro es ⟨es', sc, dup, hdup, e⟩
  subst e
  exact (stores_agree_viewOf _ (spec_of_dups sc dup hdup)).1

/-- Operations on other layers leave layer `b`'s tree exactly as it was: several layers opened,
queried and closed in any order in one database do not influence each other. -/
theorem layers_isolated (s : Bolt) (ops : List BoltOp) (b : Nat)
    (h : ∀ op ∈ ops, op.target ≠ b) : Bolt.get (ops.foldl applyOp s) b = Bolt.get s b := by
  induction ops generalizing s with
  | nil => rfl
  | cons op ops ih =>
    rw [List.foldl_cons, ih (applyOp s op) (fun o ho => h o (List.mem_cons_of_mem _ ho))]
    exact get_applyOp_ne s op b (h op (List.mem_cons_self ..))

/-- `Close` removes the closed layer (and no other: `layers_isolated`). -/
theorem close_removes (s : Bolt) (a : Nat) : Bolt.get (s.closeFs a) a = none :=
  get_filter_self s a

/-- a freshly opened layer is found (only presence is stated, not that the tree is `t`) -/
theorem open_serves (s : Bolt) (a : Nat) (t : Tree) : (Bolt.get (s.openFs a t) a).isSome :=
  get_openFs_self s a t ▸ rfl

/-- a TOC with implicit parents three levels deep, a chunked file whose last row has no size, a
directory with two empty-valued xattrs, a hardlink by an odd spelling, a hardlink to that
hardlink, an empty file and a symlink -/
def exampleTOC : List Entry := [
  { name := "./a/b/c.txt", type := "reg", size := 10, chunkSize := 4, offset := 100, chunkDigest := "d0" },
  { name := "a/b/c.txt", type := "chunk", chunkOffset := 4, chunkSize := 4, offset := 200, chunkDigest := "d1" },
  { name := "", type := "chunk", chunkOffset := 8, offset := 300, chunkDigest := "d2" },
  { name := "../a/x/", type := "dir", mode := 0o755, xattrs := [("user.a", ""), ("user.b", "")] },
  { name := "a/x/l1", type := "hardlink", linkName := "/a/b/../b/c.txt" },
  { name := "l2", type := "hardlink", linkName := "a/x/l1" },
  { name := "a/x/empty", type := "reg" },
  { name := "s", type := "symlink", linkName := "a/b" } ]

set_option maxRecDepth 100000 in
example : SpecConforming exampleTOC := by decide +kernel

/-- the same with the directory `a/x` announced three times (once before, twice after its
children, by another spelling), below an implicit directory, and `b` announced twice in a row -/
def exampleTOCRepeated : List Entry := [
  { name := "a/x/", type := "dir", mode := 0o755, xattrs := [("user.a", "")] },
  { name := "a/x/f", type := "reg", size := 3, offset := 50, chunkDigest := "d" },
  { name := "./a/x", type := "dir", mode := 0o755, xattrs := [("user.a", "")] },
  { name := "a/x/l", type := "hardlink", linkName := "a/x/f" },
  { name := "a/x/", type := "dir", mode := 0o755, xattrs := [("user.a", "")] },
  { name := "b", type := "dir", mode := 0o700 },
  { name := "b/", type := "dir", mode := 0o700 } ]

set_option maxRecDepth 100000 in
example : SpecConformingR exampleTOCRepeated := by decide +kernel

set_option maxRecDepth 100000 in
example : ¬ SpecConforming exampleTOCRepeated := by decide +kernel

example : cleanName "./a/../b//c/./d/.." = ["b", "c"] := by decide +kernel

example : Contig 0 10 [⟨0, 4, "d0", 100⟩, ⟨4, 4, "d1", 200⟩, ⟨8, 2, "d2", 300⟩] := by
  simp [Contig]

example : (readAttr (writeAttr {} { mode := 0o644, numLink := 1, xattrs := [("user.a", ""), ("user.b", "v")] })).xattrs
    = [("user.a", ""), ("user.b", "v")] := by decide

end SV.Props.C05
