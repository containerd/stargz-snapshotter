/-
C06 — regenerated tie.  `SV/Gen/Remote.lean` is produced from the CURRENT Go sources by
`tools/go2lean` on every run: `region.size`, `regionSet.totalSize` (a `for range` loop, translated
to `List.foldl`) and `superRegion` of fs/remote/util.go.  A Go `region` is translated to the pair
`(b, e)`.  The theorems state that the translated code is the hand-written model `SV.Region`.
Not modelled by the translation: int64 overflow; the index panic of `regs[0]` on an empty slice
(the translation yields `default`; the theorem is stated for non-empty lists, where the model
returns `some`).
-/
import SV.Gen.Remote
import SV.Model.Region

namespace SV.Props.C06gen2
open SV

def toR (p : Int × Int) : Region.Region := ⟨p.1, p.2⟩

theorem region_size_eq (b e : Int) : Gen.Remote.region_size b e = Region.Region.size ⟨b, e⟩ := by
  unfold Gen.Remote.region_size Region.Region.size
  rfl

private theorem foldl_total (rs : List (Int × Int)) (a : Int) :
    List.foldl (fun (a1 : Int) (e0 : Int × Int) => a1 + Gen.Remote.region_size e0.1 e0.2) a rs
      = a + Region.totalSize (rs.map toR) := by
  induction rs generalizing a with
  | nil => simp [Region.totalSize]
  | cons r rs ih =>
    simp only [List.foldl_cons, List.map_cons, Region.totalSize, ih]
    simp only [Gen.Remote.region_size, Region.Region.size, toR]
    omega

/-- Go `regionSet.totalSize()` (the loop over `rs.rs`) is the model's `totalSize`, for every list. -/
theorem totalSize_eq (rs : List (Int × Int)) : Gen.Remote.totalSize rs = Region.totalSize (rs.map toR) := by
  unfold Gen.Remote.totalSize
  simpa using foldl_total rs 0

/-- one iteration of the translated `superRegion` loop -/
private def stepG (s e : Int × Int) : Int × Int :=
  let s : Int × Int := if decide (e.1 < s.1) = true then (e.1, s.2) else s
  if decide (e.2 > s.2) = true then (s.1, e.2) else s

/-- the step of `Region.superRegion` -/
private def stepM (s reg : Region.Region) : Region.Region :=
  let s := if reg.b < s.b then { s with b := reg.b } else s
  if reg.e > s.e then { s with e := reg.e } else s

private theorem step_eq (s e : Int × Int) : toR (stepG s e) = stepM (toR s) (toR e) := by
  unfold stepG stepM toR
  by_cases h1 : e.1 < s.1 <;> by_cases h2 : e.2 > s.2 <;> simp [h1, h2]

private theorem foldl_super (l : List (Int × Int)) (s : Int × Int) :
    toR (List.foldl stepG s l) = List.foldl stepM (toR s) (l.map toR) := by
  induction l generalizing s with
  | nil => rfl
  | cons x xs ih => simp only [List.foldl_cons, List.map_cons, ih, step_eq]

/-- Go `superRegion(regs)` on a non-empty slice is the model's `superRegion`. -/
theorem superRegion_eq (r0 : Int × Int) (rest : List (Int × Int)) :
    Region.superRegion ((r0 :: rest).map toR) = some (toR (Gen.Remote.superRegion (r0 :: rest))) := by
  have h : Gen.Remote.superRegion (r0 :: rest) = List.foldl stepG r0 (r0 :: rest) := rfl
  rw [h, foldl_super]
  rfl

example : Gen.Remote.superRegion [(5, 9), (2, 3), (7, 20)] = (2, 20) ∧ Gen.Remote.totalSize [(0, 9), (20, 24)] = 15 := by
  decide

end SV.Props.C06gen2
