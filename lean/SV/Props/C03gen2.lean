/-
C03 — regenerated tie.  The reserved entry names of estargz/types.go, regenerated from the
CURRENT Go sources by `tools/go2lean` on every run, are the names the hand-written model of
`sortEntries` / `appendTar` (`SV.Sort`, the model of C14) uses; the tie of C03's own model
(`SV.Writer`) is Props/C14gen2.lean.
-/
import SV.Gen.Estargz
import SV.Model.Sort

namespace SV.Props.C03gen2
open SV

theorem tocTarName_eq : Gen.Estargz.TOCTarName = Sort.tocTarName := rfl
theorem prefetchLandmark_eq : Gen.Estargz.PrefetchLandmark = Sort.prefetchLandmark := rfl
theorem noPrefetchLandmark_eq : Gen.Estargz.NoPrefetchLandmark = Sort.noPrefetchLandmark := rfl

example : Gen.Estargz.PrefetchLandmark ≠ Gen.Estargz.NoPrefetchLandmark := by decide

end SV.Props.C03gen2
