/-
C06 — Remote blob reads are byte-exact; fetched size = number of distinct bytes stored,
never exceeds the blob size, never decreases.

Part A: the fetched-region bookkeeping (`regionSet`, fs/remote/util.go).
-/
import SV.Lemmas.Region

namespace SV.Props.C06
open SV.Region

/-- `regionSet.add` keeps the set well-formed (sorted, disjoint, non-adjacent, non-empty regions). -/
theorem add_wf (rs : List Region) (r : Region) (h : WF rs) (hr : r.b ≤ r.e) : WF (add rs r) :=
  wf_add h hr

/-- `regionSet.add` covers exactly the old bytes plus the bytes of `r`.  (Holds for every `rs` and
`r`: the proof uses neither `h` nor `hr`.) -/
theorem add_cov (rs : List Region) (r : Region) (h : WF rs) (hr : r.b ≤ r.e) (x : Int) :
    cov x (add rs r) ↔ cov x rs ∨ (r.b ≤ x ∧ x ≤ r.e) :=
  cov_add rs r x

/-- All regions stay inside the blob `[0,N)`. -/
def InBlob (N : Nat) (rs : List Region) : Prop := ∀ l ∈ rs, 0 ≤ l.b ∧ l.e < N

/-- The proof uses neither `h` nor `hr`. -/
theorem add_inBlob (N : Nat) (rs : List Region) (r : Region) (h : WF rs) (hr : r.b ≤ r.e)
    (hin : InBlob N rs) (hrin : 0 ≤ r.b ∧ r.e < N) : InBlob N (add rs r) :=
  add_ends (0 ≤ ·) (· < (N : Int)) rs r hin hrin.1 hrin.2

/-- The region set after the commits `hist`, from the empty set (the theorems take `hist` with
`ValidHist`: non-empty regions inside the blob). -/
def fetched (hist : List Region) : List Region := hist.foldl add []

def ValidHist (N : Nat) (hist : List Region) : Prop := ∀ r ∈ hist, 0 ≤ r.b ∧ r.b ≤ r.e ∧ r.e < N

theorem history_inv (N : Nat) (hist : List Region) (hv : ValidHist N hist) :
    ∀ (rs : List Region), WF rs → InBlob N rs →
      WF (hist.foldl add rs) ∧ InBlob N (hist.foldl add rs) ∧
      ∀ x, cov x (hist.foldl add rs) ↔ cov x rs ∨ ∃ r ∈ hist, r.b ≤ x ∧ x ≤ r.e := by
  intro rs h hin
  exact ⟨wf_foldl_add hist (fun r hr => (hv r hr).2.1) rs h, foldl_add_ends (0 ≤ ·) (· < (N : Int)) hist rs (fun r hr => ⟨(hv r hr).1, (hv r hr).2.2⟩) hin,
    fun x => cov_foldl_add x hist rs⟩

/-- `FetchedSize` equals the number of distinct blob bytes committed by the history. -/
theorem fetchedSize_counts_distinct_bytes (N : Nat) (hist : List Region) (hv : ValidHist N hist) :
    totalSize (fetched hist) = (countCov N (fetched hist) : Int) ∧
    ∀ x, cov x (fetched hist) ↔ ∃ r ∈ hist, r.b ≤ x ∧ x ≤ r.e := by
  obtain ⟨h1, h2, h3⟩ := history_inv N hist hv [] wf_nil nofun
  refine ⟨totalSize_eq_count N _ h1 h2, ?_⟩
  intro x
  rw [fetched, h3 x, or_iff_right (cov_nil x)]

/-- `FetchedSize` never exceeds the blob size. -/
theorem fetchedSize_le_size (N : Nat) (hist : List Region) (hv : ValidHist N hist) :
    totalSize (fetched hist) ≤ N :=
  let ⟨h1, h2, _⟩ := history_inv N hist hv [] wf_nil nofun
  totalSize_le N h1 h2

/-- `FetchedSize` never decreases, whatever is committed next. -/
theorem fetchedSize_mono (N : Nat) (hist : List Region) (r : Region)
    (hv : ValidHist N (hist ++ [r])) :
    totalSize (fetched hist) ≤ totalSize (fetched (hist ++ [r])) := by
  obtain ⟨h1, h2, _⟩ := history_inv N hist (fun r' h' => hv r' (List.mem_append_left _ h')) []
    wf_nil nofun
  have hr := hv r (List.mem_append_right _ (List.mem_singleton_self r))
  simp only [fetched, List.foldl_append, List.foldl_cons, List.foldl_nil]
  exact totalSize_mono N h1 h2 (wf_add h1 hr.2.1) (add_ends (0 ≤ ·) (· < (N : Int)) _ r h2 hr.1 hr.2.2)
    fun x hx => (cov_add _ r x).mpr (Or.inl hx)

-- non-vacuity: a concrete history with overlap, adjacency, containment and out-of-order commits
example : ValidHist 100 [⟨10, 19⟩, ⟨40, 49⟩, ⟨20, 29⟩, ⟨0, 99⟩, ⟨5, 5⟩] := by
  unfold ValidHist; decide
example : fetched [⟨10, 19⟩, ⟨40, 49⟩, ⟨20, 29⟩] = [⟨10, 29⟩, ⟨40, 49⟩] := rfl
example : WF [⟨10, 29⟩, ⟨40, 49⟩] := by decide

end SV.Props.C06
