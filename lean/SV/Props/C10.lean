/-
C10 — Refcounted caches finalise each value exactly once and never while it is held
(`TTLCache`, `LRUCache` in util/cacheutil).

Premise for "every interleaving": every exported method of both caches, the timer function and every
`done` closure takes the cache mutex first and holds it for its whole body (observed on every run
by the concurrent harness of checks/C10.py on a -race build).  Every schedule of goroutines is
therefore some sequence of the atomic operations `TOp` / `LOp`, and all theorems below quantify
over ALL such sequences (`TTL.run ops`, `LRU.run cap ops` = the state after the history `ops` from a
fresh cache), proved by an invariant that every operation preserves (SV/Lemmas/Refcount.lean).

Vocabulary: a value is its refCounter's index `id` in `core.rcs`; `r.calls` = how often the
eviction callback ran for it; `held toks id` = closures handed out for it whose `once` has not fired
(= holders); `TTL.member` / `LRU.member` = the cache still stores it under its key.
-/
import SV.Lemmas.Refcount

namespace SV.Props.C10
open SV.Refcount

/-- `refCounts` = 1 for cache membership + 1 per holder, after every history. -/
theorem ttl_refs_eq (ops : List TOp) (id : Nat) (r : RC)
    (hr : (TTL.run ops).core.rcs[id]? = some r) :
    r.refs = (if (TTL.run ops).m r.key = some id then 1 else 0) + (held (TTL.run ops).core.toks id : Int) :=
  (TInv.run ops).stores.refs_eq hr

/-- The callback runs at most once per value, whatever the history. -/
theorem ttl_callback_at_most_once (ops : List TOp) (id : Nat) (r : RC)
    (hr : (TTL.run ops).core.rcs[id]? = some r) : r.calls ≤ 1 :=
  ((TInv.run ops).core.ok id r hr).calls_le_one

/-- The callback has run (exactly once) iff the value has left the cache AND every closure
obtained for it has been called — so never while cached, never while held, and as soon as both
are true. -/
theorem ttl_callback_iff_dead (ops : List TOp) (id : Nat) (r : RC)
    (hr : (TTL.run ops).core.rcs[id]? = some r) :
    r.calls = 1 ↔ (¬ (TTL.run ops).member id r ∧ held (TTL.run ops).core.toks id = 0) :=
  (TInv.run ops).stores.calls_iff hr

/-- A holder never sees its value finalised: while a closure has not been called, the callback
of its value has not run. -/
theorem ttl_held_not_finalised (ops : List TOp) (tok : Nat) (t : Tok)
    (ht : (TTL.run ops).core.toks[tok]? = some t) (hn : t.once = false) :
    ∃ r, (TTL.run ops).core.rcs[t.rc]? = some r ∧ r.calls = 0 :=
  (TInv.run ops).core.held_calls ht hn

/-- `Get` only ever returns values whose callback has not run. -/
theorem ttl_cached_not_finalised (ops : List TOp) (k id : Nat) (hm : (TTL.run ops).m k = some id) :
    ∃ r, (TTL.run ops).core.rcs[id]? = some r ∧ r.key = k ∧ r.calls = 0 :=
  (TInv.run ops).stores.cached_calls hm

/-- Nothing leaks: after any history, once every closure has been called and the key of every value
ever added has been removed, every value ever added has been finalised exactly once. -/
theorem ttl_no_leak (ops : List TOp) :
    (TTL.run (ops ++ (TTL.run ops).drainOps)).core.rcs.length = (TTL.run ops).core.rcs.length ∧
    ∀ (id : Nat) (r : RC), (TTL.run (ops ++ (TTL.run ops).drainOps)).core.rcs[id]? = some r → r.calls = 1 := by
  rw [TTL.run_append]; exact (TInv.run ops).drained

/-- Calling a closure again (non-evicting) changes nothing at all — in particular no second
decrement and no callback. -/
theorem ttl_double_done_harmless (ops : List TOp) (tok : Nat) (t : Tok)
    (ht : (TTL.run ops).core.toks[tok]? = some t) (ho : t.once = true) :
    (TTL.run ops).step (.done tok false) = (TTL.run ops, .unit) :=
  TTL.done_false_released ht ho

/-- Calling a closure twice with the same argument (evicting or not) is the same as calling it
once. -/
theorem ttl_done_idempotent (ops : List TOp) (tok : Nat) (e : Bool) :
    (((TTL.run ops).step (.done tok e)).1.step (.done tok e)).1 = ((TTL.run ops).step (.done tok e)).1 :=
  TTL.done_done _ tok e

/-- `Add` of a key that is cached returns the cached value with `added = false`, hands out a new
closure for it, and does not replace it (the map is unchanged, the value keeps key and payload). -/
theorem ttl_add_existing_returns_cached (ops : List TOp) (k v id : Nat)
    (hm : (TTL.run ops).m k = some id) :
    ∃ r, (TTL.run ops).core.rcs[id]? = some r ∧
      ((TTL.run ops).step (.add k v)).2 = .got r.val (TTL.run ops).core.toks.length false ∧
      ((TTL.run ops).step (.add k v)).1.m = (TTL.run ops).m ∧
      ∃ r', ((TTL.run ops).step (.add k v)).1.core.rcs[id]? = some r' ∧ r'.val = r.val ∧ r'.key = k ∧
        r'.calls = 0 := by
  obtain ⟨r, r', hr, hv, hr', h'⟩ := (TInv.run ops).stores.newTok_cached hm
  have hst : (TTL.run ops).step (.add k v) = _ := TTL.add_cached v hm
  rw [hst, hv]
  exact ⟨r, hr, rfl, rfl, r', hr', h'⟩

/-- An evicting release (`done(true)`) by a holder of an old value does not remove any other value
from the cache — in particular not a newer value re-added under the same key. -/
theorem ttl_evicting_release_spares_newer (ops : List TOp) (tok : Nat) (t : Tok) (k id' : Nat)
    (ht : (TTL.run ops).core.toks[tok]? = some t)
    (hm : (TTL.run ops).m k = some id') (hne : id' ≠ t.rc) :
    ((TTL.run ops).step (.done tok true)).1.m k = some id' :=
  TTL.done_true_spares ht hm hne

/-- … while it does remove its own value if that is still the cached one. -/
theorem ttl_evicting_release_removes_own (ops : List TOp) (tok : Nat) (t : Tok) (k : Nat)
    (ht : (TTL.run ops).core.toks[tok]? = some t) (hm : (TTL.run ops).m k = some t.rc) :
    ((TTL.run ops).step (.done tok true)).1.m k = none :=
  (TInv.run ops).done_true_removes_own ht hm

theorem lru_refs_eq (cap : Nat) (ops : List LOp) (id : Nat) (r : RC)
    (hr : (LRU.run cap ops).core.rcs[id]? = some r) [Decidable ((LRU.run cap ops).member id r)] :
    r.refs = (if (LRU.run cap ops).member id r then 1 else 0) + (held (LRU.run cap ops).core.toks id : Int) :=
  @Stores.refs_eq _ _ (LInv.run cap ops).inv0.stores id r hr
    (inferInstanceAs (Decidable ((LRU.run cap ops).member id r)))

theorem lru_callback_at_most_once (cap : Nat) (ops : List LOp) (id : Nat) (r : RC)
    (hr : (LRU.run cap ops).core.rcs[id]? = some r) : r.calls ≤ 1 :=
  ((LInv.run cap ops).inv0.core.ok id r hr).calls_le_one

theorem lru_callback_iff_dead (cap : Nat) (ops : List LOp) (id : Nat) (r : RC)
    (hr : (LRU.run cap ops).core.rcs[id]? = some r) :
    r.calls = 1 ↔ (¬ (LRU.run cap ops).member id r ∧ held (LRU.run cap ops).core.toks id = 0) :=
  (LInv.run cap ops).inv0.stores.calls_iff hr

theorem lru_held_not_finalised (cap : Nat) (ops : List LOp) (tok : Nat) (t : Tok)
    (ht : (LRU.run cap ops).core.toks[tok]? = some t) (hn : t.once = false) :
    ∃ r, (LRU.run cap ops).core.rcs[t.rc]? = some r ∧ r.calls = 0 :=
  (LInv.run cap ops).inv0.core.held_calls ht hn

theorem lru_cached_not_finalised (cap : Nat) (ops : List LOp) (k id : Nat)
    (hm : (k, id) ∈ (LRU.run cap ops).order) :
    ∃ r, (LRU.run cap ops).core.rcs[id]? = some r ∧ r.key = k ∧ r.calls = 0 :=
  (LInv.run cap ops).inv0.stores.cached_calls hm

theorem lru_no_leak (cap : Nat) (ops : List LOp) :
    (LRU.run cap (ops ++ (LRU.run cap ops).drainOps)).core.rcs.length = (LRU.run cap ops).core.rcs.length ∧
    ∀ (id : Nat) (r : RC),
      (LRU.run cap (ops ++ (LRU.run cap ops).drainOps)).core.rcs[id]? = some r → r.calls = 1 := by
  rw [LRU.run_append]; exact (LInv.run cap ops).drained

theorem lru_double_done_harmless (cap : Nat) (ops : List LOp) (tok : Nat) (t : Tok)
    (ht : (LRU.run cap ops).core.toks[tok]? = some t) (ho : t.once = true) :
    (LRU.run cap ops).step (.done tok) = (LRU.run cap ops, .unit) :=
  LRU.done_released ht ho

theorem lru_done_idempotent (cap : Nat) (ops : List LOp) (tok : Nat) :
    (((LRU.run cap ops).step (.done tok)).1.step (.done tok)).1 = ((LRU.run cap ops).step (.done tok)).1 :=
  LRU.done_done _ tok

/-- `Add` of a cached key returns the cached value with `added = false` and keeps exactly the same
set of entries (only the recency order changes). -/
theorem lru_add_existing_returns_cached (cap : Nat) (ops : List LOp) (k v id : Nat)
    (hm : (k, id) ∈ (LRU.run cap ops).order) :
    ∃ r, (LRU.run cap ops).core.rcs[id]? = some r ∧
      ((LRU.run cap ops).step (.add k v)).2 = .got r.val (LRU.run cap ops).core.toks.length false ∧
      (∀ e, e ∈ ((LRU.run cap ops).step (.add k v)).1.order ↔ e ∈ (LRU.run cap ops).order) ∧
      ∃ r', ((LRU.run cap ops).step (.add k v)).1.core.rcs[id]? = some r' ∧ r'.val = r.val ∧ r'.key = k ∧
        r'.calls = 0 := by
  have inv := (LInv.run cap ops).inv0
  obtain ⟨r, r', hr, hv, hr', h'⟩ := inv.stores.newTok_cached hm
  have hst : (LRU.run cap ops).step (.add k v) = _ := LRU.add_cached v (find_of_mem inv.nodup hm)
  rw [hst, hv]
  exact ⟨r, hr, rfl, moveToFront_mem inv.nodup hm, r', hr', h'⟩

/-- Releasing a closure never changes which values are cached (LRU `done` has no evicting form). -/
theorem lru_release_keeps_entries (cap : Nat) (ops : List LOp) (tok : Nat) :
    ((LRU.run cap ops).step (.done tok)).1.order = (LRU.run cap ops).order :=
  LRU.done_order _ tok

/-- A bounded LRU never holds more than `MaxEntries` entries, whatever is still held. -/
theorem lru_size_bound (cap : Nat) (ops : List LOp) (hc : cap ≠ 0) :
    (LRU.run cap ops).order.length ≤ cap := by
  have h := (LInv.run cap ops).capOk
  rw [LRU.run_cap] at h
  exact h hc

-- the model can express a double callback: a second `dec` at zero fires again
example : (RC.dec (RC.dec { key := 0, val := 0, refs := 1 })).calls = 2 := by decide

-- hypotheses of `ttl_evicting_release_spares_newer`: value 0 held by closure 0, expired, key re-added
example : (TTL.run [.add 0 10, .expire 0, .add 0 11]).core.toks[0]? = some ⟨0, false⟩ := by decide
example : (TTL.run [.add 0 10, .expire 0, .add 0 11]).m 0 = some 1 := by decide
-- … and what the old holder's evicting release does: value 0 finalised once, value 1 still cached
example : (TTL.run [.add 0 10, .expire 0, .add 0 11, .done 0 true]).m 0 = some 1 := by decide
example : ((TTL.run [.add 0 10, .expire 0, .add 0 11, .done 0 true]).core.rcs.map (·.calls)) = [1, 0] := by
  decide
-- both sides of `ttl_callback_iff_dead` occur: held after removal (not yet), then released (fired)
example : ((TTL.run [.add 0 10, .get 0, .remove 0, .done 0 false]).core.rcs.map (·.calls)) = [0] := by decide
example : held (TTL.run [.add 0 10, .get 0, .remove 0, .done 0 false]).core.toks 0 = 1 := by decide
example : ((TTL.run [.add 0 10, .get 0, .remove 0, .done 0 false, .done 1 false]).core.rcs.map (·.calls)) = [1] := by
  decide
-- hypotheses of `ttl_double_done_harmless` / `ttl_add_existing_returns_cached`
example : (TTL.run [.add 0 10, .done 0 false]).core.toks[0]? = some ⟨0, true⟩ := by decide
example : ((TTL.run [.add 0 10]).step (.add 0 11)).2 = .got 10 1 false := by decide
-- draining a state with a held, already replaced value and a cached one
example : (TTL.run [.add 0 10, .expire 0, .add 0 11]).drainOps
    = [.done 0 false, .done 1 false, .remove 0, .remove 0] := by decide
-- LRU: capacity eviction while held does not fire; the release does; the bound is tight
example : ((LRU.run 1 [.add 0 10, .add 1 11]).order, (LRU.run 1 [.add 0 10, .add 1 11]).core.rcs.map (·.calls))
    = ([(1, 1)], [0, 0]) := by decide
example : ((LRU.run 1 [.add 0 10, .add 1 11, .done 0]).core.rcs.map (·.calls)) = [1, 0] := by decide
example : (LRU.run 2 [.add 0 10, .add 1 11, .get 0, .add 2 12]).order = [(2, 2), (0, 0)] := by decide
example : (LRU.run 0 [.add 0 10, .add 1 11, .add 2 12]).order.length = 3 := by decide
example : (LRU.run 1 [.add 0 10, .add 1 11, .add 0 12]).member 2 ⟨0, 12, 2, true, false, 0⟩ := by
  unfold LRU.member; decide

end SV.Props.C10
