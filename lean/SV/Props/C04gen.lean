/-
C04 — regenerated tie.  `SV/Gen/Arith.lean` is produced from the CURRENT Go sources by
`tools/go2lean` on every run.  The theorems state that the translated guards are exactly the ones
the hand-written C04 model uses, so weakening `chunkContains` (fs/reader) or one of the `positive`
helpers in the Go code breaks a proof obligation here.
-/
import SV.Gen.Arith
import SV.Model.Hostile

namespace SV.Props.C04gen
open SV

/-- The Go guard `chunkContains` (fs/reader/reader.go) is the model's guard. -/
theorem reader_chunkContains_eq (co cs pos : Int) :
    Gen.reader_chunkContains co cs pos = Hostile.chunkContains co cs pos := by
  unfold Gen.reader_chunkContains Hostile.chunkContains
  simp only [Bool.decide_and, Bool.and_assoc]

/-- What the guard guarantees: the chunk is a non-empty, overflow-free range containing `pos`. -/
theorem reader_chunkContains_spec (co cs pos : Int) :
    Gen.reader_chunkContains co cs pos = true ↔
      (0 < cs ∧ 0 ≤ co ∧ co + cs ≤ 9223372036854775807 ∧ co ≤ pos ∧ pos < co + cs) := by
  rw [reader_chunkContains_eq, Hostile.chunkContains, decide_eq_true_iff]
  omega

/-- All four `positive` helpers of the repository are the model's `positive`. -/
theorem positive_helpers_eq (n : Int) :
    Gen.reader_positive n = Hostile.positive n ∧ Gen.estargz_positive n = Hostile.positive n ∧
    Gen.db_positive n = Hostile.positive n ∧ Gen.remote_positive n = Hostile.positive n := by
  unfold Gen.reader_positive Gen.estargz_positive Gen.db_positive Gen.remote_positive Hostile.positive
  by_cases h : n < 0 <;> simp [h]

example : Gen.reader_chunkContains 4 4 5 = true ∧ Gen.reader_chunkContains (-9223372036854775798) 100 0 = false := by
  decide

end SV.Props.C04gen
