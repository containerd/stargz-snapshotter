/-
C07 — each layer is served as a correct overlayfs lower directory of the OCI layer.

Model: SV/Model/Overlay.lean
(fs/layer/node.go readdir / Lookup / Getxattr / Listxattr / inodeOf* / state, plus `serve`, `ociApply`,
`overlayMerge` on whole layers).

Directory level: `d : Dir` is any directory as the metadata reader shows it (any children, root or not),
`s : NodeSt` any state of the two caches Lookup consults (`Inv d s` holds for every state reachable by
any history of Readdir / Lookup calls with or without go-fuse adopting the result: `history_reaches_inv`).
Layer level: stacks of layers of any shape inside the stated domain (`LayerOK`).

`readdir` models node.go after 545b9cc (whiteouts whose target Lookup never resolves are not listed);
`readdirOld` is the listing before that repair; the three counterexamples are stated on it.
-/
import SV.Lemmas.Overlay

namespace SV.Props.C07
open SV.Overlay

/-- Every state reached by any history of calls on a fresh node satisfies the cache invariant. -/
theorem history_reaches_inv (d : Dir) (ops : List Op) : Inv d (runSt d {} ops) :=
  runSt_inv ops (inv_init d)

/-- For every history of Readdir / Lookup calls in any order (Lookup before or after the listing is
memoised, before or after go-fuse cached the child), every answer is the answer a fresh node gives.
(`stable` only forgets the attr mode/rdev fields of a whiteout answer, which go-fuse's `setEntryOut`
overrides with the S_IFCHR StableAttr.  `Op.valid`: a LOOKUP carries a non-empty name.) -/
theorem history_independent (d : Dir) (ops : List Op) (hv : ∀ o ∈ ops, o.valid = true) :
    (run d {} ops).map Ans.stable = ops.map (pureAns d) :=
  run_stable ops hv (inv_init d)

/-- The restriction to non-empty names is needed: with a child named exactly `.wh.`, `Lookup("")` finds
that whiteout before the listing is memoised and answers ENOENT afterwards (the kernel never sends it). -/
theorem history_independent_needs_valid :
    ∃ d : Dir, (lookupSt d (readdirSt d {}).1 []).2.stable ≠ (lookupSt d {} []).2 :=
  ⟨⟨false, 1, 2, S_IFDIR, 0, [], [⟨".wh.".toList, 3, S_IFREG, 0⟩]⟩, by decide +kernel⟩

/-- `readdir` fails (EIO) only when an id is too large for an inode number. -/
theorem readdir_total (d : Dir) (h : ∀ c ∈ d.children, c.id ≤ maxU32 - 3) : (readdir d).isSome := by
  have h1 : (mapOpt (normalEnt d.base) (normals d)).isSome :=
    mapOpt_isSome fun c hc => by simp [normalEnt, inodeOfID_isSome (h c (mem_normals.mp hc).1)]
  have h2 : (mapOpt (fun p => whEnt d.base p.1 p.2) (liveWhs d)).isSome :=
    mapOpt_isSome fun p hp => by simp [whEnt, inodeOfID_isSome (h p.2 (mem_liveWhs.mp hp).1)]
  obtain ⟨ns, hns⟩ := Option.isSome_iff_exists.mp h1
  obtain ⟨ws, hws⟩ := Option.isSome_iff_exists.mp h2
  exact Option.isSome_iff_exists.mpr ⟨_, readdir_eq_some.mpr ⟨ns, ws, hns, hws, rfl⟩⟩

/-- For every directory, every cache state (memoised or not, children cached or not) and
every name other than `.`, `..` and the state directory of the root: listed ⇔ lookup succeeds, with the
same inode and type. -/
theorem listing_lookup_agree (d : Dir) (s : NodeSt) (ents : List DirEnt) (n : Str)
    (hnd : NoDupNames d) (hi : Inv d s) (h : readdir d = some ents) (hpl : Plain d n) :
    ((readdirSt d s).2 = some ents) ∧
    ((∃ e ∈ ents, e.name = n) ↔ (lookupSt d s n).2.ok = true) ∧
    (∀ e ∈ ents, e.name = n →
      (lookupSt d s n).2.ino? = some e.ino ∧ (lookupSt d s n).2.stype = e.mode &&& S_IFMT) := by
  -- what the kernel sees of the answer is what a fresh node answers
  obtain ⟨hok, hino, hty, _⟩ := stable_obs (lookupSt d s n).2
  rw [(lookupSt_spec hi n).2 hpl.1] at hok hino hty
  rw [← hok, ← hino, ← hty]
  have key := fun e he hen => LRes.ent_some (listed_lookup (e := e) hnd h hpl he hen)
  refine ⟨by rw [readdirSt_ans hi, h], ⟨fun ⟨e, he, hen⟩ => (key e he hen).2.1, fun hok => ?_⟩,
    fun e he hen => (key e he hen).2.2⟩
  obtain ⟨e, he, hl⟩ := lookup_listed h hpl hok
  exact ⟨e, he, (LRes.ent_some hl).1⟩

/-- A directory `foo` holding the single whiteout `.wh..wh.foo` (a name beginning with `.wh.`). -/
def cexDotWh : Dir :=
  ⟨false, 100, 3, S_IFDIR ||| 0o755, 0, [], [⟨".wh..wh.foo".toList, 5, S_IFREG ||| 0o644, 0⟩]⟩

/-- The root holding the whiteout `.wh..prefetch.landmark`. -/
def cexLandmark : Dir :=
  ⟨true, 100, 1, S_IFDIR ||| 0o755, 0, [],
    [⟨".wh..prefetch.landmark".toList, 2, S_IFREG ||| 0o644, 0⟩, ⟨".no.prefetch.landmark".toList, 3, S_IFREG, 0⟩]⟩

/-- A directory holding files named exactly `.wh.`, `.wh..` and `.wh...`. -/
def cexEmptyDots : Dir :=
  ⟨false, 100, 3, S_IFDIR ||| 0o755, 0, [],
    [⟨".wh.".toList, 5, S_IFREG, 0⟩, ⟨".wh..".toList, 6, S_IFREG, 0⟩, ⟨".wh...".toList, 7, S_IFREG, 0⟩]⟩

/-- Before the repair `.wh..wh.foo` made Readdir list `.wh.foo`, which Lookup refuses; now nothing but the
dot entries is listed. -/
theorem old_readdir_dotwh_counterexample :
    (∃ e ∈ (readdirOld cexDotWh).getD [], e.name = ".wh.foo".toList ∧ isWh e.name = true) ∧
    (lookupPure cexDotWh ".wh.foo".toList).ok = false ∧ Plain cexDotWh ".wh.foo".toList ∧
    readdir cexDotWh = some dotEnts := by
  decide +kernel

/-- Before the repair a root whiteout of a landmark name made Readdir list the landmark name in `/`. -/
theorem old_readdir_landmark_counterexample :
    (∃ e ∈ (readdirOld cexLandmark).getD [], e.name = prefetchLandmark) ∧
    (lookupPure cexLandmark prefetchLandmark).ok = false ∧ Plain cexLandmark prefetchLandmark ∧
    readdir cexLandmark = some dotEnts := by
  decide +kernel

/-- Before the repair files named `.wh.`, `.wh..`, `.wh...` made Readdir list an entry with the empty name
and character-device entries named `.` and `..`. -/
theorem old_readdir_empty_dot_counterexample :
    (∃ e ∈ (readdirOld cexEmptyDots).getD [], e.name = []) ∧
    (∃ e ∈ (readdirOld cexEmptyDots).getD [], e.name = dot ∧ e.mode = S_IFCHR) ∧
    (∃ e ∈ (readdirOld cexEmptyDots).getD [], e.name = dotdot ∧ e.mode = S_IFCHR) ∧
    readdir cexEmptyDots = some dotEnts := by
  decide +kernel

/-- No listed name begins with `.wh.` (so neither whiteout files nor the opaque marker are
ever listed) and no landmark name is listed in the root — for every directory. -/
theorem markers_hidden (d : Dir) (ents : List DirEnt) (e : DirEnt)
    (h : readdir d = some ents) (he : e ∈ ents) :
    isWh e.name = false ∧ e.name ≠ opaqueMarker ∧ (d.isRoot && isLandmark e.name) = false :=
  listed_names_clean h he

/-- Every listed entry is one of the two dot entries, a real child under its own name, or the whiteout of a
name Lookup resolves (non-empty, not `.`/`..`, not a `.wh.` name, not a landmark name in the root). -/
theorem listed_entries_wellformed (d : Dir) (ents : List DirEnt) (e : DirEnt)
    (h : readdir d = some ents) (he : e ∈ ents) :
    e ∈ dotEnts ∨ (∃ c ∈ d.children, c.name = e.name ∧ isNormal d.isRoot c.name = true) ∨
      (badTarget d.isRoot e.name = false ∧ ∃ c ∈ d.children, c.name = mkWh e.name) := by
  rcases listed_cases h he with hdot | ⟨c, hc⟩ | ⟨w, hw⟩
  · exact .inl hdot
  · exact .inr (.inl ⟨c, hc.mem, hc.name.symm, hc.normal⟩)
  · exact .inr (.inr ⟨hw.target, w, hw.mem, hw.name⟩)

/-- The names `markers_hidden` keeps out of the listing are not reachable by Lookup either, in any cache
state. -/
theorem markers_not_lookupable (d : Dir) (s : NodeSt) (n : Str)
    (h : isWh n = true ∨ (d.isRoot && isLandmark n) = true) : (lookupSt d s n).2 = .enoent :=
  lookupSt_hidden s h

/-- The TOC entry never appears in the root of a layer made by the builder (which drops a root entry of
that name from the source tar), unless the source tar whites it out explicitly. -/
theorem toc_hidden (d : Dir) (ents : List DirEnt) (prioritized : Bool) (src : List Str)
    (hsrc : ∀ c ∈ d.children, c.name ∈ builderRootNames prioritized src)
    (hnw : mkWh tocTarName ∉ src) (h : readdir d = some ents) : ∀ e ∈ ents, e.name ≠ tocTarName := by
  -- the builder's root names contain neither the TOC name nor a whiteout of it
  have hb : ∀ n ∈ builderRootNames prioritized src, n ≠ tocTarName ∧ n ≠ mkWh tocTarName := by
    intro n hn
    rcases List.mem_cons.mp hn with rfl | hn
    · have hl : isLandmark (if prioritized = true then prefetchLandmark else noPrefetchLandmark) = true := by
        cases prioritized <;> simp [isLandmark]
      constructor <;> intro he <;> rw [he] at hl
      · rw [toc_not_landmark] at hl; cases hl
      · rw [wh_not_landmark (isWh_mkWh _)] at hl; cases hl
    · obtain ⟨hn, hf⟩ := List.mem_filter.mp hn
      simp only [Bool.and_eq_true, bne_iff_ne, ne_eq] at hf
      exact ⟨hf.2, fun he => hnw (he ▸ hn)⟩
  rintro e he hen
  rcases listed_cases h he with hdot | ⟨c, hc⟩ | ⟨w, hw⟩
  · have := toc_not_dots
    rw [← hen, isDots_of_mem_dotEnts hdot] at this; cases this
  · exact (hb c.name (hsrc c hc.mem)).1 (hc.name ▸ hen)
  · exact (hb w.name (hsrc w hw.mem)).2 (hen ▸ hw.name)

/-- `.wh.n` without a real `n` is served as exactly one entry `n`: a character device whose inode is the
one of the `.wh.` entry; Lookup (any cache state) returns a whiteout node with that inode, type S_IFCHR,
and its Getattr reports S_IFCHR with device 0/0.  A real `n` is listed as itself whether or not `.wh.n`
exists; with neither, nothing named `n` is listed. -/
theorem whiteout_translation (d : Dir) (s : NodeSt) (ents : List DirEnt) (n : Str)
    (hnd : NoDupNames d) (hi : Inv d s) (h : readdir d = some ents) (hne : n ≠ [])
    (hd : isDots n = false) (hl : (d.isRoot && isLandmark n) = false) (hw : isWh n = false)
    (hs : (d.isRoot && n == stateDirName) = false) :
    match getChild d.children n, getChild d.children (mkWh n) with
    | none, some w =>
      ∃ ino, inodeOfID d.base w.id = some ino ∧ (⟨n, S_IFCHR, ino⟩ : DirEnt) ∈ ents ∧
        (∀ e ∈ ents, e.name = n → e = ⟨n, S_IFCHR, ino⟩) ∧
        (lookupSt d s n).2.stable = .whiteout w.id S_IFCHR ino 0 ∧
        getattrOf (lookupSt d s n).2 = some (S_IFCHR, ino, 0)
    | some c, _ =>
      ∃ ino, inodeOfID d.base c.id = some ino ∧ (⟨n, c.mode, ino⟩ : DirEnt) ∈ ents ∧
        (∀ e ∈ ents, e.name = n → e = ⟨n, c.mode, ino⟩)
    | none, none => ∀ e ∈ ents, e.name ≠ n := by
  have hn := isNormal_iff.mpr ⟨hd, hl, hw⟩
  -- the answer of a fresh Lookup, which each case computes; whatever is listed under `n` is its entry
  have hlk := lookupPure_eq d n
  simp only [hl, hw, hs, Bool.false_eq_true, if_false] at hlk
  have key : ∀ {r}, lookupPure d n = r → ∀ e ∈ ents, e.name = n → r.ent n = some e :=
    fun hr e he hen => hr ▸ listed_lookup hnd h ⟨hne, hd, hs⟩ he hen
  cases hg1 : getChild d.children n with
  | some c =>
    obtain ⟨ino, hino, hm⟩ := child_listed h hn hg1
    simp only [hg1, nodeRes, hino] at hlk
    exact ⟨ino, hino, hm, fun e he hen => (Option.some.inj (key hlk e he hen)).symm⟩
  | none =>
    cases hg2 : getChild d.children (mkWh n) with
    | none =>
      simp only [hg1, hg2] at hlk
      exact fun e he hen => nomatch key hlk e he hen
    | some w =>
      obtain ⟨ino, hino, hm⟩ := wh_child_listed h hne hn hg1 hg2
      simp only [hg1, hg2, hino] at hlk
      refine ⟨ino, hino, hm, fun e he hen => (Option.some.inj (key hlk e he hen)).symm, ?_, ?_⟩
      · rw [(lookupSt_spec hi n).2 hne, hlk]
      · rw [← (stable_obs _).2.2.2, (lookupSt_spec hi n).2 hne, hlk]; rfl

/-- A whiteout `.wh.t` whose target `t` Lookup never resolves (the empty name, `.`, `..`, a name that itself
begins with `.wh.`, a landmark name in the root) yields no entry: whatever is listed under the name `t` is
one of the two dot entries or a real child named `t` — and for a `.wh.` name or a root landmark name,
nothing at all. -/
theorem whiteout_of_unresolvable_target_hidden (d : Dir) (ents : List DirEnt) (t : Str)
    (h : readdir d = some ents) (hb : badTarget d.isRoot t = true) :
    (∀ e ∈ ents, e.name = t →
      e ∈ dotEnts ∨ ∃ c ∈ d.children, c.name = t ∧ isNormal d.isRoot c.name = true) ∧
    (isWh t = true ∨ (d.isRoot && isLandmark t) = true → ∀ e ∈ ents, e.name ≠ t) := by
  constructor
  · intro e he hen
    rcases listed_entries_wellformed d ents e h he with hd | ⟨c, hc, hcn, hn⟩ | ⟨hbf, _⟩
    · exact .inl hd
    · exact .inr ⟨c, hc, hcn.trans hen, hn⟩
    · exact absurd hbf (by rw [hen, hb]; nofun)
  intro hwl e he hen
  obtain ⟨h1, _, h3⟩ := markers_hidden d ents e h he
  rw [hen] at h1 h3
  rcases hwl with hw | hl
  · rw [h1] at hw; cases hw
  · rw [h3] at hl; cases hl

/-- A directory is opaque exactly when it has the marker child; then `Getxattr` answers "y" for exactly
the xattr names of the configured mode (trusted: `trusted.overlay.opaque`; user: `user.overlay.opaque`;
all: both) and for no other name, `Listxattr` lists exactly those names in front of the entry's own
xattrs; a directory without marker only shows the entry's own xattrs. -/
theorem opaque_translation (om : OpaqueMode) (d : Dir) (x : Str) (dl : Nat) :
    (isOpaque d = true ↔ ∃ c ∈ d.children, c.name = opaqueMarker) ∧
    (opaqueXattrs .trusted = [xTrusted] ∧ opaqueXattrs .user = [xUser] ∧ opaqueXattrs .all = [xTrusted, xUser]) ∧
    (x ∈ opaqueXattrs om → isOpaque d = true →
      getxattr om d x dl = if dl < 1 then .erange 1 else .ok 1 opaqueXattrValue) ∧
    (x ∉ opaqueXattrs om ∨ isOpaque d = false →
      getxattr om d x dl =
        match xlookup d.xattrs x with
        | some v => if dl < blen v then .erange (blen v) else .ok (blen v) v
        | none => .enodata) ∧
    (listxattrNames om d = (if isOpaque d = true then opaqueXattrs om else []) ++ d.xattrs.map (·.1)) :=
  ⟨isOpaque_iff, ⟨rfl, rfl, rfl⟩, fun hx ho => by simp [getxattr, hx, ho, blen_opaqueXattrValue],
    fun h => by
      rcases h with hx | ho
      · simp [getxattr, hx]; rfl
      · simp [getxattr, ho]; rfl,
    rfl⟩

/-- In user-only mode `trusted.overlay.opaque` is not synthesised (and vice versa). -/
theorem opaque_mode_separation : xTrusted ∉ opaqueXattrs .user ∧ xUser ∉ opaqueXattrs .trusted := by
  decide +kernel

/-- Inode numbers are a function of (base inode, id) only — hence identical across repeated calls —,
injective in both, never 0 and never one of the two numbers reserved for the state directory and the
stat file (of any layer). -/
theorem inode_unique_stable (b b' i j x : Nat) (h1 : inodeOfID b i = some x) :
    (inodeOfID b' j = some x → b = b' ∧ i = j) ∧
    x ≠ inodeOfState b' ∧ x ≠ inodeOfStatFile b' ∧ x ≠ 0 ∧ inodeOfState b ≠ inodeOfStatFile b' := by
  have a := inodeOfID_eq h1
  rw [inodeOfState_eq, inodeOfState_eq, inodeOfStatFile_eq]
  exact ⟨inodeOfID_inj h1, by omega⟩

/-- Within one listing, two entries with the same inode come from the same metadata id (hard links). -/
theorem listing_inodes_unique (d : Dir) (ents : List DirEnt) (h : readdir d = some ents)
    (e1 e2 : DirEnt) (h1 : e1 ∈ ents) (h2 : e2 ∈ ents) (hne : e1 ∉ dotEnts) (hne2 : e2 ∉ dotEnts)
    (hino : e1.ino = e2.ino) :
    ∃ c1 ∈ d.children, ∃ c2 ∈ d.children, c1.id = c2.id ∧
      inodeOfID d.base c1.id = some e1.ino ∧ inodeOfID d.base c2.id = some e2.ino := by
  have src : ∀ e ∈ ents, e ∉ dotEnts → ∃ c ∈ d.children, inodeOfID d.base c.id = some e.ino := by
    intro e he hd
    rcases listed_cases h he with hdot | ⟨c, hc⟩ | ⟨w, hw⟩
    · exact absurd hdot hd
    · exact ⟨c, hc.mem, hc.ino⟩
    · exact ⟨w, hw.mem, hw.ino⟩
  obtain ⟨c1, hc1, hi1⟩ := src e1 h1 hne
  obtain ⟨c2, hc2, hi2⟩ := src e2 h2 hne2
  exact ⟨c1, hc1, c2, hc2, (inodeOfID_inj hi1 (hino ▸ hi2)).2, hi1, hi2⟩

/-- For a layer blob of positive size the stat file is produced, has the keys `digest`, `size`,
`fetchedSize` exactly once with the layer's values; the state directory lists exactly that file and
its Lookup agrees with its listing. -/
theorem stat_json_wellformed (l : LayerInfo) (h : 0 < l.size) :
    (∃ fs, statFields l = some fs ∧
      lookupKid fs "digest".toList = some (.str l.digest) ∧
      lookupKid fs "size".toList = some (.int l.size) ∧
      lookupKid fs "fetchedSize".toList = some (.int l.fetched) ∧
      (fs.map (·.1)).Nodup) ∧
    stateReaddir l = [⟨l.digest ++ ".json".toList, statFileMode, inodeOfStatFile l.base⟩] ∧
    (∀ n, (∃ e ∈ stateReaddir l, e.name = n) ↔ stateLookup l n = .ok (statFileMode, inodeOfStatFile l.base)) := by
  have hfs : statFields l = some _ := if_neg (Nat.ne_of_gt h)
  refine ⟨⟨_, hfs, ?_⟩, rfl, ?_⟩
  · rw [statKey_error, statKey_digest, statKey_size, statKey_fetchedSize, statKey_fetchedPercent]
    -- with or without the `error` field, each lookup runs over closed keys and the keys are distinct
    by_cases he : l.err = []
    · rw [if_pos he]
      exact ⟨rfl, rfl, rfl, by simp only [List.nil_append, List.map_cons, List.map_nil]; decide⟩
    · rw [if_neg he]
      exact ⟨rfl, rfl, rfl, by simp only [List.cons_append, List.nil_append, List.map_cons, List.map_nil]; decide⟩
  intro n
  simp only [stateReaddir, List.mem_cons, List.mem_nil_iff, or_false, exists_eq_left, stateLookup, hfs]
  by_cases hn : n = statFileName l
  · simp [hn]
  · simp [hn]
    exact fun h => hn h.symm

/-- Per directory (name level): for every stack of layer directories in the domain (top first; `isRoot`
says whether they are the — landmark-stripped — roots) and every name, looking the name up through the
served directories with the overlayfs rules gives the served form of what OCI application leaves at that
name, and that is the child of the applied directory. -/
theorem overlay_equals_oci_dir (om : OpaqueMode) (kx : KX) (hc : compat om kx = true) (isRoot : Bool)
    (tl : List DirT) (hok : OkDirs kx tl) (hlm : NoLandmarkKids isRoot tl) (x : Str) :
    descend kx x (tl.map (serveDir om isRoot)) = (sub x tl).serve om ∧
    lookupKid (kidsOf (appliedOf tl)) x = (sub x tl).tree :=
  ⟨descend_serve hc isRoot x hok hlm, applied_child x hok⟩

/-- Whole trees: for every non-empty stack of layers in the domain, every opaque mode that covers the
xattr namespace the kernel reads, the overlay mount of the served layers and the root filesystem obtained
by applying the layer tars in order are the same finite map from paths to nodes. -/
theorem overlay_equals_oci (om : OpaqueMode) (kx : KX) (hc : compat om kx = true) (layers : List DirT)
    (hne : layers ≠ []) (hok : ∀ d ∈ layers, LayerOK kx d) :
    overlayMerge kx (layers.map fun d => serveRoot om d.tree) = ociRootFs (layers.map DirT.tree) := by
  funext p
  rw [ociRootFs_eq layers hne, served_stack]
  exact ovl_eq_applied hc p (layers_ok hok) (layers_noLandmark layers)

/-- The `serve` of the composition theorem is the directory-level `readdir` (the function compared with
node.go call by call): at every directory of a layer tree, root or not, a name other than `.`/`..` is listed
by `readdir` on that directory's node exactly when the served tree has it. -/
theorem serve_is_readdir (om : OpaqueMode) (isRoot : Bool) (base : Nat) (a : Attr) (kids : List (Str × Tree))
    (ents : List DirEnt) (h : readdir (dirOfTree isRoot base a kids) = some ents) (x : Str)
    (hx : isDots x = false) :
    (∃ e ∈ ents, e.name = x) ↔
      (lookupKid (serveKids om isRoot (servedKidsOf isRoot kids) (servedKidsOf isRoot kids)) x).isSome = true := by
  rw [named_iff h hx, served_isSome, ← hasNormal_dirOfTree isRoot base a kids hx]
  show _ ∨ (badTarget isRoot x = false ∧ _ ∧ ∃ w ∈ kids.map childOf, w.name = mkWh x) ↔ _
  cases hasNormal (dirOfTree isRoot base a kids) x with
  | true => simp
  | false =>
    cases hb : badTarget isRoot x with
    | true => simp
    | false =>
      -- `.wh.x` is neither the opaque marker nor a landmark, so the root filter keeps it
      have hm : mkWh x ≠ opaqueMarker := mkWh_ne_marker hb
      have hl : (isRoot && isLandmark (mkWh x)) = false := by rw [wh_not_landmark (isWh_mkWh x), Bool.and_false]
      rw [hasName_childOf, hasWhiteoutFor, hasName, hasName, lookupKid_served, hl]
      simp [hm]

private def fA (id tag : Nat) : Attr := ⟨id, S_IFREG ||| 0o644, 0, [], tag⟩
private def dA (id tag : Nat) : Attr := ⟨id, S_IFDIR ||| 0o755, 0, [], tag⟩

/-- Lower layer: `x/a`, `f`, `d/a`. -/
def cexLower : DirT :=
  (dA 1 1, [("x".toList, .dir (dA 2 1) [("a".toList, .file (fA 3 1))]), ("f".toList, .file (fA 4 1)),
            ("d".toList, .dir (dA 5 1) [("a".toList, .file (fA 6 1))])])

/-- The excluded shape: a whiteout `.wh.x` next to a directory `x`.  OCI application drops the lower `x/a`,
the overlay mount of the served layers still shows it. -/
theorem overlay_equals_oci_needs_domain :
    ∃ layers : List DirT, layers ≠ [] ∧
      overlayMerge .trusted (layers.map fun d => serveRoot .all d.tree) ≠ ociRootFs (layers.map DirT.tree) := by
  refine ⟨[cexLower, (dA 1 2, [(".wh.x".toList, .file (fA 2 2)),
      ("x".toList, .dir (dA 3 2) [("b".toList, .file (fA 4 2))])])], List.cons_ne_nil _ _, ?_⟩
  exact fun h => absurd (congrFun h ["x".toList, "a".toList]) (by decide +kernel)

/-- A real 0/0 character device in a layer is a whiteout to overlayfs but a device node to OCI. -/
theorem overlay_equals_oci_needs_no_real_whiteout_dev :
    ∃ layers : List DirT, layers ≠ [] ∧
      overlayMerge .trusted (layers.map fun d => serveRoot .all d.tree) ≠ ociRootFs (layers.map DirT.tree) := by
  refine ⟨[cexLower, (dA 1 2, [("f".toList, .file ⟨2, S_IFCHR, 0, [], 2⟩)])], List.cons_ne_nil _ _, ?_⟩
  exact fun h => absurd (congrFun h ["f".toList]) (by decide +kernel)

/-- A real directory that itself carries the kernel's opaque xattr is opaque to overlayfs only. -/
theorem overlay_equals_oci_needs_no_real_opaque_xattr :
    ∃ layers : List DirT, layers ≠ [] ∧
      overlayMerge .trusted (layers.map fun d => serveRoot .all d.tree) ≠ ociRootFs (layers.map DirT.tree) := by
  refine ⟨[cexLower, (dA 1 2, [("d".toList, .dir ⟨2, S_IFDIR ||| 0o755, 0, [(xTrusted, opaqueXattrValue)], 2⟩ [])])],
    List.cons_ne_nil _ _, ?_⟩
  exact fun h => absurd (congrFun h ["d".toList, "a".toList]) (by decide +kernel)

/-- The served mode must cover the namespace the kernel reads: user-only xattrs under a kernel that reads
`trusted.overlay.opaque` leave opaque directories transparent. -/
theorem overlay_equals_oci_needs_compat :
    ∃ layers : List DirT, layers ≠ [] ∧ (∀ d ∈ layers, LayerOK .trusted d) ∧
      overlayMerge .trusted (layers.map fun d => serveRoot .user d.tree) ≠ ociRootFs (layers.map DirT.tree) := by
  refine ⟨[cexLower, (dA 1 2, [("d".toList, .dir (dA 2 2) [(opaqueMarker, .file (fA 3 2))])])],
    List.cons_ne_nil _ _, ?_⟩
  -- both parts in one evaluation: the maps differ at `d/a`
  refine And.imp_right (fun (h : _ ≠ _) e => h (congrFun e ["d".toList, "a".toList])) ?_
  decide +kernel

/-- A root directory with a real entry, a live whiteout, a whiteout shadowed by a real entry, the opaque
marker, a landmark and an xattr of its own. -/
def exDir : Dir :=
  ⟨true, 7, 1, S_IFDIR ||| 0o755, 0, [("user.foo".toList, "bar".toList)],
    [⟨"a".toList, 2, S_IFREG ||| 0o644, 0⟩, ⟨".wh.gone".toList, 3, S_IFREG, 0⟩, ⟨".wh.a".toList, 4, S_IFREG, 0⟩,
     ⟨opaqueMarker, 5, S_IFREG, 0⟩, ⟨noPrefetchLandmark, 6, S_IFREG, 0⟩]⟩

example : NoDupNames exDir := by decide +kernel
example : readdir exDir = some [⟨dot, S_IFDIR, 0⟩, ⟨dotdot, S_IFDIR, 0⟩, ⟨"a".toList, S_IFREG ||| 0o644, 30064771077⟩,
    ⟨"gone".toList, S_IFCHR, 30064771078⟩] := by decide +kernel
example : lookupPure exDir "gone".toList = .whiteout 3 S_IFCHR 30064771078 0 := by decide +kernel
example : Plain exDir "gone".toList ∧ Plain exDir "a".toList := by decide +kernel
example : isOpaque exDir = true ∧ getxattr .user exDir xUser 8 = .ok 1 opaqueXattrValue ∧
    getxattr .user exDir xTrusted 8 = .enodata ∧ getxattr .all exDir xTrusted 0 = .erange 1 := by decide +kernel
/-- a history: lookup before the listing, readdir, the same lookups again (one served from go-fuse's child map) -/
example : (run exDir {} [.lookup "gone".toList true, .lookup "nope".toList false, .readdir,
      .lookup "gone".toList false, .lookup "nope".toList false]).map Ans.stable =
    [.res (.whiteout 3 S_IFCHR 30064771078 0), .res .enoent, .list (readdir exDir),
     .res (.whiteout 3 S_IFCHR 30064771078 0), .res .enoent] := by decide +kernel
example : statFields ⟨1, .all, "sha256:ab".toList, 10, 5, []⟩ ≠ none := by decide +kernel

/-- A two-layer stack in the domain: the upper layer whites out `x/a`, adds `x/b`, removes `f`, and makes
`d` opaque. -/
def exUpper : DirT :=
  (dA 1 2, [("x".toList, .dir (dA 2 2) [(".wh.a".toList, .file (fA 3 2)), ("b".toList, .file (fA 4 2))]),
            (".wh.f".toList, .file (fA 5 2)),
            ("d".toList, .dir (dA 6 2) [(opaqueMarker, .file (fA 7 2)), ("q".toList, .file (fA 8 2))]),
            (noPrefetchLandmark, .file (fA 9 2))])

example : ∀ d ∈ [cexLower, exUpper], LayerOK .trusted d := by decide +kernel
example : compat .all .trusted = true ∧ compat .trusted .trusted = true ∧ compat .user .user = true ∧
    compat .user .trusted = false := by decide +kernel
example :
    let m := overlayMerge .trusted ([cexLower, exUpper].map fun d => serveRoot .trusted d.tree)
    m ["x".toList, "a".toList] = none ∧ m ["x".toList, "b".toList] = some (.file (fA 4 2)) ∧
    m ["f".toList] = none ∧ m ["d".toList, "a".toList] = none ∧ m ["d".toList, "q".toList] = some (.file (fA 8 2)) ∧
    m ["d".toList] = some (.dir (dA 6 2)) ∧ m [noPrefetchLandmark] = none ∧ m [] = some (.dir (dA 1 2)) := by
  decide +kernel

end SV.Props.C07
