/-
C05x — the time-valued attribute is preserved BY INSTANT for ALL instants; a variant that stores
`modtime` as a varint of `UnixNano()` preserves only those within ±2^63 ns of the epoch.
`SV.TimeEnc` models the encodings of an instant; `Toc.writeAttr` / `readAttr` keep `mtime : Option Int` as it
is, and no lemma ties the two models together: `attr_roundtrip_time` says only that the attribute record
hands the field through.
-/
import SV.Model.TimeEnc
import SV.Lemmas.Toc

namespace SV.Props.C05x
open SV.TimeEnc

theorem nanos_ofNanos (n : Int) : (ofNanos n).nanos = n := by
  simp only [ofNanos, Instant.nanos, billion]; omega

theorem ofNanos_nanos (t : Instant) (h0 : 0 ≤ t.nsec) (h1 : t.nsec < billion) : ofNanos t.nanos = t := by
  cases t with
  | mk s n =>
    simp only [ofNanos, Instant.nanos, billion] at *
    congr 1 <;> omega

/-- the gob/binary encoding used by db `writeAttr`/`readAttr` round-trips EVERY instant a Go
`time.Time` can hold (year 1, before 1677, after 2262, before the epoch, sub-second). -/
theorem gob_roundtrip (t : Instant) (h : t.Valid) : gobDec (gobEnc t) = t := by
  cases t with
  | mk s n =>
    simp only [Instant.Valid] at h
    obtain ⟨_, _, h2, h3⟩ := h
    have key : ofU64 (toU64 (s + unixToInternal)) = s + unixToInternal := by
      unfold ofU64 toU64
      unfold two63 two64 at *
      split <;> omega
    show Instant.mk (ofU64 (toU64 (s + unixToInternal)) - unixToInternal) n = ⟨s, n⟩
    rw [key]
    congr 1
    omega

/-- the db time attribute, through the gob encoding, is the identity on the model's unbounded
nanosecond instants — for all instants in Go's range, and the zero time. -/
theorem db_time_roundtrip (t : Option Int) (h : ∀ n, t = some n → (ofNanos n).Valid) :
    loadTime gobDec (storeTime gobEnc t) = t := by
  cases t with
  | none => rfl
  | some n =>
    simp only [storeTime, loadTime, Option.map]
    rw [gob_roundtrip _ (h n rfl), nanos_ofNanos]

/-- every instant of years 0001..9999 (all that RFC3339 / the TOC can spell) is in range. -/
theorem rfc3339_range_valid (n : Int) (lo : -62135596800 * 1000000000 ≤ n)
    (hi : n < 253402300800 * 1000000000) : (ofNanos n).Valid := by
  simp only [Instant.Valid, ofNanos, two63, unixToInternal, billion]; omega

/-- an int64-of-nanoseconds encoding (`UnixNano` + `time.Unix(0, n)`) round-trips an instant IF AND
ONLY IF it lies within ±2^63 ns of the epoch (1677-09-21 .. 2262-04-11): outside, it changes it. -/
theorem nano_roundtrip_iff (t : Instant) (h0 : 0 ≤ t.nsec) (h1 : t.nsec < billion) :
    nanoDec (nanoEnc t) = t ↔ (-two63 ≤ t.nanos ∧ t.nanos < two63) := by
  cases t with
  | mk s n =>
    simp only [nanoDec, nanoEnc, ofNanos, wrap64, Instant.nanos, two63, two64, billion, Instant.mk.injEq] at *
    omega

/-- the attribute encoding of the Toc model keeps the time field of every attribute, whatever
else the attribute holds (`writeAttr` into a fresh bucket, then `readAttr`). -/
theorem attr_roundtrip_time (a : SV.Toc.Attr) :
    (SV.Toc.readAttr (SV.Toc.writeAttr {} a)).mtime = a.mtime := by
  rw [SV.Toc.writeAttr_eq]
  cases a.mtime <;> rfl

/-- …and so does what the container observes (`normalise`). -/
theorem attr_roundtrip_time_observed (a : SV.Toc.Attr) :
    (SV.Toc.normalise (SV.Toc.readAttr (SV.Toc.writeAttr {} a))).mtime = (SV.Toc.normalise a).mtime := by
  simp only [SV.Toc.normalise]; exact attr_roundtrip_time a

/-! non-vacuity: 2300-01-02T03:04:05Z and 1600-06-07T08:09:10Z are valid instants, gob keeps them,
int64 nanoseconds does not. -/
example : (ofNanos 10413889445000000000).Valid ∧ (ofNanos (-11662415450000000000)).Valid := by decide
example : (nanoDec (nanoEnc (ofNanos 10413889445000000000))).nanos = -8032854628709551616 := by decide
example : (nanoDec (nanoEnc (ofNanos (-11662415450000000000)))).nanos = 6784328623709551616 := by decide
example : (gobDec (gobEnc (ofNanos 10413889445000000000))).nanos = 10413889445000000000 := by decide
example : loadTime gobDec (storeTime gobEnc (some (-62135596799999999999))) = some (-62135596799999999999) := by decide

end SV.Props.C05x
