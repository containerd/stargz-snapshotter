/-
C02 — Lazily served files and metadata equal the source tar under any access history.

Model: SV/Model/LazyRead.lean (mirrors estargz `ChunkEntryForOffset`, fs/reader `file.ReadAt`
as of 42545b8, `verifyAndCache`, `cacheWithReader`, fs/layer `entryToAttr` /
`fileModeToSystemMode`, and the specification `tarView`).
-/
import SV.Model.LazyRead
import SV.Lemmas.LazyRead
import SV.Lemmas.MetaTar

namespace SV.Props.C02
open SV.LazyRead

/-- **Chunk lookup.** For a contiguous chunk table (both stores' `ChunkEntryForOffset`, binary search
as coded): an offset before EOF yields the unique chunk containing it, an offset at or after EOF
yields none. -/
theorem chunk_lookup_correct (v : Variant) (t : List Chunk) (h : Contig 0 t) (x : Nat) :
    (x < total t →
      ∃ c, chunkEntryForOffset v t x = some c ∧ c ∈ t ∧ c.off ≤ x ∧ x < c.off + c.size ∧
        ∀ c' ∈ t, c'.off ≤ x → x < c'.off + c'.size → c' = c) ∧
    (total t ≤ x → chunkEntryForOffset v t x = none) := by
  have hs := lookup_spec v h x
  refine ⟨?_, hs.2⟩
  intro hx
  obtain ⟨c, hc, hm, h1, h2⟩ := hs.1 hx
  exact ⟨c, hc, hm, h1, h2, fun c' hc' h1' h2' => contig_unique h x c c' hm hc' h1 h2 h1' h2'⟩

/-- The binary search never indexes outside the table, whatever the table looks like (no panic even
on a non-conforming TOC). -/
theorem chunk_lookup_in_range (t : List Chunk) (x : Nat) :
    searchFirst t.length (chunkPred t x) ≤ t.length := by
  unfold searchFirst
  exact (searchLoop_range _ _ 0 t.length (Nat.zero_le _)).2

/-- `CacheOK` (every cached entry is a prefix of the genuine chunk) is an invariant of every history. -/
theorem cache_ok_any_history (content : Nat → Bytes) (E : Env) (ops : List Op)
    (hops : ∀ op ∈ ops, OpOK content E op) : CacheOK content (runOps E ops Cache.empty) :=
  runOps_ok ops Cache.empty hops (cacheOK_empty content)

/-- **Byte exactness under any access history.** Start from empty caches and run ANY sequence of
reads, prefetch-stores (`readAndCache` of single chunks or whole `cacheWithReader` walks), evictions
and truncations of cache entries, where everything accepted from the lower layers is genuine
(`OpOK`: digest verification, or an honest blob when verification is off). Then every read
`ReadAt(off, n)` of a well-formed file that succeeds returns exactly `content[off .. min(off+n, size))`
— in particular it is short at EOF and never wrong. -/
theorem read_exact_any_history (content : Nat → Bytes) (E : Env) (ops : List Op)
    (hops : ∀ op ∈ ops, OpOK content E op)
    (f : FileInfo) (hf : WF content f) (u : Under) (hu : Honest content E u) (off n : Nat) (b : Bytes) :
    (step E (runOps E ops Cache.empty) (.read f off n u)).2 = .ok b →
      b = slice (content f.id) off n ∧ b.length = min n ((content f.id).length - off) := by
  intro h
  have := (fileReadAt_exact hf hu _ (cache_ok_any_history content E ops hops) off n).2 b h
  exact ⟨this, by rw [this]; simp⟩

/-- The loop of `file.ReadAt` terminates for every chunk table (well formed or not), cache and
lower-layer behaviour: the model's fuel `n + 1` is never exhausted. -/
theorem read_terminates (E : Env) (u : Under) (f : FileInfo) (c : Cache) (off n : Nat) :
    (fileReadAt E u f c off n).2 ≠ .diverge :=
  fileReadAt_ne_diverge E u f c off n

/-- A read whose chunks are all cached is served without touching the lower layer: the result does
not depend on `u` at all and the cache is left alone. -/
theorem read_cached_is_local (content : Nat → Bytes) (E : Env) (u : Under) (f : FileInfo)
    (hf : WF content f) (c : Cache) (hc : CacheExact content c) (hall : AllCached f c) (off n : Nat) :
    fileReadAt E u f c off n = (c, .ok (slice (content f.id) off n)) :=
  fileReadAt_cached u hf c hc hall off n

/-- the `S_IFMT` part of the result is the type's constant: permission and special bits stay below -/
theorem sysmode_type_bits (m : FileMode) : fileModeToSystemMode m / 4096 = typeBits m.type / 4096 :=
  (fileModeToSystemMode_bits m).2.2.2.2

/-- `fileModeToSystemMode`: the file type bits (`S_IFMT`) determine the entry type — the conversion
is injective on the type. -/
theorem attr_conversion_type_injective (m1 m2 : FileMode)
    (h : fileModeToSystemMode m1 / 4096 = fileModeToSystemMode m2 / 4096) : m1.type = m2.type := by
  rw [sysmode_type_bits, sysmode_type_bits] at h
  revert h
  cases m1.type <;> cases m2.type <;> decide

/-- the permission bits pass unchanged -/
theorem attr_conversion_perm_preserved (m : FileMode) :
    fileModeToSystemMode m % 512 = m.perm % 512 :=
  (fileModeToSystemMode_bits m).1

/-- setuid / setgid / sticky map to `S_ISUID` / `S_ISGID` / `S_ISVTX` and nothing else sets them -/
theorem attr_conversion_special_bits (m : FileMode) :
    (fileModeToSystemMode m / 2048 % 2 = 1 ↔ m.setuid = true) ∧
    (fileModeToSystemMode m / 1024 % 2 = 1 ↔ m.setgid = true) ∧
    (fileModeToSystemMode m / 512 % 2 = 1 ↔ m.sticky = true) := by
  obtain ⟨-, h1, h2, h3, -⟩ := fileModeToSystemMode_bits m
  rw [h1, h2, h3]
  exact ⟨Bool.toNat_eq_one, Bool.toNat_eq_one, Bool.toNat_eq_one⟩

/-- Through `TOCEntry.Stat().Mode()` and `fileModeToSystemMode` the low twelve bits of the tar
header's mode (permissions + setuid/setgid/sticky) arrive unchanged next to the type bits. -/
theorem attr_conversion_header_mode (n : Node) (h : n.mode < 4096) :
    fileModeToSystemMode n.toAttr.mode = typeBits n.type + n.mode := by
  rw [fileModeToSystemMode_toAttr, Nat.mod_eq_of_lt h]

/-- `entryToAttr`: a symlink's size is the length of its target, a link count of zero shows as one,
sizes and owners of other entries pass through. -/
theorem attr_conversion_entry (ino : Nat) (e : Attr) :
    (entryToAttr ino e).nlink ≥ 1 ∧
    (e.mode.type = .symlink → (entryToAttr ino e).size = e.linkName.utf8ByteSize) ∧
    (e.mode.type ≠ .symlink → (entryToAttr ino e).size = e.size) ∧
    (e.numLink % 4294967296 ≠ 0 → (entryToAttr ino e).nlink = e.numLink % 4294967296) ∧
    (entryToAttr ino e).mode = fileModeToSystemMode e.mode := by
  unfold entryToAttr
  refine ⟨?_, ?_, ?_, ?_, rfl⟩
  · simp only []; split <;> omega
  · intro h; simp [h]
  · intro h; simp [h]
  · intro h; simp [h]

/-- The full metadata statement: the tree a metadata store builds from the TOC that `Build` writes
for `tar` shows, at every path, the node `tarView tar` describes — for EVERY tar.  `interp` stands
for "Build, then the store's TOC interpreter, then `GetAttr`/`GetChild`".
Proved below (`metadata_equal_tar_partial`) for both stores' models (`Toc.memTree`, `Toc.dbTree` of
C05) on the decidable fragment `MetaTar.TarOK`.  Still open for the full statement:
  * link counts (the proved relation `AttrMatches` covers type+mode, size, owner, device numbers,
    symlink target, xattrs and which paths exist — not `nlink`; C05's invariant
    (`Toc.R.Inv.node`) relates the two stores' NumLink to each other, not to the tar);
  * archives outside the fragment: an entry for the root itself, a directory entry after its
    content (both are where the two real stores are known to differ: db-root-attr-read-before-init,
    db-dir-nlink-double-counted-late-dir-entry), names not spelled plainly (reduced to plain ones
    by `cleanName` in both models, composition not formalised), mtime (not part of `TarEntry`).
All of it is compared on every run, path by path, by the correspondence (`stat`/`ls`/`xattr`) and
by the Go oracle. -/
def MetadataEqualTar (interp : List TarEntry → View) : Prop :=
  ∀ tar p, (interp tar).node p = (tarView tar).node p

/-- the archive's entries, by clean name, last duplicate winning: word for word the `let es` of `tarView`
(and `MetaTar.importTar`), so that the two unfold to the same text -/
def liveEntries (tar : List TarEntry) : List (Path × TarEntry) :=
  dedupLast (tar.map fun e => (cleanName e.name, e))

/-- `dedupLast` only drops entries (stated as membership, not as `List.Sublist`) -/
theorem dedupLast_sublist (l : List (Path × TarEntry)) : ∀ x ∈ dedupLast l, x ∈ l :=
  MetaTar.dedupLast_sub l

/-- after `dedupLast` every name occurs once: an entry is never followed by another of its name -/
theorem dedupLast_unique (l : List (Path × TarEntry)) :
    ∀ (pre : List (Path × TarEntry)) (x : Path × TarEntry) (post : List (Path × TarEntry)),
      dedupLast l = pre ++ x :: post → ∀ y ∈ post, y.1 ≠ x.1 := by
  induction l with
  | nil => intro pre x post h; cases pre <;> simp [dedupLast] at h
  | cons z zs ih =>
    intro pre x post h
    unfold dedupLast at h
    split at h
    · exact ih pre x post h
    · rename_i hany
      cases pre with
      | nil =>
        simp at h
        obtain ⟨rfl, rfl⟩ := h
        intro y hy hne
        apply hany
        simp only [List.any_eq_true, decide_eq_true_eq]
        exact ⟨y, dedupLast_sublist zs y hy, hne⟩
      | cons p ps =>
        simp at h
        exact ih ps x post h.2

/-- **What the specification says about a path with its own (non-hardlink) entry** — "last duplicate
wins", attributes come from that header (a fact about `tarView` alone). -/
theorem spec_last_duplicate_wins (tar : List TarEntry) (p : Path) (e : TarEntry)
    (he : findEntry (liveEntries tar) p = some e) (hnl : e.type ≠ .hardlink) :
    ∃ n, (tarView tar).node p = some n ∧
      n.type = ntypeOf e.type ∧ n.mode = e.mode % 4096 ∧ n.uid = e.uid ∧ n.gid = e.gid ∧
      n.xattrs = e.xattrs ∧ n.content = e.content ∧
      (e.type = .reg → n.size = e.size) ∧ (e.type = .symlink → n.link = e.link) ∧
      ((e.type = .char ∨ e.type = .block) → n.devMajor = e.devMajor ∧ n.devMinor = e.devMinor) := by
  have hres : resolve (liveEntries tar) ((liveEntries tar).length + 1) p = some (p, e) := by
    simp [resolve, he, hnl]
  obtain ⟨n, hn, h⟩ := MetaTar.tarView_entry he hres
  exact ⟨n, hn, h.type, h.mode, h.uid, h.gid, h.xattrs, h.content, fun t => by rw [h.size, if_pos t],
    fun t => by rw [h.link, if_pos t], fun t => ⟨by rw [h.devMajor, if_pos t], by rw [h.devMinor, if_pos t]⟩⟩

/-- a hardlink is another name of what it resolves to: same node -/
theorem metadata_hardlink_same_node (tar : List TarEntry) (p q : Path) (e : TarEntry)
    (hr : resolve (liveEntries tar) ((liveEntries tar).length + 1) p = some (q, e))
    (hq : resolve (liveEntries tar) ((liveEntries tar).length + 1) q = some (q, e))
    (hp : findEntry (liveEntries tar) p ≠ none) (hq' : findEntry (liveEntries tar) q ≠ none)
    (hpc : (tarView tar).paths.contains p = true) (hqc : (tarView tar).paths.contains q = true) :
    (tarView tar).node p = (tarView tar).node q := by
  unfold tarView at *
  simp only [liveEntries] at *
  cases h1 : findEntry (dedupLast (tar.map fun e => (cleanName e.name, e))) p with
  | none => exact absurd h1 hp
  | some e1 =>
    cases h2 : findEntry (dedupLast (tar.map fun e => (cleanName e.name, e))) q with
    | none => exact absurd h2 hq'
    | some e2 =>
      simp only [hpc, hqc, hr, hq, Bool.not_true, Bool.false_eq_true, if_false]

/-- **Metadata equals the tar, both stores (partial: fragment `TarOK`, link counts excepted).**
For every tar of the decidable fragment `MetaTar.TarOK` — plain names, any duplicates (the builder's
`importTar` keeps the last), explicit or implicit parent directories at any depth, regular files,
directories, symlinks, char/block devices, fifos, hardlinks and hardlink chains to earlier
non-directories, arbitrary modes, owners, device numbers and xattrs — and for the TOC the builder's
entry translation `MetaTar.tocOfTar` writes for it:
  * both TOC interpreters accept the TOC and their canonical views coincide (C05);
  * walking children maps from the root (what `GetChild` does), the memory store's tree has a node
    at path `p` exactly when `tarView tar` describes one, and then the node's `metadata.Attr`
    matches the described node: Go file mode of (type, header mode), size, uid, gid, device
    numbers, symlink target, xattrs (`MetaTar.AttrMatches`); a hardlink name leads to its target's
    node; an ancestor without entry is a 0755 root:root directory; nothing else exists;
  * the same holds for the db store's tree as far as a container can observe attributes
    (`Toc.normalise` = `entryToAttr`). -/
theorem metadata_equal_tar_partial (xv : Bytes → String) (tar : List TarEntry) (ok : MetaTar.TarOK xv tar) :
    ∃ tm td, Toc.memTree (MetaTar.tocOfTar xv tar) = .accept tm ∧
      Toc.dbTree (MetaTar.tocOfTar xv tar) = .accept td ∧ Toc.view tm = Toc.view td ∧
      ∀ p, MetaTar.PathMatches xv tm tar p ∧ MetaTar.PathMatchesN xv td tar p :=
  MetaTar.both_trees_match ok

/-- Listings: below any directory the memory store serves exactly the names the tar describes
(a name is served iff the path exists in `tarView`). -/
theorem metadata_listing_equal_partial (xv : Bytes → String) (tar : List TarEntry) (ok : MetaTar.TarOK xv tar) :
    ∃ tm, Toc.memTree (MetaTar.tocOfTar xv tar) = .accept tm ∧
      ∀ (p : Path) (b : String),
        (Toc.walkKids (fun k => (tm.node k).kids) tm.root (p ++ [b])).isSome =
          ((tarView tar).node (p ++ [b])).isSome := by
  obtain ⟨tm, _, hm, _, _, h⟩ := metadata_equal_tar_partial xv tar ok
  refine ⟨tm, hm, fun p b => ?_⟩
  have := (h (p ++ [b])).1
  unfold MetaTar.PathMatches at this
  cases hw : Toc.walkKids (fun k => (tm.node k).kids) tm.root (p ++ [b]) with
  | none => rw [hw] at this; simp only [] at this; rw [this]; rfl
  | some k => rw [hw] at this; simp only [] at this; obtain ⟨n, hn, _⟩ := this; rw [hn]; rfl

def exTable : List Chunk := [⟨0, 4⟩, ⟨4, 4⟩, ⟨8, 2⟩]
def exContent : Nat → Bytes := fun _ => [1, 2, 3, 4, 5, 6, 7, 8, 9, 10]
def exFile : FileInfo := { id := 0, variant := .mem, table := exTable, size := 10, firstOff := 100 }
def exEnv : Env :=
  { verify := fun id b => b == trueChunk exContent id, co := fun _ => some [] }
def exUnder : Under := fun id => some (trueChunk exContent id)

example : Contig 0 exTable := by decide
example : chunkEntryForOffset .mem exTable 5 = some ⟨4, 4⟩ := by decide
example : chunkEntryForOffset .db exTable 9 = some ⟨8, 2⟩ := by decide
example : chunkEntryForOffset .mem exTable 10 = none := by decide

theorem exWF : WF exContent exFile := ⟨by decide, by decide, by decide⟩

theorem exHonest : Honest exContent exEnv exUnder := by
  intro id b _ _ hv
  simpa [exEnv] using hv

/-- the hypotheses of `read_exact_any_history` are met by a history that reads, evicts, truncates
and prefetch-stores -/
example : ∀ op ∈ [Op.read exFile 3 4 exUnder, Op.evict ⟨0, 4, 4⟩, Op.truncate ⟨0, 0, 4⟩ 2,
    Op.cacheFiles (fun o => decide (o < 200)) [exFile] exUnder], OpOK exContent exEnv op := by
  intro op h
  simp only [List.mem_cons, List.mem_nil_iff, or_false] at h
  rcases h with h | h | h | h <;> subst h
  · exact ⟨exWF, exHonest⟩
  · trivial
  · trivial
  · exact exHonest

/-- …and a read after that history really succeeds (crossing a truncated and an evicted chunk) -/
example : (step exEnv (runOps exEnv [Op.read exFile 3 4 exUnder, Op.evict ⟨0, 4, 4⟩, Op.truncate ⟨0, 0, 4⟩ 2]
    Cache.empty) (.read exFile 1 20 exUnder)).2 = .ok [2, 3, 4, 5, 6, 7, 8, 9, 10] := by decide +kernel

/-- a lying lower layer is refused (error), never served -/
example : (fileReadAt exEnv (fun _ => some [9, 9, 9, 9]) exFile Cache.empty 0 4).2 = .err := by decide

/-- a tar whose view exercises duplicates, implicit parents and a hardlink -/
def exTar : List TarEntry :=
  let e (name : Path) (t : EType) (mode size : Nat) (lp : Path) (c : Nat) : TarEntry :=
    { name := name, type := t, mode := mode, uid := 0, gid := 0, size := size, link := "", linkPath := lp,
      devMajor := 0, devMinor := 0, xattrs := [], content := c }
  [e [".", "a", "f"] .reg 0o644 5 [] 0, e ["a", "g"] .hardlink 0 0 ["", "a", "f"] 1,
   e ["a", "f"] .reg 0o2755 7 [] 2]

example : ((tarView exTar).node ["a", "f"]).map (fun n => (n.mode, n.size, n.nlink, n.content)) =
    some (0o2755, 7, 2, 2) := by decide +kernel
example : ((tarView exTar).node ["a", "g"]).map (·.content) = some 2 := by decide +kernel
example : ((tarView exTar).node ["a"]).map (fun n => (n.type, n.mode, n.nlink)) = some (.dir, 0o755, 2) := by decide +kernel
example : ((tarView exTar).node []).map (·.nlink) = some 3 := by decide +kernel

def exXv : Bytes → String := fun b => String.ofList (b.map fun c => Char.ofNat c.toNat)

/-- a tar of the fragment `TarOK`: a duplicate name (the second `a/b/f` wins), implicit parents
`a` and `a/b`, a hardlink and a hardlink to that hardlink, a symlink, a sticky directory declared
before its content, a character device with large minor number, xattrs everywhere -/
def exTar2 : List TarEntry :=
  let e (name : Path) (t : EType) (mode size : Nat) (lp : Path) (c : Nat) : TarEntry :=
    { name := name, type := t, mode := mode, uid := 1000, gid := 5, size := size, link := "../t", linkPath := lp,
      devMajor := 4, devMinor := 300, xattrs := [("user.k", [118])], content := c }
  [e ["a", "b", "f"] .reg 0o644 5 [] 0, e ["a", "b", "f"] .reg 0o2755 7 [] 1,
   e ["a", "l1"] .hardlink 0 0 ["a", "b", "f"] 2, e ["l2"] .hardlink 0 0 ["a", "l1"] 3,
   e ["s"] .symlink 0o777 0 [] 4, e ["d"] .dir 0o1777 0 [] 5, e ["d", "c"] .char 0o600 0 [] 6]

set_option maxRecDepth 100000 in
/-- the hypothesis of `metadata_equal_tar_partial` is decidable and met by that tar -/
example : MetaTar.TarOK exXv exTar2 := by decide +kernel

/-- …whose view is not trivial: the chain `l2 → a/l1 → a/b/f` ends at the LAST `a/b/f` -/
example : ((tarView exTar2).node ["l2"]).map (fun n => (n.type, n.mode, n.size, n.content)) =
    some (.reg, 0o2755, 7, 1) := by decide +kernel
example : ((tarView exTar2).node ["a", "b"]).map (fun n => (n.type, n.mode, n.uid)) = some (.dir, 0o755, 0) := by decide +kernel
example : (tarView exTar2).node ["a", "x"] = none := by decide +kernel

end SV.Props.C02
