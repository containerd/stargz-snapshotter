/-
C06 part D — the HTTP wire level of the blob fetcher (fs/remote/resolver.go `httpFetcher.fetch`,
`parseRange`, the part readers; fs/remote/blob.go `contentRangeRegexp`, `fetchRegions`).

The C06b theorems speak about part-level replies `(region, bytes)` and assume `HonestReply`; here that
hypothesis is discharged from the bytes on the wire.
-/
import SV.Lemmas.HttpRange
import SV.Lemmas.Blob

namespace SV.Props.C06d
open SV.Region SV.Blob SV.HttpRange

/-- Exactly which headers `parseRange` accepts and what it returns: the header contains
`bytes D1-D2/D3` with three non-empty digit strings, `D3` not followed by a digit, no anchored
match of the regexp starts further left, and the numbers returned are the values of `D1 D2 D3`,
all below 2^63.  (In particular the returned numbers are numerals of the header; a `*` size or an
absent size is never accepted.) -/
theorem parseRange_accepts_iff (h : Str) (b e sz : Nat) :
    parseRange h = some (b, e, sz) ↔
      ∃ pre d1 d2 d3 post,
        h = pre ++ (bytesSp ++ d1 ++ [45] ++ d2 ++ [47] ++ d3 ++ post) ∧
        d1 ≠ [] ∧ d1.all isDigit = true ∧ d2 ≠ [] ∧ d2.all isDigit = true ∧
        d3 ≠ [] ∧ d3.all isDigit = true ∧ NoDigitHead post ∧
        (∀ k, k < pre.length → matchHere (h.drop k) = none) ∧
        decVal d1 = b ∧ decVal d2 = e ∧ decVal d3 = sz ∧ b < two63 ∧ e < two63 ∧ sz < two63 := by
  simp only [parseRange_some, parseDec63_some]
  constructor
  · rintro ⟨d1, d2, d3, hf, h1, h2, h3⟩
    obtain ⟨pre, s, hps, hm, hnone⟩ := (findMatch_some h _).mp hf
    obtain ⟨post, hs, hp⟩ := (matchHere_iff s d1 d2 d3 h1.toDigits h2.toDigits h3.toDigits).mp hm
    exact ⟨pre, d1, d2, d3, post, hs ▸ hps, h1.ne, h1.all, h2.ne, h2.all, h3.ne, h3.all, hp, hnone,
      h1.val, h2.val, h3.val, h1.lt, h2.lt, h3.lt⟩
  · rintro ⟨pre, d1, d2, d3, post, hh, n1, a1, n2, a2, n3, a3, hp, hnone, v1, v2, v3, l1, l2, l3⟩
    exact ⟨d1, d2, d3,
      (findMatch_some h _).mpr ⟨pre, _, hh,
        (matchHere_iff _ d1 d2 d3 ⟨n1, a1⟩ ⟨n2, a2⟩ ⟨n3, a3⟩).mpr ⟨post, rfl, hp⟩, hnone⟩,
      ⟨⟨n1, a1⟩, v1, l1⟩, ⟨⟨n2, a2⟩, v2, l2⟩, ⟨⟨n3, a3⟩, v3, l3⟩⟩

/-- Round trip: the Content-Range an honest server writes is read back exactly, for all int64
values. -/
theorem parseRange_roundtrip (b e size : Nat) (hb : b < two63) (he : e < two63) (hs : size < two63) :
    parseRange (fmtContentRange b e size) = some (b, e, size) := by
  rw [parseRange_fmtContentRange, if_pos ⟨hb, he, hs⟩]

/-- A value ≥ 2^63 in any of the three positions is rejected (strconv range error), never
wrapped. -/
theorem parseRange_rejects_overflow (b e size : Nat) (h : two63 ≤ b ∨ two63 ≤ e ∨ two63 ≤ size) :
    parseRange (fmtContentRange b e size) = none := by
  rw [parseRange_fmtContentRange, if_neg]
  exact fun ⟨h1, h2, h3⟩ => h.elim (Nat.not_le_of_lt h1) fun h =>
    h.elim (Nat.not_le_of_lt h2) (Nat.not_le_of_lt h3)

-- "bytes 0-5/10"
example : parseRange [98, 121, 116, 101, 115, 32, 48, 45, 53, 47, 49, 48] = some (0, 5, 10) := by decide +kernel
-- "bytes 0-5/*": the `*` size of RFC 7233 is NOT accepted (the regexp alternative is `\\*`)
example : parseRange [98, 121, 116, 101, 115, 32, 48, 45, 53, 47, 42] = none := by decide +kernel
-- "xbytes 0-5/10y": unanchored
example : parseRange [120, 98, 121, 116, 101, 115, 32, 48, 45, 53, 47, 49, 48, 121] = some (0, 5, 10) := by
  decide +kernel
-- "bytes 1-2/ bytes 3-4/5": the leftmost match decides, the later well-formed one is ignored
example : parseRange [98, 121, 116, 101, 115, 32, 49, 45, 50, 47, 32, 98, 121, 116, 101, 115, 32, 51, 45, 52, 47, 53]
    = none := by decide +kernel
example : (9223372036854775807 : Nat) < two63 := by decide +kernel

/-- Wire-level honesty: every part that announces a position (its Content-Range is accepted by
`parseRange`; position 0 for a 200) carries the blob bytes starting at that position.  Nothing is
assumed about the announced end, the announced size, the number or order of parts, lengths,
unparsable headers or the status. -/
def WireHonest (B : Bytes) (w : Wire) : Prop :=
  (w.status = 200 → w.body = slice B 0 w.body.length) ∧
  (w.status = 206 → w.ctype = .other → ∀ b e sz, parseRange w.contentRange = some (b, e, sz) →
    w.body = slice B b w.body.length) ∧
  (w.status = 206 → w.ctype = .multipart → ∀ cr body, MItem.part cr body ∈ w.items →
    ∀ b e sz, parseRange cr = some (b, e, sz) → body = slice B b body.length)

theorem multiStream_honest (B : Bytes) (items : List MItem)
    (h : ∀ cr body, MItem.part cr body ∈ items →
      ∀ b e sz, parseRange cr = some (b, e, sz) → body = slice B b body.length) :
    ∀ p ∈ (multiStream items).1, p.data = slice B p.b p.data.length := by
  induction items with
  | nil => intro p hp; simp [multiStream] at hp
  | cons it rest ih =>
    cases it with
    | broken => intro p hp; simp [multiStream] at hp
    | part cr body =>
      intro p hp
      unfold multiStream at hp
      cases hpr : parseRange cr with
      | none => rw [hpr] at hp; simp at hp
      | some r =>
        obtain ⟨b, e, sz⟩ := r
        rw [hpr] at hp
        simp only [List.mem_cons] at hp
        rcases hp with rfl | hp
        · exact h cr body (List.mem_cons_self ..) b e sz hpr
        · exact ih (fun cr' body' hm => h cr' body' (List.mem_cons_of_mem _ hm)) p hp

theorem toPartsP_honest (P : Params) (B : Bytes) (ps : List WPart)
    (h : ∀ p ∈ ps, p.data = slice B p.b p.data.length) :
    ∀ q ∈ toPartsP P ps, HonestPart B q := by
  induction ps with
  | nil => intro q hq; simp [toPartsP] at hq
  | cons p ps ih =>
    intro q hq
    have hp := h p (List.mem_cons_self ..)
    have ih' := ih (fun p' hm => h p' (List.mem_cons_of_mem _ hm))
    unfold toPartsP at hq
    split at hq
    · split at hq
      · exact ih' q hq
      · simp only [List.mem_cons] at hq
        rcases hq with rfl | hq
        · exact hp
        · exact ih' q hq
    · simp only [List.mem_cons] at hq
      rcases hq with rfl | hq
      · exact hp
      · exact ih' q hq

/-- Wire-level honesty gives the `HonestReply` hypothesis of the C06b theorems, for every server
personality (whole body, single range, multipart, errors). -/
theorem wire_honest_reply (P : Params) (B : Bytes) (w : Wire) (h : WireHonest B w) :
    HonestReply B (toReply P w) := by
  obtain ⟨h200, h206s, h206m⟩ := h
  unfold toReply
  cases hst : stream w with
  | none => trivial
  | some r =>
    refine toPartsP_honest P B r.1 fun p hp => ?_
    unfold stream at hst
    split at hst
    · rename_i hs
      split at hst
      · cases hst
      · cases hst
        cases List.mem_singleton.mp hp
        exact h200 hs
    · split at hst
      · rename_i hs
        split at hst
        · cases hst
        · rename_i hct
          cases hst
          exact multiStream_honest B w.items (h206m hs hct) p hp
        · rename_i hct
          split at hst
          · cases hst
          · rename_i b e sz hpr
            cases hst
            cases List.mem_singleton.mp hp
            exact h206s hs hct b e sz hpr
      · cases hst

/-- The wire-level `fetchRegions` refines the part-level one: same state; same result, or an
error where the part-level model (which has no "stream ended in an error" flag) succeeds. -/
theorem fetchMissingW_refines (P : Params) (s : St) (missing : List Chunk) (w : Wire) :
    (fetchMissingW P s missing w).1 = (fetchMissing P s missing (toReply P w)).1 ∧
    ((fetchMissingW P s missing w).2 = (fetchMissing P s missing (toReply P w)).2 ∨
      (fetchMissingW P s missing w).2 = none) := by
  unfold fetchMissingW fetchMissing toReply
  split
  · exact ⟨rfl, Or.inl rfl⟩
  · cases stream w with
    | none => exact ⟨rfl, Or.inl rfl⟩
    | some r =>
      obtain ⟨ps, bad⟩ := r
      dsimp only
      rw [storePartsW_eq]
      cases storeParts P s (toPartsP P ps) with
      | mk s' r =>
        cases r with
        | none => exact ⟨rfl, Or.inl rfl⟩
        | some got =>
          cases bad
          · exact ⟨rfl, Or.inl rfl⟩
          · dsimp only
            rw [if_pos rfl]
            split <;> exact ⟨rfl, Or.inr rfl⟩

/-- `ReadAt` over a wire reply refines `ReadAt` over the part-level reply it stands for. -/
theorem readAtW_refines (P : Params) (s : St) (o n : Nat) (w : Wire) :
    (readAtW P s o n w).1 = (readAt P s o n (toReply P w)).1 ∧
    ((readAtW P s o n w).2 = (readAt P s o n (toReply P w)).2 ∨ (readAtW P s o n w).2 = none) := by
  unfold readAtW readAt
  split
  · exact ⟨rfl, Or.inl rfl⟩
  · cases walkChunks P (floorU o P.chunk) (ceilU (o + n - 1) P.chunk - 1) with
    | none => exact ⟨rfl, Or.inl rfl⟩
    | some cs =>
      dsimp only
      obtain ⟨h1, h2⟩ := fetchMissingW_refines P s (SV.Blob.classify o n s.cache cs).2 w
      revert h1 h2
      cases fetchMissingW P s (SV.Blob.classify o n s.cache cs).2 w with
      | mk s1 r1 =>
        cases fetchMissing P s (SV.Blob.classify o n s.cache cs).2 (toReply P w) with
        | mk s2 r2 =>
          rintro rfl h2
          cases r1 with
          | none => cases r2 <;> exact ⟨rfl, Or.inr rfl⟩
          | some got =>
            rcases h2 with h2 | h2
            · cases h2; exact ⟨rfl, Or.inl rfl⟩
            · cases h2

/-- Bytes on the wire honest ⇒ `ReadAt` is byte-exact.  For every state satisfying the
invariant, every offset / length and every wire reply (any status, media type, Content-Length,
Content-Range strings, part list, broken multipart body) that is honest at the wire level:
the invariant is kept and the result is an error or exactly `min n (size - o)` bytes equal to
`B[o, …)`. -/
theorem wire_honest_readAt_exact (P : Params) (B : Bytes) (hc : 0 < P.chunk) (hB : B.length = P.size)
    (s : St) (hs : Inv P B s) (o n : Nat) (w : Wire) (hw : WireHonest B w) :
    Inv P B (readAtW P s o n w).1 ∧
    (∀ x, cov x s.fetched → cov x (readAtW P s o n w).1.fetched) ∧
    ((readAtW P s o n w).2 = none ∨
      ∃ buf, (readAtW P s o n w).2 = some (min n (P.size - o), buf) ∧ buf.length = n ∧
        buf.take (min n (P.size - o)) = slice B o (min n (P.size - o))) := by
  obtain ⟨r1, r2⟩ := readAtW_refines P s o n w
  obtain ⟨h1, h2, h3⟩ := readAt_spec P B hc hB s hs o n (toReply P w) (wire_honest_reply P B w hw)
  rw [r1]
  refine ⟨h1, h2, ?_⟩
  rcases r2 with r2 | r2
  · rw [r2]; exact h3
  · exact Or.inl r2

/-- Over any history of reads, each answered by its own wire-honest reply, the invariant `Inv` is
kept from any state that has it; so `wire_honest_readAt_exact` applies to every read of the
history. -/
theorem wire_honest_history_exact (P : Params) (B : Bytes) (hc : 0 < P.chunk) (hB : B.length = P.size)
    (ops : List (Nat × Nat × Wire)) (hw : ∀ op ∈ ops, WireHonest B op.2.2) :
    ∀ s, Inv P B s →
      Inv P B (ops.foldl (fun s op => (readAtW P s op.1 op.2.1 op.2.2).1) s) := by
  induction ops with
  | nil => intro s hs; exact hs
  | cons op ops ih =>
    intro s hs
    simp only [List.foldl_cons]
    exact ih (fun op' hm => hw op' (List.mem_cons_of_mem _ hm)) _
      (wire_honest_readAt_exact P B hc hB s hs op.1 op.2.1 op.2.2 (hw op (List.mem_cons_self ..))).1

-- non-vacuity: blob 0..7, chunk 4; a multipart reply "bytes 0-3/8" carrying [0,1,2,3]
def exB8 : Bytes := [0, 1, 2, 3, 4, 5, 6, 7]
def crA : Str := [98, 121, 116, 101, 115, 32, 48, 45, 51, 47, 56]           -- "bytes 0-3/8"
def exHonest : Wire := { status := 206, ctype := .multipart, items := [.part crA [0, 1, 2, 3]] }
/-- the same Content-Range on the bytes of the NEXT chunk: a server lying about the position -/
def exLying : Wire := { status := 206, ctype := .multipart, items := [.part crA [4, 5, 6, 7]] }

example : parseRange crA = some (0, 3, 8) := by decide +kernel
example : WireHonest exB8 exHonest := by
  unfold WireHonest
  refine ⟨by decide, by intro _ h; exact absurd h (by decide), ?_⟩
  intro _ _ cr body hm b e sz hp
  simp only [exHonest, List.mem_singleton, MItem.part.injEq] at hm
  obtain ⟨rfl, rfl⟩ := hm
  have : parseRange crA = some (0, 3, 8) := by decide +kernel
  rw [this] at hp
  simp only [Option.some.injEq, Prod.mk.injEq] at hp
  obtain ⟨rfl, _, _⟩ := hp
  decide +kernel
example : (readAtW ⟨8, 4⟩ {} 1 2 exHonest).2 = some (2, [1, 2]) := by decide +kernel

/-- Whatever the server sends — honest or not, any wire reply at all — a successful `ReadAt`
reports exactly `min n (size - o)` bytes.  (Count and buffer size never depend on the reply; only
the byte VALUES can be wrong.) -/
theorem any_server_count_exact (P : Params) (s : St) (o n : Nat) (w : Wire) :
    (readAtW P s o n w).2 = none ∨
      ∃ buf, (readAtW P s o n w).2 = some (min n (P.size - o), buf) := by
  unfold readAtW
  split
  · rename_i h
    rcases h with rfl | h
    · exact Or.inr ⟨_, by rw [Nat.zero_min]⟩
    · exact Or.inr ⟨_, by rw [Nat.sub_eq_zero_of_le (Nat.le_of_lt h), Nat.min_zero]⟩
  · cases walkChunks P (floorU o P.chunk) (ceilU (o + n - 1) P.chunk - 1) with
    | none => left; rfl
    | some cs =>
      simp only
      cases fetchMissingW P s (SV.Blob.classify o n s.cache cs).2 w with
      | mk s1 r1 =>
        cases r1 with
        | none => left; rfl
        | some got => right; rw [← adjust_eq]; exact ⟨_, rfl⟩

/-- A lying server is an honest server of another blob: if the replies are consistent with ANY
byte string `B'` of the blob's length (each announced position carries `B'` bytes), reads return
`B'` — the code is a faithful function of (Content-Range, bytes) and nothing in it can tell `B'`
from the real blob.  Detection is the digest verification of C01, not this layer. -/
theorem lying_server_serves_its_own_blob (P : Params) (B' : Bytes) (hc : 0 < P.chunk)
    (hB : B'.length = P.size) (o n : Nat) (w : Wire) (hw : WireHonest B' w) :
    (readAtW P {} o n w).2 = none ∨
      ∃ buf, (readAtW P {} o n w).2 = some (min n (P.size - o), buf) ∧
        buf.take (min n (P.size - o)) = slice B' o (min n (P.size - o)) := by
  obtain ⟨_, _, h⟩ := wire_honest_readAt_exact P B' hc hB {} (inv_init P B') o n w hw
  rcases h with h | ⟨buf, h1, _, h2⟩
  · exact Or.inl h
  · exact Or.inr ⟨buf, h1, h2⟩

/-- …and such a lie is not detected: a part announcing `bytes 0-3/8` but carrying the bytes of the
next chunk is accepted, cached under chunk [0,3] and returned. -/
theorem lying_position_undetected :
    ¬ WireHonest exB8 exLying ∧
    (readAtW ⟨8, 4⟩ {} 1 2 exLying).2 = some (2, [5, 6]) ∧
    slice exB8 1 2 = [1, 2] ∧
    -- the poisoned cache entry then serves later reads without any request
    (readAtW ⟨8, 4⟩ (readAtW ⟨8, 4⟩ {} 1 2 exLying).1 0 4 { status := 500 }).2
      = some (4, [4, 5, 6, 7]) := by
  refine ⟨?_, by decide +kernel⟩
  intro h
  have := h.2.2 rfl rfl crA [4, 5, 6, 7] (by simp [exLying]) 0 3 8 (by decide)
  revert this
  decide +kernel

/-- What IS detected, for any content: a part announcing a start that is not chunk aligned makes
the fetch fail (no byte of it is used). -/
theorem misaligned_part_is_error (P : Params) (s : St) (missing : List Chunk) (w : Wire)
    (p : WPart) (bad : Bool) (rest : List WPart)
    (hst : stream w = some (p :: rest, bad)) (hmis : p.b % P.chunk ≠ 0) (hm : missing ≠ []) :
    fetchMissingW P s missing w = (s, none) := by
  have : walkChunksI P p.b p.e = none := by unfold walkChunksI; rw [if_pos hmis]
  rw [fetchMissingW_of_stream P s w hm hst, storePartsW, this]

/-- 200 with a Content-Length that `strconv.ParseInt` accepts is the single part
`region{0, L-1}` over the whole body; an unparsable Content-Length is a fetch error. -/
theorem status200_region (w : Wire) (h : w.status = 200) :
    stream w = (parseInt64 w.contentLength).map
      (fun L => ([⟨0, sub1wrap L, w.body⟩], false)) := by
  unfold stream
  rw [if_pos h]
  cases parseInt64 w.contentLength <;> rfl

/-- Content-Length ≤ 0 (but not the int64 minimum, where `L-1` wraps to 2^63-1): the region is
`[0, L-1]` with `L-1 < 0`, the chunk loop does not run, no byte is read, the state is unchanged and
`fetchRegions` reports "failed to fetch region" — an error, no crash and no hang. -/
theorem status200_nonpositive_length (P : Params) (s : St) (missing : List Chunk) (w : Wire)
    (L : Int) (h : w.status = 200) (hL : parseInt64 w.contentLength = some L)
    (h0 : L ≤ 0) (hmin : L ≠ -(two63 : Int)) (hm : missing ≠ []) :
    stream w = some ([⟨0, L - 1, w.body⟩], false) ∧ fetchMissingW P s missing w = (s, none) := by
  have hst : stream w = some ([⟨0, L - 1, w.body⟩], false) := by
    rw [status200_region w h, hL]
    simp [sub1wrap, hmin]
  refine ⟨hst, ?_⟩
  rw [fetchMissingW_of_stream P s w hm hst]
  have hw : walkChunksI P 0 (L - 1) = some [] := by
    unfold walkChunksI
    rw [if_neg (by simp), if_pos (show L - 1 < ((0 : Nat) : Int) from Int.sub_one_lt_of_le h0)]
  simp only [storePartsW, hw, storeChunks]
  cases missing with
  | nil => exact absurd rfl hm
  | cons c cs => simp

/-- The int64 minimum wraps: Content-Length "-9223372036854775808" is the region
`[0, 9223372036854775807]`. -/
theorem status200_min_wraps (w : Wire) (h : w.status = 200)
    (hL : parseInt64 w.contentLength = some (-(two63 : Int))) :
    stream w = some ([⟨0, (two63 : Int) - 1, w.body⟩], false) := by
  rw [status200_region w h, hL]
  simp [sub1wrap]

-- "0", "-7", "+5", "" , "5x"
example : parseInt64 [48] = some 0 := by decide +kernel
example : parseInt64 [45, 55] = some (-7) := by decide +kernel
example : parseInt64 [43, 53] = some 5 := by decide +kernel
example : parseInt64 [] = none := by decide +kernel
example : parseInt64 [53, 120] = none := by decide +kernel
example : (fetchMissingW ⟨8, 4⟩ {} [⟨0, 3⟩] { status := 200, contentLength := [48], body := [1, 2, 3, 4] })
    = ({}, none) := by
  exact (status200_nonpositive_length ⟨8, 4⟩ {} [⟨0, 3⟩] _ 0 rfl (by decide) (by decide) (by decide)
    (by simp)).2

/-- `len(rs) == 0` is the error "no request queried"; nothing is sent. -/
theorem rangeHeader_empty (single : Bool) : rangeHeader single [] = .noRequest := rfl

/-- Range-header round trip.  For every non-empty request list of non-empty, non-negative regions
(what `fetchRegions` passes: chunks), in multi-range and in single-range mode: `fetch` neither
panics (`superRegion(requests)[0]`, `ranges[:len(ranges)-1]`) nor refuses; the header it sends,
read by a server-side RFC 7233 parser, is exactly the request list `reqs` — the squashed regions,
or in single-range mode the one region spanning them. -/
theorem rangeHeader_roundtrip (single : Bool) (rs : List Region) (hne : rs ≠ [])
    (h : ∀ r ∈ rs, 0 ≤ r.b ∧ r.b ≤ r.e) :
    ∃ reqs hdr, requests single rs = some reqs ∧ rangeHeader single rs = .header hdr ∧
      rfcParse hdr = some (pairsOf reqs) ∧ reqs ≠ [] ∧ (∀ r ∈ reqs, 0 ≤ r.b ∧ r.b ≤ r.e) ∧
      (single = false → reqs = squash rs) ∧
      (single = true → ∃ r, reqs = [r] ∧ (∀ x ∈ squash rs, r.b ≤ x.b ∧ x.e ≤ r.e) ∧
        (∃ x ∈ squash rs, r.b = x.b) ∧ (∃ x ∈ squash rs, r.e = x.e)) := by
  obtain ⟨hw, hn, hsq⟩ := squash_spec rs hne h
  have key : ∀ reqs, requests single rs = some reqs → reqs ≠ [] →
      (∀ r ∈ reqs, 0 ≤ r.b ∧ r.b ≤ r.e) →
      ∃ hdr, rangeHeader single rs = .header hdr ∧ rfcParse hdr = some (pairsOf reqs) := by
    intro reqs hr hrne hrr
    obtain ⟨p1, p2⟩ := rfcParse_header reqs hrne
      (fun r hm => ⟨(hrr r hm).1, Int.le_trans (hrr r hm).1 (hrr r hm).2⟩)
    refine ⟨_, ?_, p2⟩
    unfold rangeHeader
    rw [if_neg hne, hr]
    simp only [if_neg p1]
  cases single with
  | false =>
    have hr : requests false rs = some (squash rs) := rfl
    have hrr : ∀ r ∈ squash rs, 0 ≤ r.b ∧ r.b ≤ r.e := fun r hm => ⟨hn r hm, hw.1 r hm⟩
    obtain ⟨hdr, k1, k2⟩ := key _ hr hsq hrr
    exact ⟨_, hdr, hr, k1, k2, hsq, hrr, fun _ => rfl, fun hc => by cases hc⟩
  | true =>
    obtain ⟨r, hsr, hall, ⟨x, hx, hbx⟩, ⟨y, hy, hey⟩⟩ := superRegion_of_ne_nil hsq
    have hr : requests true rs = some [r] := by unfold requests; rw [if_pos rfl, hsr]; rfl
    have hrr : ∀ r' ∈ [r], 0 ≤ r'.b ∧ r'.b ≤ r'.e := by
      intro r' hm
      simp only [List.mem_singleton] at hm
      subst hm
      exact ⟨hbx ▸ hn x hx, Int.le_trans (hall x hx).1 (Int.le_trans (hw.1 x hx) (hall x hx).2)⟩
    obtain ⟨hdr, k1, k2⟩ := key _ hr (List.cons_ne_nil _ _) hrr
    exact ⟨_, hdr, hr, k1, k2, List.cons_ne_nil _ _, hrr, (fun hc => by cases hc),
      fun _ => ⟨r, rfl, hall, ⟨x, hx, hbx⟩, ⟨y, hy, hey⟩⟩⟩

-- non-vacuity: chunks [4,7], [0,3], [12,15] -> "bytes=0-7,12-15" / single: "bytes=0-15"
example : ∀ r ∈ [(⟨4, 7⟩ : Region), ⟨0, 3⟩, ⟨12, 15⟩], 0 ≤ r.b ∧ r.b ≤ r.e := by decide +kernel
example : requests false [⟨4, 7⟩, ⟨0, 3⟩, ⟨12, 15⟩] = some [⟨0, 7⟩, ⟨12, 15⟩] := by decide +kernel
example : requests true [⟨4, 7⟩, ⟨0, 3⟩, ⟨12, 15⟩] = some [⟨0, 15⟩] := by decide +kernel
-- "bytes=0-7,12-15"
example : rfcParse [98, 121, 116, 101, 115, 61, 48, 45, 55, 44, 49, 50, 45, 49, 53] = some [(0, 7), (12, 15)] := by
  decide +kernel
-- a trailing comma (the untrimmed string) is not a valid header
example : rfcParse [98, 121, 116, 101, 115, 61, 48, 45, 55, 44] = none := by decide +kernel

end SV.Props.C06d
