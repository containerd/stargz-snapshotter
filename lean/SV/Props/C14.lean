/-
C14 — Prioritized files are laid out first, in order, ahead of a single landmark.

The model is `SV.Model.Sort` (estargz/build.go: importTar, moveRec, sortEntries; estargz/estargz.go: the
stream-boundary rule of appendTar and the offset shift of closeWithCombine); the specification
vocabulary (`Reach`, `Missing`, `PlacedIn`, `StepsOK`, …) is defined in `SV.Lemmas.Sort`.

Throughout, `es` is ANY list of tar headers, `prio` ANY prioritized list, `allow` says whether
WithAllowPrioritizeNotFound was given; there is no hypothesis on the tar.  `sortEntries` always
returns (`sortEntries_terminates`): `.ok out missed`, or `.err` for a missing path (when not
allowed) or a cycle of hardlinks reached from a listed path.  Before the repair of `moveRec`
(commit d5da172) such a cycle made the recursion run forever: `moveRecOld`,
`cycle_diverges_witness` (on the implementation: fatal stack overflow, oracle signature
`moverec-link-cycle`).
-/
import SV.Lemmas.Sort

namespace SV.Props.C14
open SV.Sort

/-- `importTar` drops the entries named like a landmark, and of the others keeps exactly the LAST
entry of every cleaned name, at that entry's (later) position: the result is a sub-list of the
input (relative order kept), has no two entries of the same cleaned name, still has an entry for
every non-landmark name of the input, and an entry survives iff no later entry carries its name. -/
theorem import_last_duplicate_wins (es : List Entry) :
    importTar es = dedupLast (nonLandmarks es) ∧
    (importTar es).Sublist es ∧
    KeysNodup (importTar es) ∧
    (∀ e, e ∈ importTar es ↔
      ∃ pre post, nonLandmarks es = pre ++ e :: post ∧ ∀ x ∈ post, x.key ≠ e.key) ∧
    (∀ e ∈ es, isLandmarkKey e.key = false → ∃ x ∈ importTar es, x.key = e.key) ∧
    (∀ e ∈ importTar es, isLandmarkKey e.key = false) := by
  refine ⟨importTar_eq es, importTar_sublist es, importTar_keysNodup es, ?_, ?_,
    fun e he => importTar_not_landmark he⟩
  · intro e; rw [importTar_eq]; exact mem_dedupLast_iff
  · intro e he hl
    rw [importTar_eq]
    apply mem_dedupLast_key
    unfold nonLandmarks
    exact List.mem_filter.mpr ⟨he, by simp [hl]⟩

/-- The output is a permutation of (the one landmark) + (the de-duplicated input without
landmarks), and has no repeated entry: no input entry is lost or duplicated by the reordering. -/
theorem sort_perm {es : List Entry} {prio : List String} {allow : Bool}
    {out : List Entry} {missed : List String}
    (h : sortEntries es prio allow = .ok out missed) :
    out.Perm (landmarkFor prio :: importTar es) ∧ out.Nodup := by
  obtain ⟨blocks, hp⟩ := (sortEntries_structure prio allow).ok out missed h
  have hinpnd : (importTar es).Nodup := (importTar_keysNodup es).nodup
  -- the moved entries are, up to order, those of the input that are in the group
  have hgroup : ((importTar es).filter (fun e => decide (e ∈ blocks.flatten))).Perm blocks.flatten := by
    rw [List.perm_ext_iff_of_nodup (hinpnd.sublist List.filter_sublist) hp.nodup.nodup]
    intro a
    simp only [List.mem_filter, decide_eq_true_eq]
    exact ⟨fun h => h.2, fun h => ⟨hp.sub a h, h⟩⟩
  have hp : out.Perm (landmarkFor prio :: importTar es) := by
    rw [hp.out_eq, List.filter_congr fun x _ => decide_not]
    exact List.perm_middle.trans ((List.perm_cons _).mpr
      ((List.Perm.append_right _ hgroup.symm).trans (List.filter_append_perm _ _)))
  exact ⟨hp, hp.nodup_iff.mpr (List.nodup_cons.mpr ⟨landmarkFor_not_mem_importTar es prio, hinpnd⟩)⟩

/-- Exactly one entry of the output is named like a landmark: the one `sortEntries` created —
the prefetch landmark when the list is non-empty, the no-prefetch landmark when it is empty
(landmark entries of the input are gone). -/
theorem single_landmark {es : List Entry} {prio : List String} {allow : Bool}
    {out : List Entry} {missed : List String}
    (h : sortEntries es prio allow = .ok out missed) :
    out.filter (fun e => isLandmarkKey e.key) = [landmarkFor prio] ∧
    (prio = [] → landmarkFor prio = landmarkEntry noPrefetchLandmark) ∧
    (prio ≠ [] → landmarkFor prio = landmarkEntry prefetchLandmark) := by
  obtain ⟨blocks, hp⟩ := (sortEntries_structure prio allow).ok out missed h
  refine ⟨?_, fun hp => hp ▸ landmarkFor_nil, landmarkFor_of_ne_nil⟩
  rw [hp.out_eq, List.filter_append, List.filter_cons, filter_landmark_importTar hp.sub,
    filter_landmark_importTar fun e he => (List.mem_filter.mp he).1, landmarkFor_isLandmark]
  rfl

/-- With an empty list the output is the no-prefetch landmark followed by the de-duplicated
input, unchanged — for every tar (no hypothesis needed). -/
theorem empty_list_noprefetch (es : List Entry) (allow : Bool) :
    sortEntries es [] allow = .ok (landmarkEntry noPrefetchLandmark :: importTar es) [] := by
  simp [sortEntries, sortLoop, dump, landmarkFor]

/-- The output is `group ++ landmark :: rest` where `rest` is exactly the entries not moved to the
leading group, in their original relative order (a sub-list of the de-duplicated input, hence of
the input tar), and every input entry that survived de-duplication is in one of the two parts. -/
theorem rest_keeps_relative_order {es : List Entry} {prio : List String} {allow : Bool}
    {out : List Entry} {missed : List String}
    (h : sortEntries es prio allow = .ok out missed) :
    ∃ group rest, out = group ++ landmarkFor prio :: rest ∧
      rest = (importTar es).filter (fun e => decide (e ∉ group)) ∧
      rest.Sublist (importTar es) ∧ rest.Sublist es ∧
      (∀ e ∈ group, e ∈ importTar es) ∧
      (∀ e ∈ importTar es, e ∈ group ∨ e ∈ rest) := by
  obtain ⟨blocks, hp⟩ := (sortEntries_structure prio allow).ok out missed h
  refine ⟨blocks.flatten, _, hp.out_eq, rfl, List.filter_sublist, ?_, hp.sub, ?_⟩
  · exact List.filter_sublist.trans (importTar_sublist es)
  · intro e he
    by_cases hg : e ∈ blocks.flatten
    · exact Or.inl hg
    · exact Or.inr (List.mem_filter.mpr ⟨he, by simp [hg]⟩)

/-- The leading group is the concatenation of one block per listed path, in the order of the
list (`StepsOK`): the block of `l` holds nothing but `l` itself and entries `l` needs (its
ancestors, hardlink targets, theirs, …: `Reach`), only entries not placed before (`sort_perm`:
no entry occurs twice), and — when nothing `l` needs is missing — `l`'s entry is in the group
from then on and, unless an earlier path already brought it in, is the LAST entry of its block,
i.e. preceded by all of its not-yet-placed parent directories and hardlink targets. -/
theorem prioritized_prefix_order {es : List Entry} {prio : List String} {allow : Bool}
    {out : List Entry} {missed : List String}
    (h : sortEntries es prio allow = .ok out missed) :
    ∃ blocks rest, out = blocks.flatten ++ landmarkFor prio :: rest ∧
      StepsOK (importTar es) prio [] blocks := by
  obtain ⟨blocks, hp⟩ := (sortEntries_structure prio allow).ok out missed h
  exact ⟨blocks, _, hp.out_eq, hp.steps⟩

/-- "In the order given": if `l1` is listed before `l2` and both can be placed, then the entry of
`l1` comes before the entry of `l2` in the leading group — unless `l2`'s entry is itself needed by
`l1` or by a path listed before `l1` (then it had to come earlier). -/
theorem prioritized_order {es : List Entry} {p1 p2 p3 : List String} {l1 l2 : String} {allow : Bool}
    {out : List Entry} {missed : List String}
    (h : sortEntries es (p1 ++ l1 :: p2 ++ l2 :: p3) allow = .ok out missed)
    {e1 e2 : Entry}
    (h1 : get (importTar es) (cleanEntryName l1) = some e1) (hm1 : ¬ Missing (importTar es) (cleanEntryName l1))
    (h2 : get (importTar es) (cleanEntryName l2) = some e2) (hm2 : ¬ Missing (importTar es) (cleanEntryName l2)) :
    (∃ a b c rest, out = a ++ e1 :: b ++ e2 :: c ++ landmarkFor (p1 ++ l1 :: p2 ++ l2 :: p3) :: rest) ∨
    (∃ l ∈ p1 ++ [l1], Reach (importTar es) (cleanEntryName l) e2.key) := by
  obtain ⟨blocks, rest, hout, hsteps⟩ := prioritized_prefix_order h
  -- the blocks of `p1`, of `l1`, of `p2`, of `l2`, of `p3`
  rw [List.append_assoc, List.cons_append] at hsteps
  obtain ⟨bsA, _, rfl, hA, hR⟩ := stepsOK_append p1 hsteps
  obtain ⟨b1, _, rfl, hb1, hR⟩ := stepsOK_cons hR
  obtain ⟨bsB, _, rfl, _, hR⟩ := stepsOK_append p2 hR
  obtain ⟨b2, bsC, rfl, hb2, _⟩ := stepsOK_cons hR
  rw [List.nil_append] at hb1 hb2
  have he1 : e1 ∈ bsA.flatten ++ b1 := (hb1.2 hm1).1.2 e1 h1
  have he2 : e2 ∈ bsA.flatten ++ b1 ++ bsB.flatten ++ b2 := (hb2.2 hm2).1.2 e2 h2
  by_cases hin : e2 ∈ bsA.flatten ++ b1
  · right
    rcases List.mem_append.mp hin with hin | hin
    · obtain ⟨l, hl, hr⟩ := stepsOK_reach p1 hA e2 hin
      exact ⟨l, List.mem_append_left _ hl, hr⟩
    · exact ⟨l1, by simp, hb1.1 e2 hin⟩
  · left
    have he2' : e2 ∈ bsB.flatten ++ b2 := by
      rw [List.append_assoc] at he2
      exact (List.mem_append.mp he2).resolve_left hin
    obtain ⟨a, b, hab⟩ := List.append_of_mem he1
    obtain ⟨c, d, hcd⟩ := List.append_of_mem he2'
    refine ⟨a, b ++ c, d ++ bsC.flatten, rest, ?_⟩
    rw [hout, List.flatten_append, List.flatten_cons, List.flatten_append, List.flatten_cons,
      ← List.append_assoc bsA.flatten, hab, ← List.append_assoc bsB.flatten, hcd]
    simp only [List.append_assoc, List.cons_append]

/-- Every entry of the leading group is preceded — strictly, within the group — by its parent
directory and, if it is a hardlink, by its target (`PlacedIn`: unless that name is the root it is
an entry of the tar, and that entry is among the earlier ones; a root entry, if the tar has one,
likewise). -/
theorem leading_group_closed {es : List Entry} {prio : List String} {allow : Bool}
    {out : List Entry} {missed : List String}
    (h : sortEntries es prio allow = .ok out missed) :
    ∃ group rest, out = group ++ landmarkFor prio :: rest ∧
      ∀ pre e post, group = pre ++ e :: post → e.key ≠ [] →
        PlacedIn (importTar es) pre e.key.dropLast ∧
        (e.isLink = true → PlacedIn (importTar es) pre (cleanEntryName e.linkName)) := by
  obtain ⟨blocks, hp⟩ := (sortEntries_structure prio allow).ok out missed h
  refine ⟨blocks.flatten, _, hp.out_eq, ?_⟩
  intro pre e post hsplit hne
  exact closedR_split hp.closed hsplit hne

/-- Without allow-not-found: the call fails whenever some listed path cannot be placed
(`Missing`: the path, one of its ancestors or a hardlink target it depends on is not in the tar);
a failing call means exactly that, or that a listed path runs into a cycle of hardlinks
(`ReachesCycle`); a succeeding call means every listed path could be placed, and nothing is
reported. -/
theorem missing_path_aborts {es : List Entry} {prio : List String} :
    ((∃ l ∈ prio, Missing (importTar es) (cleanEntryName l)) → sortEntries es prio false = .err) ∧
    (sortEntries es prio false = .err →
      (∃ l ∈ prio, Missing (importTar es) (cleanEntryName l)) ∨
      (∃ l ∈ prio, ReachesCycle (importTar es) (cleanEntryName l))) ∧
    (∀ out missed, sortEntries es prio false = .ok out missed →
      missed = [] ∧ ∀ l ∈ prio, ¬ Missing (importTar es) (cleanEntryName l)) := by
  have hs := sortEntries_structure (es := es) prio false
  -- nothing is allowed to be missing: a result means that every listed path was placed
  have hall : ∀ out missed, sortEntries es prio false = .ok out missed → ∀ l ∈ prio,
      resolve (importTar es) (moveFuel (importTar es)) [] (cleanEntryName l) = .ok := by
    intro out missed ho l hl
    obtain ⟨_, hp⟩ := hs.ok out missed ho
    exact (hp.status l hl).resolve_right fun h => nomatch h.2
  refine ⟨?_, fun h => (hs.err h).imp_left And.right, ?_⟩
  · rintro ⟨l, hl, hm⟩
    cases ho : sortEntries es prio false with
    | err => rfl
    | diverge => exact absurd ho hs.terminates
    | ok out missed => exact absurd hm (resolve_ok (hall out missed ho l hl))
  · intro out missed ho
    obtain ⟨_, hp⟩ := hs.ok out missed ho
    refine ⟨?_, fun l hl => resolve_ok (hall out missed ho l hl)⟩
    rw [hp.missed_eq]
    exact List.filter_eq_nil_iff.mpr fun l hl => by simp [hall out missed ho l hl]

/-- With allow-not-found the call returns a result unless a listed path runs into a cycle of
hardlinks (the only error left), and then reports back exactly the listed paths that cannot be
placed, in the order (and spelling, and multiplicity) in which they were listed. -/
theorem missing_path_reported {es : List Entry} {prio : List String} :
    (sortEntries es prio true = .err → ∃ l ∈ prio, ReachesCycle (importTar es) (cleanEntryName l)) ∧
    ((∀ l ∈ prio, ¬ ReachesCycle (importTar es) (cleanEntryName l)) →
      ∃ out, sortEntries es prio true = .ok out (missedOf (importTar es) prio)) ∧
    (∀ out missed, sortEntries es prio true = .ok out missed →
      missed = missedOf (importTar es) prio ∧ missed.Sublist prio ∧
      ∀ l, l ∈ missed ↔ l ∈ prio ∧ Missing (importTar es) (cleanEntryName l)) := by
  have hs := sortEntries_structure (es := es) prio true
  have herr := fun h => (hs.err h).resolve_left fun ha => nomatch ha.1
  refine ⟨herr, ?_, ?_⟩
  · intro hnc
    cases ho : sortEntries es prio true with
    | err =>
      obtain ⟨l, hl, hc⟩ := herr ho
      exact absurd hc (hnc l hl)
    | diverge => exact absurd ho hs.terminates
    | ok out missed =>
      obtain ⟨_, hp⟩ := hs.ok out missed ho
      exact ⟨out, hp.missed_eq ▸ rfl⟩
  · intro out missed ho
    obtain ⟨_, hp⟩ := hs.ok out missed ho
    refine ⟨hp.missed_eq, hp.missed_eq ▸ List.filter_sublist, fun l => ?_⟩
    rw [hp.missed_eq, missedOf, List.mem_filter, beq_iff_eq]
    exact and_congr_right fun hl => ⟨resolve_notFound, fun hm =>
      ((hp.status l hl).resolve_left fun hok => resolve_ok hok hm).1⟩

/-- The cycle error is never spurious: if the parent/hardlink graph has no cycle (some rank
strictly decreases along every parent and hardlink edge) no path `ReachesCycle`. -/
theorem no_cycle_error_without_cycle {inp : List Entry} (hnc : NoLinkCycle inp) (k : Name) :
    ¬ ReachesCycle inp k := by
  obtain ⟨rank, hrank⟩ := hnc
  rintro ⟨d, _, hself⟩
  refine StrictReach.elim hself (fun e hd hg hr => ?_) fun e hd hg hl hr => ?_
  · have := reach_rank hrank hr
    have := (hrank d e hd hg).1
    omega
  · have := reach_rank hrank hr
    have := (hrank d e hd hg).2 hl
    omega

/-- A listed path (other than the root) that is not in the tar is `Missing`; conversely a path
that can be placed is in the tar (or is the root). -/
theorem listed_path_absent_is_missing (inp : List Entry) (k : Name) :
    (k ≠ [] → get inp k = none → Missing inp k) ∧
    (¬ Missing inp k → k ≠ [] → (get inp k).isSome) := by
  constructor
  · intro hk hg; exact ⟨k, Reach.refl _, hk, hg⟩
  · intro hm hk
    cases hg : get inp k with
    | some e => rfl
    | none => exact absurd ⟨k, Reach.refl _, hk, hg⟩ hm

/-- `moveRec` terminates, for EVERY tar: with fuel = number of entries + 1 it never runs out of
fuel (the names on the recursion path are pairwise different entries of the tar) — from every
state `sortEntries` can be in (`Inv`), for every name. -/
theorem moveRec_terminates {inp : List Entry} {st : MState} (hinv : Inv inp st)
    (k : Name) : (moveRec inp (moveFuel inp) k st).2 ≠ .diverge :=
  (moveRecVisiting_spec inp _ k st [] hinv (by simp)).status ▸ resolve_terminates inp k

/-- … and so does `sortEntries`, for every tar and every prioritized list: the result is a sorted
list or an error. -/
theorem sortEntries_terminates (es : List Entry) (prio : List String) (allow : Bool) :
    sortEntries es prio allow ≠ .diverge ∧
    ((∃ out missed, sortEntries es prio allow = .ok out missed) ∨ sortEntries es prio allow = .err) := by
  have hd := (sortEntries_structure (es := es) prio allow).terminates
  refine ⟨hd, ?_⟩
  cases hs : sortEntries es prio allow with
  | ok out missed => exact Or.inl ⟨out, missed, rfl⟩
  | err => exact Or.inr rfl
  | diverge => exact absurd hs hd

/-- Two hardlinks pointing at each other. -/
def cycleTar : List Entry :=
  [{ id := 1, name := "a", isLink := true, linkName := "b", isReg := false, size := 0 },
   { id := 2, name := "b", isLink := true, linkName := "a", isReg := false, size := 0 }]

/-- The code before the repair (`moveRecOld`, no `visiting` set) does not terminate on
`cycleTar`: whatever the fuel, it is used up (the Go code overflowed its stack on this input). -/
theorem cycle_diverges_witness (fuel : Nat) (st : MState) :
    (moveRecOld cycleTar fuel ["a"] st).2 = .diverge ∧ (moveRecOld cycleTar fuel ["b"] st).2 = .diverge :=
  moveRecOld_two_cycle (ea := cycleTar[0]) (eb := cycleTar[1]) (by decide) (by decide) fuel st

/-- The repaired code reports the same input as an error, with and without allow-not-found. -/
theorem cycle_reported_witness :
    sortEntries cycleTar ["a"] false = .err ∧ sortEntries cycleTar ["a"] true = .err := by decide +kernel

/-- The landmark begins a compressed stream of its own, even under min-chunk-size and in any
sub-writer: for ANY chunk sequence split over ANY number of writers and ANY compressor behaviour
(`a`, `b`, `tail` are arbitrary, only "closing a stream that received data emits at least one
byte" is assumed for the forced chunks), a chunk whose entry forces a stream boundary
(`needsOpenGz`) is `fresh`, every chunk emitted before it has a strictly smaller offset and every
chunk emitted after it an offset at least as large. -/
theorem landmark_starts_stream {τ : Type} (minChunk : Int) (parts : List (List (ChunkIn τ) × Nat))
    (hpos : ∀ p ∈ parts, ∀ c ∈ p.1, c.force = true → 1 ≤ c.a + c.b)
    (pre : List (ChunkOut τ)) (x : ChunkOut τ) (post : List (ChunkOut τ))
    (hsplit : combine minChunk 0 parts = pre ++ x :: post) (hforce : x.force = true) :
    x.fresh = true ∧ (∀ y ∈ pre, y.off < x.off) ∧ (∀ y ∈ post, x.off ≤ y.off) := by
  obtain ⟨_, hs⟩ := combine_spec minChunk parts 0 hpos
  rw [hsplit] at hs
  obtain ⟨_, hxpost, hprex⟩ := List.pairwise_append.mp hs.ordered
  exact ⟨((hs.within x (by simp)).forced hforce).1,
    fun y hy => (hprex y hy x (List.mem_cons_self ..)).2 hforce,
    fun y hy => ((List.pairwise_cons.mp hxpost).1 y hy).1⟩

/-- Data of every file of the leading group lies strictly before the landmark's offset and no
other file's data does: for every chunk size, min-chunk-size, split of the sorted entries over
sub-writers and compressor behaviour, there is exactly one landmark chunk, it starts its own
stream, and a data chunk of any other entry has an offset below the landmark's iff the entry is in
the leading group. -/
theorem data_before_landmark_iff_prioritized {es : List Entry} {prio : List String} {allow : Bool}
    {out : List Entry} {missed : List String}
    (h : sortEntries es prio allow = .ok out missed)
    (chunkSize : Int) (minChunk : Int) (parts : List (List (ChunkIn Entry) × Nat))
    (hparts : (parts.flatMap (·.1)).map (fun c => (c.tag, c.force)) = chunkTags (effChunkSize chunkSize) out)
    (hpos : ∀ p ∈ parts, ∀ c ∈ p.1, c.force = true → 1 ≤ c.a + c.b) :
    ∃ group rest pre lm post,
      out = group ++ landmarkFor prio :: rest ∧
      combine minChunk 0 parts = pre ++ lm :: post ∧
      lm.tag = landmarkFor prio ∧ lm.fresh = true ∧
      (∀ o ∈ pre ++ post, o.tag ≠ landmarkFor prio) ∧
      (∀ o ∈ pre ++ post, (o.off < lm.off ↔ o.tag ∈ group) ∧ (lm.off ≤ o.off ↔ o.tag ∈ rest)) := by
  obtain ⟨blocks, rest, hout, _⟩ := prioritized_prefix_order h
  -- the chunk sequence splits at the landmark's single chunk
  have htags : chunkTags (effChunkSize chunkSize) out =
      chunkTags (effChunkSize chunkSize) blocks.flatten ++
        (landmarkFor prio, true) :: chunkTags (effChunkSize chunkSize) rest := by
    rw [hout, chunkTags_append, ← List.singleton_append, chunkTags_append,
      chunkTags_landmark (effChunkSize_pos chunkSize), List.singleton_append]
  have hct := combine_tags minChunk parts 0
  rw [hparts, htags] at hct
  obtain ⟨pre, l2, hcomb, hpre, hl2⟩ := List.map_eq_append_iff.mp hct
  obtain ⟨lm, post, rfl, hlm, hpost⟩ := List.map_eq_cons_iff.mp hl2
  have hlmtag : lm.tag = landmarkFor prio := congrArg Prod.fst hlm
  have hlmforce : lm.force = true := congrArg Prod.snd hlm
  obtain ⟨hfresh, hbefore, hafter⟩ := landmark_starts_stream minChunk parts hpos pre lm post hcomb hlmforce
  have hpretag := tag_mem_of_chunkTags hpre
  have hposttag := tag_mem_of_chunkTags hpost
  -- group, landmark and rest are pairwise disjoint: the output has no repeated entry (`sort_perm`)
  obtain ⟨_, hlr, hdis⟩ := List.nodup_append.mp (hout ▸ (sort_perm h).2)
  have hdis1 : ∀ e ∈ blocks.flatten, e ≠ landmarkFor prio ∧ e ∉ rest := fun e he =>
    ⟨hdis e he _ (List.mem_cons_self ..), fun hr => hdis e he e (List.mem_cons_of_mem _ hr) rfl⟩
  have hdis2 : ∀ e ∈ rest, e ≠ landmarkFor prio := fun e he heq =>
    (List.nodup_cons.mp hlr).1 (heq ▸ he)
  refine ⟨blocks.flatten, rest, pre, lm, post, hout, hcomb, hlmtag, hfresh, ?_, ?_⟩
  · intro o ho
    rcases List.mem_append.mp ho with ho | ho
    · exact (hdis1 _ (hpretag o ho)).1
    · exact hdis2 _ (hposttag o ho)
  · intro o ho
    rcases List.mem_append.mp ho with ho | ho
    · have hlt := hbefore o ho
      have hg := hpretag o ho
      exact ⟨⟨fun _ => hg, fun _ => hlt⟩, ⟨fun hle => absurd hlt (Nat.not_lt.mpr hle), fun hr => absurd hr (hdis1 _ hg).2⟩⟩
    · have hle := hafter o ho
      have hr := hposttag o ho
      exact ⟨⟨fun hlt => absurd hle (Nat.not_le.mpr hlt), fun hg => absurd hr (hdis1 _ hg).2⟩, ⟨fun _ => hr, fun _ => hle⟩⟩

/-- A small tar: directory, file, a duplicate of the file under another spelling, a hardlink
chain, a landmark left over from an earlier build. -/
def exTar : List Entry :=
  [{ id := 1, name := "a/", isLink := false, linkName := "", isReg := false, size := 0 },
   { id := 2, name := "./a/f", isLink := false, linkName := "", isReg := true, size := 10 },
   { id := 3, name := "g", isLink := false, linkName := "", isReg := true, size := 3 },
   { id := 4, name := ".prefetch.landmark", isLink := false, linkName := "", isReg := true, size := 1 },
   { id := 5, name := "/a/f", isLink := false, linkName := "", isReg := true, size := 20 },
   { id := 6, name := "l1", isLink := true, linkName := "../a/f", isReg := false, size := 0 },
   { id := 7, name := "l2", isLink := true, linkName := "./l1", isReg := false, size := 0 }]

-- the duplicate `./a/f` (id 2) and the old landmark (id 4) are gone, the later `/a/f` (id 5) stays
example : (importTar exTar).map (·.id) = [1, 3, 5, 6, 7] := by decide +kernel

-- `l2` is listed: its chain l1 -> a/f and the directory a/ come first, in dependency order
example : (match sortEntries exTar ["/l2", "nothere", "g"] true with
    | .ok out missed => (out.map (·.id), missed)
    | _ => ([], [])) = ([1, 5, 6, 7, 3, 0], ["nothere"]) := by decide +kernel

example : sortEntries exTar ["/l2", "nothere", "g"] false = .err := by decide +kernel

/-- `exTar` has no cycle (`no_cycle_error_without_cycle` applies): rank = depth, hardlinks above
their targets. -/
example : NoLinkCycle (importTar exTar) :=
  noLinkCycle_of_rank (fun k => if k = ["l2"] then 10 else if k = ["l1"] then 9 else k.length)
    (by decide +kernel)

-- the invariant is satisfiable in a non-trivial state (after one step of the loop)
example : Inv (importTar exTar) (moveRec (importTar exTar) (moveFuel (importTar exTar)) ["l1"] ⟨[], []⟩).1 :=
  (moveRecVisiting_spec _ _ _ _ [] (Inv.empty _) (by simp)).inv

-- the writer: min-chunk-size 100 lets the first two files share a stream; the forced chunk does not
example : (combine 100 0 [([⟨"f", false, 30, 8⟩, ⟨"g", false, 20, 8⟩, ⟨"LM", true, 5, 8⟩, ⟨"h", false, 3, 8⟩], 8)]).map
    (fun o => (o.tag, o.off, o.fresh)) = [("f", 0, false), ("g", 0, false), ("LM", 63, true), ("h", 63, false)] := by
  decide

end SV.Props.C14
