/-
C16 — Store layers can be acquired, released and re-acquired in any order.

The model is `SV.Store` (store/manager.go: getLayer, resolveLayer, cacheLayer, getCachedLayer, use, release; the counting
part of store/refs.go).  All theorems are about the state after an ARBITRARY history
`run T init h` of lookup / info / use / release operations, each lookup with its own registry
oracle (so transient registry errors are covered).
-/
import SV.Lemmas.Store

namespace SV.Props.C16
open SV.Store SV.Store.Map

/-- the image `r` contains a layer whose (verified) TOC digest is `t`. -/
def Member (T : Truth) (r t : Nat) : Prop := ∃ ls d, T.images r = some ls ∧ (d, t) ∈ ls

/-- A TOC digest that no layer of the image has is never served — after any history, with any
registry behaviour, for unknown images too. -/
theorem unknown_digest_fails (T : Truth) (h : List Op) (o : Oracle) (r t : Nat)
    (hn : ¬ Member T r t) : (lookup T o (run T init h) r t).2 = .err :=
  lookup_err_of_nonmember (reach_inv T _ ⟨h, rfl⟩) hn

/-- After ANY history in which no layer resolution failed, a lookup (diff / blob of (ref, TOC
digest)) with a healthy registry succeeds exactly when the image contains a layer with that TOC
digest — whatever was used, released, released to zero and looked up again before.  The history
may contain lookups whose manifest could not be fetched: registry errors on the manifest and
lookups ABANDONED BY THEIR CLIENT (cancelled context; `Op.Healthy` leaves `o.manifest` free, and
the layers are resolved on `context.Background()`): neither leaves a trace. -/
theorem lookup_succeeds_iff_member (T : Truth) (hfun : T.Functional) (h : List Op)
    (hh : ∀ op, op ∈ h → op.Healthy) (o : Oracle) (ho : o.Healthy) (r t : Nat) :
    (lookup T o (run T init h) r t).2.isOk = true ↔ Member T r t := by
  obtain ⟨hI, hP, hA⟩ := reach_status T hfun h
  exact lookup_isOk_iff hfun ho hI hP (hA hh)

/-- With registry errors anywhere in the history: a lookup of an existing layer fails only if the
manifest cannot be obtained, or if for EVERY layer with that TOC digest the resolution fails
(an error is memoised for it, or it has no resolve status and the registry refuses it now). -/
theorem lookup_fails_only_if_resolution_fails (T : Truth) (hfun : T.Functional)
    (hinj : T.Injective) (h : List Op) (o : Oracle) (r t : Nat) (ls : List (Nat × Nat))
    (hi : T.images r = some ls) (hfail : (lookup T o (run T init h) r t).2 = .err) :
    (r ∉ (run T init h).disk ∧ o.manifest r = false) ∨
    ∀ d, (d, t) ∈ ls →
      mem (run T init h) r d = some .err ∨
      (mem (run T init h) r d = none ∧ o.layer r d = false) := by
  obtain ⟨hI, hP, _⟩ := reach_status T hfun h
  by_cases hman : r ∈ (run T init h).disk ∨ o.manifest r = true
  · right
    intro d hin
    -- the layer that `lookup_err_cause` names is `d` itself
    obtain ⟨d', hin', hc⟩ := lookup_err_cause hI hP hi (hfun r ls hi) hin hman hfail
    cases hinj r ls hi d d' t hin hin'
    exact hc
  · left
    constructor
    · intro hd; exact hman (Or.inl hd)
    · cases hq : o.manifest r with
      | false => rfl
      | true => exact absurd (Or.inr hq) hman

/-- …and conversely: if the registry answers now and no error is memoised for the layer, the
lookup succeeds, whatever errors the history contained. -/
theorem lookup_succeeds_if_no_memoised_error (T : Truth) (hfun : T.Functional)
    (hinj : T.Injective) (h : List Op) (o : Oracle) (r t d : Nat) (ls : List (Nat × Nat))
    (hi : T.images r = some ls) (hin : (d, t) ∈ ls)
    (hman : r ∈ (run T init h).disk ∨ o.manifest r = true) (ho : o.layer r d = true)
    (hmem : mem (run T init h) r d ≠ some .err) :
    (lookup T o (run T init h) r t).2.isOk = true := by
  cases hq : (lookup T o (run T init h) r t).2 with
  | err =>
    exfalso
    rcases lookup_fails_only_if_resolution_fails T hfun hinj h o r t ls hi hq with ⟨h1, h2⟩ | h1
    · rcases hman with hm | hm
      · exact h1 hm
      · rw [hm] at h2; cases h2
    · rcases h1 d hin with e | ⟨_, e⟩
      · exact hmem e
      · rw [ho] at e; cases e
  | _ => rfl

/-- A successful lookup returns the cached instance, it sits under the TOC digest that was asked
for (so `Verify(directory name)` in layernode.Lookup succeeds), it belongs to the image, and
`Done()` was never called on it. -/
theorem lookup_returns_verified_live_layer (T : Truth) (h : List Op) (o : Oracle) (r t : Nat)
    (l : Layer) (hl : (lookup T o (run T init h) r t).2 = .layer l) :
    l.toc = t ∧ lay (lookup T o (run T init h) r t).1 r t = some l ∧
    l.id ∉ (lookup T o (run T init h) r t).1.done ∧ Member T r t := by
  have f := lookup_layer (reach_inv T _ ⟨h, rfl⟩) hl
  obtain ⟨ls, hi, hin⟩ := f.member
  exact ⟨f.toc, f.cached, f.live, ls, _, hi, hin⟩

/-- Use counts are never negative: every stored count (LayerManager and refPool) is at least 1,
`use` returns at least 1 and `release` never returns a negative number — after any history. -/
theorem count_nonneg (T : Truth) (h : List Op) (r t : Nat) :
    (∀ c, cnt (run T init h) r t = some c → 1 ≤ c) ∧
    (∀ c, get (run T init h).pool r = some c → 1 ≤ c) ∧
    (∃ n, (use (run T init h) r t).2 = .count n ∧ 1 ≤ n) ∧
    ((release (run T init h) r t).2 = .err ∨
      ∃ n, (release (run T init h) r t).2 = .count n ∧ 0 ≤ n) := by
  have hI := reach_inv T _ ⟨h, rfl⟩
  refine ⟨hI.pos r t, hI.ppos r, ?_, ?_⟩
  · rw [use_eq]
    exact ⟨_, rfl, getD_succ_pos _ (hI.pos r t)⟩
  · rcases release_res (run T init h) r t with e | ⟨c, hc, e⟩
    · exact Or.inl e
    · exact Or.inr ⟨c - 1, e, by have := hI.pos _ _ _ hc; omega⟩

/-- One step: whatever operation comes next (on this or any other layer or image), a cached
layer that still has a use count afterwards (by `count_nonneg` a stored count is ≥ 1, i.e. there
are outstanding uses) is still cached afterwards — the same instance — and `Done()` has not been
called on it. -/
theorem in_use_never_released (T : Truth) (s : St) (hI : Inv T s) (op : Op) (r t : Nat)
    (l : Layer) (c : Int) (hl : lay s r t = some l) (hc : cnt (step T s op).1 r t = some c) :
    lay (step T s op).1 r t = some l ∧ l.id ∉ (step T s op).1.done := by
  have live := hI.live _ _ _ hl
  rcases step_cases T s op with ⟨o, r0, t0, rfl⟩ | ⟨r0, t0, rfl⟩ | ⟨_, _, _, e⟩
  · have hE := (lookup_inv_ext o r0 t0 hI).2
    exact ⟨hE.layMono _ _ _ hl, by show l.id ∉ (lookup T o s r0 t0).1.done; rw [hE.dn]; exact live⟩
  · show lay (release s r0 t0).1 r t = some l ∧ l.id ∉ (release s r0 t0).1.done
    rcases release_spec s r0 t0 with ⟨k1, k2⟩ | ⟨⟨c0, h0, h1⟩, l0, hd⟩
    · unfold lay; rw [k1, k2]; exact ⟨hl, live⟩
    · -- a layer is dropped, but not this one: its count would be gone
      have hne : ¬ (r = r0 ∧ t = t0) := by
        intro hx
        have hc' : cnt (release s r0 t0).1 r t = some c := hc
        rw [release_cnt, if_pos hx, h0] at hc'
        have : predCount c0 = some c := hc'
        rw [predCount, if_pos (by omega)] at this
        cases this
      rw [hd.lay_eq, if_neg hne, hd.done_eq]
      refine ⟨hl, fun hm => ?_⟩
      rcases List.mem_cons.mp hm with e | e
      · exact hne (hI.uniq _ _ _ _ _ _ hl hd.cached e)
      · exact live e
  · rw [e]; exact ⟨hl, live⟩

/-- Along a whole history: once a layer is cached, as long as it has outstanding uses after every
further operation, it stays cached (the same instance) and is never `Done()` — whatever else
happens to other layers and images, including their release to zero. -/
theorem in_use_layer_kept_along_history (T : Truth) (h : List Op) (r t : Nat) (l : Layer)
    (hl : lay (run T init h) r t = some l) (h' : List Op)
    (hpos : ∀ p, p <+: h' → p ≠ [] → ∃ c, cnt (run T (run T init h) p) r t = some c ∧ 0 < c) :
    lay (run T (run T init h) h') r t = some l ∧ l.id ∉ (run T (run T init h) h').done := by
  have hI := reach_inv T _ ⟨h, rfl⟩
  generalize run T init h = s at hI hl hpos
  induction h' generalizing s with
  | nil => exact ⟨hl, hI.live _ _ _ hl⟩
  | cons op ops ih =>
    have h1 : run T s (op :: ops) = run T (step T s op).1 ops := rfl
    rw [h1]
    obtain ⟨c, hc, _⟩ := hpos [op] (by simp) (by simp)
    obtain ⟨hl1, _⟩ := in_use_never_released T s hI op r t l c hl hc
    apply ih _ (step_inv op hI) hl1
    intro p hp hne
    have : (op :: p) <+: (op :: ops) := by
      obtain ⟨q, hq⟩ := hp; exact ⟨q, by simp [← hq]⟩
    exact hpos (op :: p) this (by simp)

/-- In every reachable state `Done()` has been called on no cached layer; it sits under its own
TOC digest and belongs to the image. -/
theorem cached_layers_are_live (T : Truth) (h : List Op) (r t : Nat) (l : Layer)
    (hl : lay (run T init h) r t = some l) :
    l.id ∉ (run T init h).done ∧ l.toc = t ∧ Member T r t := by
  have hI := reach_inv T _ ⟨h, rfl⟩
  obtain ⟨ls, hi, hin⟩ := hI.member _ _ _ hl
  exact ⟨hI.live _ _ _ hl, hI.key _ _ _ hl, ls, l.digest, hi, hin⟩

/-- When the last use of a cached layer is released (count 1 → 0): the call returns 0, the
counter entry and the cached layer are gone, `Done()` was called on that instance, the resolve
status of its layer digest is reset, and — if it was the last counted layer of the image — the
resolve status of the whole image is reset.  A later lookup (registry answering for that layer)
resolves again and succeeds with a NEW instance that is not `Done()`. -/
theorem last_release_resets (T : Truth) (hfun : T.Functional) (h : List Op) (r t : Nat) (l : Layer)
    (hc : cnt (run T init h) r t = some 1) (hl : lay (run T init h) r t = some l) :
    (release (run T init h) r t).2 = .count 0 ∧
    cnt (release (run T init h) r t).1 r t = none ∧
    lay (release (run T init h) r t).1 r t = none ∧
    l.id ∈ (release (run T init h) r t).1.done ∧
    mem (release (run T init h) r t).1 r l.digest = none ∧
    (AllGone (run T init h) r t → ∀ d, mem (release (run T init h) r t).1 r d = none) ∧
    ∀ o : Oracle, (r ∈ (run T init h).disk ∨ o.manifest r = true) → o.layer r l.digest = true →
      ∃ l', (lookup T o (release (run T init h) r t).1 r t).2 = .layer l' ∧ l'.id ≠ l.id ∧
        l'.id ∉ (lookup T o (release (run T init h) r t).1 r t).1.done := by
  have hI := reach_inv T _ ⟨h, rfl⟩
  generalize run T init h = s at hI hc hl
  have hd := release_dropped hc (Int.le_refl 1) hl
  refine ⟨hd.res 1 hc, ?_, ?_, ?_, hd.mem_eq, fun hg d => ?_, fun o hman ho => ?_⟩
  · rw [release_cnt, if_pos ⟨rfl, rfl⟩, hc]; rfl
  · rw [hd.lay_eq, if_pos ⟨rfl, rfl⟩]
  · rw [hd.done_eq]; exact List.mem_cons_self ..
  · rw [release_mem, if_pos ⟨rfl, ⟨1, hc, Int.le_refl 1⟩, Or.inl hg⟩]
  · exact lookup_after_last_release hI hc (Int.le_refl 1) hl hfun hman ho

/-- Releasing an untracked reference or layer returns an error and changes nothing in the
LayerManager: layers, counters, resolve status, `Done()` set stay as they are (for EVERY state,
reachable or not).  Only `refPool.release`, which `release` calls first, has run. -/
theorem release_untracked_errors (s : St) (r t : Nat) (hc : cnt s r t = none) :
    (release s r t).2 = .err ∧
    (release s r t).1 = { s with pool := poolRelease s.pool r } := by
  rw [release_untracked hc]; exact ⟨rfl, rfl⟩

/-- registry used by the concrete witnesses: image 0 = two layers, image 1 = one layer. -/
def T0 : Truth := ⟨fun r => if r = 0 then some [(10, 20), (11, 21)] else if r = 1 then some [(12, 22)] else none⟩

def hy : Oracle := Oracle.healthy

/-- Old `release`: after `lookup; use; release` the layer is gone but its resolve status says
"already resolved", so the next lookup fails although the registry is healthy and the image
contains the layer — `lookup_succeeds_iff_member` and `last_release_resets` are false for it. -/
theorem releaseBuggy_breaks_lookup_after_release :
    (lookup T0 hy (runBuggy T0 init [.lookup hy 0 20, .use 0 20, .release 0 20]) 0 20).2 = .err := by
  decide +kernel

/-- Old `release`: the counter entry stays at 0 after the last release and a second release
drives it to −1 (`count_nonneg` is false for it). -/
theorem releaseBuggy_count_negative :
    cnt (runBuggy T0 init [.lookup hy 0 20, .use 0 20, .release 0 20]) 0 20 = some 0 ∧
    cnt (runBuggy T0 init [.lookup hy 0 20, .use 0 20, .release 0 20, .release 0 20]) 0 20
      = some (-1) := by
  decide +kernel

/-- Old `release`, with a sibling layer still in use. -/
theorem releaseBuggy_breaks_lookup_with_sibling_in_use :
    (lookup T0 hy (runBuggy T0 init
      [.lookup hy 0 20, .lookup hy 0 21, .use 0 20, .use 0 21, .release 0 20]) 0 20).2 = .err := by
  decide +kernel

/-- "If the image has the layer and the registry is healthy NOW, the lookup succeeds" — false for
the current code when an earlier resolution failed: the error is memoised until the last use of
the image is released.  (`lookup_succeeds_if_no_memoised_error` is the statement that holds.) -/
def HealthyNowSuffices : Prop :=
  ∀ (T : Truth) (h : List Op) (r t : Nat), T.Functional → T.Injective → Member T r t →
    (lookup T Oracle.healthy (run T init h) r t).2.isOk = true

/-- registry that refuses layer digest 10 (one transient error). -/
def bad : Oracle := ⟨fun _ => true, fun _ d => decide (d ≠ 10)⟩

theorem T0_functional : T0.Functional := by
  intro r ls hi d t t' h1 h2
  unfold T0 at hi
  by_cases h0 : r = 0
  · simp [h0] at hi; subst hi; simp at h1 h2; omega
  · by_cases h1' : r = 1
    · simp [h1'] at hi; subst hi; simp at h1 h2; omega
    · simp [h0, h1'] at hi

theorem T0_injective : T0.Injective := by
  intro r ls hi d d' t h1 h2
  unfold T0 at hi
  by_cases h0 : r = 0
  · simp [h0] at hi; subst hi; simp at h1 h2; omega
  · by_cases h1' : r = 1
    · simp [h1'] at hi; subst hi; simp at h1 h2; omega
    · simp [h0, h1'] at hi

theorem transient_error_is_memoised : ¬ HealthyNowSuffices := by
  intro hs
  have := hs T0 [.lookup bad 0 20] 0 20 T0_functional T0_injective ⟨_, 10, rfl, by simp⟩
  revert this
  decide +kernel

/-- "When the last use of an image is released, ALL its layers are dropped" — false for the
current code: only the released layer is dropped; layers that were resolved along with it but
never used stay cached (and `Done()` is never called on them), although the resolve status of the
whole image is reset.  (`last_release_resets` is the statement that holds.) -/
def LastReleaseDropsAllLayers : Prop :=
  ∀ (T : Truth) (h : List Op) (r t : Nat), T.Functional → T.Injective →
    cnt (run T init h) r t = some 1 → AllGone (run T init h) r t →
    ∀ t', lay (release (run T init h) r t).1 r t' = none

theorem T0_allGone : AllGone (run T0 init [.lookup hy 0 20, .use 0 20]) 0 20 :=
  (emptyAt_del2_iff _ 0 20).1 (by decide +kernel)

theorem unused_siblings_survive_last_release : ¬ LastReleaseDropsAllLayers := by
  intro hs
  have := hs T0 [.lookup hy 0 20, .use 0 20] 0 20 T0_functional T0_injective (by decide +kernel) T0_allGone 21
  revert this
  decide +kernel

/-- the surviving sibling is the instance that the first lookup cached, it is not `Done`, and
its resolve status is gone (so it would be resolved a second time and discarded as a duplicate). -/
theorem unused_sibling_state_after_last_release :
    lay (run T0 init [.lookup hy 0 20, .use 0 20, .release 0 20]) 0 21 = some ⟨1, 11, 21⟩ ∧
    1 ∉ (run T0 init [.lookup hy 0 20, .use 0 20, .release 0 20]).done ∧
    mem (run T0 init [.lookup hy 0 20, .use 0 20, .release 0 20]) 0 11 = none := by decide +kernel

/-- client gone before the manifest was fetched (its context is cancelled; the registry is fine). -/
def gone : Oracle := ⟨fun _ => false, fun _ _ => true⟩

/-- an abandoned lookup is a healthy operation in the sense of `lookup_succeeds_iff_member`, it
fails, memoises nothing, and the next lookup succeeds. -/
example : (Op.lookup gone 0 20).Healthy ∧ (lookup T0 gone init 0 20).2 = .err ∧
    mem (run T0 init [.lookup gone 0 20]) 0 10 = none ∧
    (lookup T0 hy (run T0 init [.lookup gone 0 20]) 0 20).2 = .layer ⟨0, 10, 20⟩ :=
  ⟨fun _ _ => rfl, by decide +kernel, by decide +kernel, by decide +kernel⟩

/-- the repaired `release` on the first witness history: the lookup succeeds, with a new instance. -/
example :
    (lookup T0 hy (run T0 init [.lookup hy 0 20, .use 0 20, .release 0 20]) 0 20).2
      = .layer ⟨2, 10, 20⟩ := by decide +kernel

/-- …and on the second one (sibling still in use). -/
example :
    (lookup T0 hy (run T0 init
      [.lookup hy 0 20, .lookup hy 0 21, .use 0 20, .use 0 21, .release 0 20]) 0 20).2
      = .layer ⟨2, 10, 20⟩ := by decide +kernel

/-- `last_release_resets`: its hypotheses hold after `lookup; use`. -/
example : cnt (run T0 init [.lookup hy 0 20, .use 0 20]) 0 20 = some 1 ∧
    lay (run T0 init [.lookup hy 0 20, .use 0 20]) 0 20 = some ⟨0, 10, 20⟩ ∧
    AllGone (run T0 init [.lookup hy 0 20, .use 0 20]) 0 20 :=
  ⟨by decide +kernel, by decide +kernel, T0_allGone⟩

/-- `in_use_never_released`: a sibling is released to zero while layer 21 is in use. -/
example : cnt (step T0 (run T0 init [.lookup hy 0 20, .use 0 20, .use 0 21]) (.release 0 20)).1 0 21
    = some 1 ∧ lay (run T0 init [.lookup hy 0 20, .use 0 20, .use 0 21]) 0 21 = some ⟨1, 11, 21⟩ := by
  decide +kernel

/-- the error path: after the transient error and the release of the image's last use the
lookup works again (`lookup_succeeds_if_no_memoised_error` applies: the status was reset). -/
example :
    mem (run T0 init [.lookup bad 0 20, .use 0 21, .release 0 21]) 0 10 = none ∧
    (lookup T0 hy (run T0 init [.lookup bad 0 20, .use 0 21, .release 0 21]) 0 20).2
      = .layer ⟨1, 10, 20⟩ := by decide +kernel

/-- `release_untracked_errors` leaves the LayerManager alone but not the refPool: releasing an
untracked layer of a tracked image drops the pool's count although layer 20 is still in use. -/
example : (release (run T0 init [.use 0 20]) 0 21).2 = .err ∧
    get (run T0 init [.use 0 20]).pool 0 = some 1 ∧
    get (release (run T0 init [.use 0 20]) 0 21).1.pool 0 = none := by decide +kernel

/-- `transient_error_is_memoised`, the history of the known finding: error, recovery, still failing. -/
example :
    (lookup T0 bad init 0 20).2 = .err ∧
    (lookup T0 hy (run T0 init [.lookup bad 0 20]) 0 20).2 = .err ∧
    mem (run T0 init [.lookup bad 0 20]) 0 10 = some .err := by decide +kernel

end SV.Props.C16
