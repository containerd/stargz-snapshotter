/-
C11 — A chunk-cache hit returns exactly the bytes committed under that key.

Model: `SV/Model/ChunkCache.lean` (directory cache = memory LRU + descriptor LRU + directory; `MemoryCache`).

All theorems about `reach …` quantify over EVERY list of steps from `NewDirectoryCache`: steps of any
number of writers and readers in any order, i.e. every interleaving at the granularity of the model
(one LRU critical section / one file-system call / one goroutine-private action per step), every
capacity, every option combination.  A step whose guard is false is skipped, so the step lists also
contain all "impossible" attempts.
-/
import SV.Lemmas.ChunkCache

namespace SV.Props.C11
open SV.ChunkCache

/-- The state after `steps`, starting from `NewDirectoryCache(dir, cfg)` with the given capacities. -/
def reach (memCap fdCap : Nat) (cfg : Config) (steps : List Step) : State :=
  (State.new memCap fdCap cfg).run steps

theorem reach_inv (memCap fdCap : Nat) (cfg : Config) (steps : List Step) :
    Inv (reach memCap fdCap cfg steps) :=
  (Inv.new memCap fdCap cfg).run steps

/-- **Hit = committed value, whole string.**  In every reachable state, what any open reader sees
through `ReadAt` is defined (its buffer exists / its descriptor is open) and is, in full, one of the
values committed under the reader's key. -/
theorem reader_sees_committed (memCap fdCap : Nat) (cfg : Config) (steps : List Step)
    (r : Nat) (rd : Reader)
    (hr : (reach memCap fdCap cfg steps).readers[r]? = some rd) (ho : rd.phase = .opened) :
    ∃ v : Bytes, (reach memCap fdCap cfg steps).visible rd = some v ∧
      v ∈ (reach memCap fdCap cfg steps).committed rd.key :=
  (reach_inv memCap fdCap cfg steps).visible_committed hr ho

/-- … hence every `ReadAt(p, off)` returns exactly the corresponding slice of a committed value. -/
theorem readAt_of_committed (memCap fdCap : Nat) (cfg : Config) (steps : List Step)
    (r : Nat) (rd : Reader) (off n : Nat)
    (hr : (reach memCap fdCap cfg steps).readers[r]? = some rd) (ho : rd.phase = .opened) :
    ∃ v : Bytes, v ∈ (reach memCap fdCap cfg steps).committed rd.key ∧
      ((reach memCap fdCap cfg steps).visible rd).map (readAt · off n) = some (readAt v off n) := by
  obtain ⟨v, h1, h2⟩ := reader_sees_committed memCap fdCap cfg steps r rd hr ho
  exact ⟨v, h2, by rw [h1]; rfl⟩

/-- Every committed value (hence every value a reader can see) was written, in full, by a writer of that
key that called `Commit`: never by an aborted or still-open writer. -/
theorem committed_has_committing_writer (memCap fdCap : Nat) (cfg : Config) (steps : List Step)
    (k : Nat) (v : Bytes) (hv : v ∈ (reach memCap fdCap cfg steps).committed k) :
    ∃ (w : Nat) (wr : Writer), (reach memCap fdCap cfg steps).writers[w]? = some wr ∧ wr.key = k ∧
      wr.written = v ∧ wr.phase ≠ .opened ∧ wr.phase ≠ .aborted :=
  (reach_inv memCap fdCap cfg steps).comm k v hv

/-- **A pooled buffer is referenced by nobody**: no open reader, no entry of the memory LRU, no pending
(possibly background) commit, no open writer. -/
theorem no_pooled_while_referenced (memCap fdCap : Nat) (cfg : Config) (steps : List Step)
    (b : Nat) (bf : Buf)
    (hb : (reach memCap fdCap cfg steps).bufs[b]? = some bf) (hp : bf.owner = .pooled) :
    let s := reach memCap fdCap cfg steps
    (∀ (r : Nat) (rd : Reader) (rc : Nat), s.readers[r]? = some rd → rd.phase = .opened → rd.src ≠ .mem b rc) ∧
    (∀ e ∈ s.mem.order, ∀ x : RC, s.mem.rcs[e.2]? = some x → x.val ≠ b) ∧
    (∀ (w : Nat) (wr : Writer) (rc : Nat) (x : RC), s.writers[w]? = some wr →
      (wr.phase = .published rc ∨ wr.phase = .written rc ∨ wr.phase = .finishing rc) →
      s.mem.rcs[rc]? = some x → x.val ≠ b) ∧
    (∀ (w : Nat) (wr : Writer), s.writers[w]? = some wr → wr.phase = .opened → wr.direct = false →
      wr.buf ≠ b) := by
  have hi := reach_inv memCap fdCap cfg steps
  generalize reach memCap fdCap cfg steps = s at *
  dsimp only
  obtain ⟨h1, h2, h3⟩ := hi.buf_unreferenced hb (fun _ hc => nomatch hp.symm.trans hc)
  refine ⟨h1, h2, h3, ?_⟩
  intro w wr hw hph hd hc
  obtain ⟨bf', g1, g2, _⟩ := hi.writer_buf hw hph hd
  rw [hc, hb] at g1; cases g1
  exact nomatch hp.symm.trans g2

/-- The descriptor-cache analogue: a descriptor an open reader reads through is not closed. -/
theorem no_closed_while_referenced (memCap fdCap : Nat) (cfg : Config) (steps : List Step)
    (r : Nat) (rd : Reader) (f : Nat) (fo : FileObj)
    (hr : (reach memCap fdCap cfg steps).readers[r]? = some rd) (ho : rd.phase = .opened)
    (hs : (∃ rc, rd.src = .fdc f rc) ∨ (∃ d, rd.src = .own f d))
    (hf : (reach memCap fdCap cfg steps).files[f]? = some fo) : fo.closed = false := by
  obtain ⟨v, hv, _⟩ := reader_sees_committed memCap fdCap cfg steps r rd hr ho
  rw [State.visible_file hs hf] at hv
  exact Bool.eq_false_iff.mpr (fun hc => by simp [hc] at hv)

/-- **Work in progress is invisible.**  While a writer has not renamed its wip file, no path of the
cache directory names that file and no descriptor refers to it; and the buffer of a writer that has not
called `Commit` is neither in the memory LRU nor behind any reader. -/
theorem wip_never_visible (memCap fdCap : Nat) (cfg : Config) (steps : List Step)
    (w : Nat) (wr : Writer) (hw : (reach memCap fdCap cfg steps).writers[w]? = some wr) :
    let s := reach memCap fdCap cfg steps
    ((wr.phase = .opened ∨ (∃ rc, wr.phase = .published rc) ∨ (∃ rc, wr.phase = .written rc)) →
      (∀ k, s.disk k ≠ some wr.wip) ∧ (∀ (f : Nat) (fo : FileObj), s.files[f]? = some fo → fo.inode ≠ wr.wip)) ∧
    (wr.phase = .opened → wr.direct = false →
      (∀ (r : Nat) (rd : Reader) (rc : Nat), s.readers[r]? = some rd → rd.phase = .opened →
        rd.src ≠ .mem wr.buf rc) ∧
      (∀ e ∈ s.mem.order, ∀ x : RC, s.mem.rcs[e.2]? = some x → x.val ≠ wr.buf)) := by
  have hi := reach_inv memCap fdCap cfg steps
  generalize reach memCap fdCap cfg steps = s at *
  dsimp only
  constructor
  · intro hph
    rcases hph with hph | ⟨rc, hph⟩ | ⟨rc, hph⟩ <;> exact hi.wip_unreachable hw (by simp [hph]) (by simp [hph])
  · intro hph hd
    obtain ⟨bf, h1, h2, _⟩ := hi.writer_buf hw hph hd
    obtain ⟨g1, g2, _⟩ := hi.buf_unreferenced h1 (fun _ hc => nomatch h2.symm.trans hc)
    exact ⟨g1, g2⟩

/-- **An aborted writer's data never becomes visible.**  Its wip file is never named by the cache
directory nor opened, and whatever any open reader sees was written by a writer of the reader's key that
did call `Commit` (so it is not the aborted writer's data unless a committing writer wrote the same). -/
theorem aborted_never_visible (memCap fdCap : Nat) (cfg : Config) (steps : List Step) :
    let s := reach memCap fdCap cfg steps
    (∀ (w : Nat) (wr : Writer), s.writers[w]? = some wr → wr.phase = .aborted →
      (∀ k, s.disk k ≠ some wr.wip) ∧ (∀ (f : Nat) (fo : FileObj), s.files[f]? = some fo → fo.inode ≠ wr.wip)) ∧
    (∀ (r : Nat) (rd : Reader) (v : Bytes), s.readers[r]? = some rd → rd.phase = .opened →
      s.visible rd = some v →
      ∃ (w : Nat) (wr : Writer), s.writers[w]? = some wr ∧ wr.key = rd.key ∧ wr.written = v ∧
        wr.phase ≠ .opened ∧ wr.phase ≠ .aborted) := by
  have hi := reach_inv memCap fdCap cfg steps
  generalize reach memCap fdCap cfg steps = s at *
  dsimp only
  constructor
  · intro w wr hw hph
    exact hi.wip_unreachable hw (by simp [hph]) (by simp [hph])
  · intro r rd v hr ho hv
    obtain ⟨v', h1, h2⟩ := hi.visible_committed hr ho
    rw [hv] at h1; cases h1
    exact hi.comm _ _ h2

/-- **Publication by rename is atomic.**  (1) In every reachable state every path of the cache directory
names a file holding a complete committed value of that key — there is no state in which a partially
written file is reachable by `Get`.  (2) A published file is never modified by any later step, so a
descriptor opened before a re-commit keeps reading the old complete value. -/
theorem rename_atomic_publish (memCap fdCap : Nat) (cfg : Config) (steps : List Step) :
    let s := reach memCap fdCap cfg steps
    (∀ (k i : Nat), s.disk k = some i →
      ∃ ino : Inode, s.inodes[i]? = some ino ∧ ino.st = .pub k ∧ ino.data ∈ s.committed k) ∧
    (∀ (i : Nat) (ino : Inode) (k : Nat), s.inodes[i]? = some ino → ino.st = .pub k →
      ∀ more : List Step, (s.run more).inodes[i]? = some ino) := by
  intro s
  have hi : Inv s := reach_inv memCap fdCap cfg steps
  constructor
  · intro k i hk
    obtain ⟨ino, h1, h2⟩ := hi.diskIno k i hk
    exact ⟨ino, h1, h2, hi.inoComm i ino k h1 h2⟩
  · intro i ino k h1 h2 more
    exact hi.pubKept_run more k i ino h1 h2

/-- The rename step itself: it changes one directory entry, to a file that at that instant holds a
complete committed value, and touches no other file. -/
theorem rename_step (memCap fdCap : Nat) (cfg : Config) (steps : List Step) (w : Nat) (wr : Writer) (s' : State)
    (hw : (reach memCap fdCap cfg steps).writers[w]? = some wr)
    (h : (reach memCap fdCap cfg steps).commitRename w = some s') :
    let s := reach memCap fdCap cfg steps
    s'.disk wr.key = some wr.wip ∧ (∀ k, k ≠ wr.key → s'.disk k = s.disk k) ∧
    (∀ i, i ≠ wr.wip → s'.inodes[i]? = s.inodes[i]?) ∧
    (∃ ino : Inode, s'.inodes[wr.wip]? = some ino ∧ ino.data ∈ s'.committed wr.key) := by
  have hi := reach_inv memCap fdCap cfg steps
  generalize reach memCap fdCap cfg steps = s at *
  dsimp only
  have hi' : Inv s' := hi.commitRename h
  obtain ⟨wr', ino, p, cm, rfl, hw', hino, _⟩ := State.commitRename_some h
  cases hw.symm.trans hw'
  refine ⟨if_pos rfl, fun k hk => if_neg hk, fun i hi => set_get_ne hi, ?_⟩
  obtain ⟨ino', h1, h2⟩ := hi'.diskIno wr.key wr.wip (if_pos rfl)
  exact ⟨ino', h1, hi'.inoComm _ ino' _ h1 h2⟩

/-- **Zero-length values are values.**  If only the empty string has been committed under a key, every
open reader of that key sees exactly the empty string (`some []`: a hit with zero bytes, not a miss and
not an error). -/
theorem zero_length_ok (memCap fdCap : Nat) (cfg : Config) (steps : List Step)
    (r : Nat) (rd : Reader)
    (hr : (reach memCap fdCap cfg steps).readers[r]? = some rd) (ho : rd.phase = .opened)
    (hz : ∀ v ∈ (reach memCap fdCap cfg steps).committed rd.key, v = []) :
    (reach memCap fdCap cfg steps).visible rd = some [] := by
  obtain ⟨v, h1, h2⟩ := reader_sees_committed memCap fdCap cfg steps r rd hr ho
  rw [hz v h2] at h1; exact h1

/-- **Duplicate `Add`, memory layer keeps the first value.**  When a second writer of a key that is
still in the memory LRU commits, the LRU keeps its refCounter and buffer (unchanged), the second writer's
buffer goes back to the pool, and its value only joins the committed set. -/
theorem duplicate_add_keeps_first_in_memory (memCap fdCap : Nat) (cfg : Config) (steps : List Step)
    (w : Nat) (wr : Writer) (id : Nat) (s' : State)
    (hw : (reach memCap fdCap cfg steps).writers[w]? = some wr)
    (hfind : find wr.key (reach memCap fdCap cfg steps).mem.order = some id)
    (h : (reach memCap fdCap cfg steps).commitMemPublish w = some s') :
    let s := reach memCap fdCap cfg steps
    find wr.key s'.mem.order = some id ∧
    (∃ x x' : RC, s.mem.rcs[id]? = some x ∧ s'.mem.rcs[id]? = some x' ∧ x'.val = x.val ∧
      s'.bufs[x.val]? = s.bufs[x.val]?) ∧
    (∃ bf : Buf, s'.bufs[wr.buf]? = some bf ∧ bf.owner = .pooled) ∧
    wr.written ∈ s'.committed wr.key ∧
    (∃ wr' : Writer, s'.writers[w]? = some wr' ∧ wr'.phase = .published id) := by
  have hi := reach_inv memCap fdCap cfg steps
  generalize reach memCap fdCap cfg steps = s at *
  dsimp only
  obtain ⟨wr', bf0, l', id', added, fired, rfl, hw', hopen, hd, hbf0, ha⟩ := State.commitMemPublish_some h
  cases hw.symm.trans hw'
  obtain ⟨bf1, hbf1, hown0, _⟩ := hi.writer_buf hw hopen hd
  rw [hbf0] at hbf1; cases hbf1
  obtain ⟨_, hspec⟩ := LRU.add_spec (h' := fun j => memHolders s.readers s.writers j + if id' = j then 1 else 0)
    hi.mem ha (fun _ => rfl)
  cases added with
  | true =>
    obtain ⟨hnone, _⟩ := hspec.fresh rfl
    rw [hfind] at hnone; cases hnone
  | false =>
    obtain ⟨_, _, hf, x, x', hx, hx', _, hal, _, hval, _, hf'⟩ := hspec.existing rfl
    cases hfind.symm.trans hf
    simp only [Bool.false_eq_true, if_false]
    refine ⟨hf', ⟨x, x', hx, hx', hval, ?_⟩, ⟨_, List.getElem?_set_self (lt_of_get_some hbf0), rfl⟩,
      mem_addCommitted _ _ _, ⟨_, List.getElem?_set_self (lt_of_get_some hw), rfl⟩⟩
    -- the cached buffer is tagged as refCounter `id`'s, the writer's own as the writer's
    obtain ⟨bfx, g1, g2, _⟩ := hi.buf _ x hx hal
    refine set_get_ne (fun hc => ?_)
    rw [hc, hbf0] at g1; cases g1
    exact nomatch hown0.symm.trans g2

/-- **Duplicate `Add`, disk.**  The persistence that follows writes the CACHED buffer (after a duplicate
add: the first value, not the second writer's) and renames it into place: the directory entry ends with
that complete committed value. -/
theorem duplicate_add_disk_gets_cached_value (memCap fdCap : Nat) (cfg : Config) (steps : List Step)
    (w : Nat) (wr : Writer) (rc : Nat) (s1 s2 : State)
    (hw : (reach memCap fdCap cfg steps).writers[w]? = some wr) (hph : wr.phase = .published rc)
    (h1 : (reach memCap fdCap cfg steps).commitDiskWrite w none = some s1)
    (h2 : s1.commitRename w = some s2) :
    let s := reach memCap fdCap cfg steps
    ∃ (x : RC) (bf : Buf) (ino : Inode), s.mem.rcs[rc]? = some x ∧ s.bufs[x.val]? = some bf ∧
      s2.disk wr.key = some wr.wip ∧ s2.inodes[wr.wip]? = some ino ∧ ino.data = bf.data ∧
      bf.data ∈ s2.committed wr.key := by
  have hi := reach_inv memCap fdCap cfg steps
  generalize reach memCap fdCap cfg steps = s at *
  dsimp only
  obtain ⟨wr1, rc1, x, bf, ino0, d, p, rfl, hw1, hph1, hx, hbf, hino0, hcase⟩ := State.commitDiskWrite_some h1
  cases hw.symm.trans hw1
  cases hph.symm.trans hph1
  obtain ⟨_, rfl, rfl⟩ | ⟨_, ⟨⟩, _⟩ := hcase
  obtain ⟨wr2, ino2, p2, cm, rfl, hw2, hino2, hcase2⟩ := State.commitRename_some h2
  cases hw2.symm.trans (List.getElem?_set_self (lt_of_get_some hw))
  cases hino2.symm.trans (List.getElem?_set_self (lt_of_get_some hino0))
  obtain ⟨x', bf', ino', hx', _, hbf', hbfc, hino', _, hdata0⟩ := hi.published_buf_committed hw hph
  cases hx.symm.trans hx'
  cases hbf.symm.trans hbf'
  cases hino0.symm.trans hino'
  have hcm : CmLe s.committed cm := by
    rcases hcase2 with ⟨_, _, _, rfl⟩ | ⟨_, _, _, rfl⟩
    · exact CmLe.refl _
    · exact CmLe.add _ _ _
  refine ⟨x, bf, _, hx, hbf, if_pos rfl,
    List.getElem?_set_self (by rw [List.length_set]; exact lt_of_get_some hino0), ?_, hcm _ _ hbfc⟩
  simp [hdata0]

open MemCache in
/-- `MemoryCache`: what a reader sees is, in full, a value committed under its key. -/
theorem memcache_reader_sees_committed (steps : List MStep) (r : Nat) (rd : MReader)
    (hr : (MState.run {} steps).readers[r]? = some rd) :
    ∃ v : Bytes, (MState.run {} steps).visible rd = some v ∧ v ∈ (MState.run {} steps).committed rd.key := by
  obtain ⟨d, h1, _, h3⟩ := (MInv.init.run steps).rd r rd hr
  exact ⟨d.data, by simp [MState.visible, h1], h3⟩

open MemCache in
/-- `MemoryCache`: a committed value was written in full by a writer of that key that called `Commit`. -/
theorem memcache_committed_has_committing_writer (steps : List MStep) (k : Nat) (v : Bytes)
    (hv : v ∈ (MState.run {} steps).committed k) :
    ∃ (w : Nat) (wr : MWriter), (MState.run {} steps).writers[w]? = some wr ∧ wr.key = k ∧ wr.written = v ∧
      wr.opened = false :=
  (MInv.init.run steps).comm k v hv

open MemCache in
/-- `MemoryCache`, duplicate `Add`: the map entry is REPLACED by the later commit (keeps the last), while a
reader opened before keeps the buffer it got. -/
theorem memcache_duplicate_add_keeps_last (s s' : MState) (w : Nat) (wr : MWriter)
    (hw : s.writers[w]? = some wr) (h : s.commit w = some s') :
    s'.membuf wr.key = some wr.buf ∧ s'.readers = s.readers ∧
      ∀ b, b ≠ wr.buf → s'.bufs[b]? = s.bufs[b]? := by
  unfold MState.commit at h
  rw [hw] at h
  simp only at h
  split at h
  · split at h
    · simp at h; subst h
      exact ⟨by simp, rfl, fun b hb => set_get_ne hb⟩
    · simp at h
  · simp at h

/-- two keys through a memory LRU of capacity 1: key 0 is evicted by key 1 while a reader holds it; the held
reader still sees `[1,2]`, a later `Get` of key 0 is served from disk with the same bytes. -/
def demoSteps : List Step :=
  [ .addOpen 0 {} none, .write 0 [1], .write 0 [2], .commitMemPublish 0, .getMem 0 {},
    .addOpen 1 {} none, .write 1 [7], .commitMemPublish 1,          -- evicts key 0 (held by reader 0)
    .commitDiskWrite 0 none, .commitRename 0, .commitDone 0,
    .getOpen 0 {}, .closeReader 0 ]                                 -- reader 0's release recycles buffer 0

example : ((reach 1 1 {} demoSteps).readers.map (fun rd => (rd.key, (reach 1 1 {} demoSteps).visible rd))) =
    [(0, some []), (0, some [1, 2])] := by decide +kernel

example : ((reach 1 1 {} (demoSteps.take 12)).readers.map
    (fun rd => (rd.key, rd.phase, (reach 1 1 {} (demoSteps.take 12)).visible rd))) =
    [(0, .opened, some [1, 2]), (0, .opened, some [1, 2])] := by decide +kernel

example : (reach 1 1 {} demoSteps).bufs.map (·.owner) = [.pooled, .cached 1] := by decide +kernel

/-- zero-length value, direct mode: committed, found on disk, read back as the empty string. -/
example : let s := reach 2 2 {} [.addOpen 5 { direct := true } none, .commitRename 0, .getOpen 5 {}]
    s.readers.map (fun rd => (rd.phase, s.visible rd)) = [(.opened, some [])] ∧ s.committed 5 = [[]] := by
  decide +kernel

/-- duplicate add: hypotheses of `duplicate_add_keeps_first_in_memory` are satisfiable. -/
example : let s := reach 2 2 {} [.addOpen 3 {} none, .write 0 [9], .commitMemPublish 0, .addOpen 3 {} none,
      .write 1 [8]]
    find 3 s.mem.order = some 0 ∧ (s.commitMemPublish 1).isSome = true := by decide +kernel

open MemCache in
example : let s := MState.run {} [.add 1, .write 0 [4], .commit 0, .get 1, .add 1, .write 1 [5], .commit 1, .get 1]
    s.readers.map (fun rd => s.visible rd) = [some [4], some [5]] := by decide +kernel

end SV.Props.C11
