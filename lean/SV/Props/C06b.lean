/-
C06 part B — `blob.ReadAt` / `blob.Cache` (fs/remote/blob.go) are byte-exact for every cache
content, every honest server reply and every prior history; the chunk walk, the buffer
placement and the `bytesWriter` are exact; the requested ranges cover every missing chunk; the
retry state machine of `httpFetcher.fetch` sends at most two requests.
-/
import SV.Lemmas.Blob

namespace SV.Props.C06b
open SV.Region SV.Blob SV.Props.C06

/-- `walkChunks` fails exactly on a misaligned start and otherwise yields the closed-form list
`chunkList` (chunk `j` is `[b + j·chunk, min (b + j·chunk + chunk - 1) (size - 1)]`). -/
theorem walkChunks_spec (P : Params) (hc : 0 < P.chunk) (b e : Nat) (cs : List Chunk) :
    walkChunks P b e = some cs ↔ (b % P.chunk = 0 ∧ cs = chunkList P b e) := by
  rw [walkChunks_eq P hc]
  by_cases h : b % P.chunk = 0
  · simp only [h, if_true, Option.some.injEq, true_and]
    exact eq_comm
  · simp [h]

/-- The closed form really is the loop `for i := b; i <= e && i < size; i += chunk`:
index `j` exists iff the loop condition holds at `i = b + j·chunk`, and the `j`-th chunk is the
grid chunk starting there. -/
theorem chunkList_enum (P : Params) (hc : 0 < P.chunk) (b e : Nat) :
    (∀ j, j < (chunkList P b e).length ↔ (b + j * P.chunk ≤ e ∧ b + j * P.chunk < P.size)) ∧
    (∀ j (h : j < (chunkList P b e).length),
      (chunkList P b e)[j] =
        ⟨b + j * P.chunk, min (b + j * P.chunk + P.chunk - 1) (P.size - 1)⟩) := by
  refine ⟨?_, ?_⟩
  · intro j; rw [chunkList_length]; exact lt_numChunks_iff P hc b e j
  · intro j h; rw [chunkList_getElem]; rfl

/-- Fuel independence: every fuel `≥ size - i` (in particular `size + 1`, the fuel used by
`walkChunks`) gives the same list, the closed form. -/
theorem walkChunks_fuel_indep (P : Params) (hc : 0 < P.chunk) (e i fuel : Nat)
    (h : P.size - i ≤ fuel) :
    chunksFrom P e fuel i = chunksFrom P e (P.size + 1) i ∧
      chunksFrom P e fuel i = chunkList P i e :=
  ⟨chunksFrom_fuel_indep P hc e i fuel (P.size + 1) h (by omega),
   chunksFrom_eq_chunkList P hc e fuel i h⟩

/-- Every chunk of a walk is non-empty, aligned, inside the blob, at most `chunk` long and a chunk
of the grid; neighbours are consecutive (`next.b = prev.e + 1`, `prev` is a full chunk); the
chunks cover exactly `[b, min (ceil e - 1) (size - 1)]`, where `ceil e - 1` is the end of the
chunk containing `e`. -/
theorem walkChunks_chunks (P : Params) (hc : 0 < P.chunk) (b e : Nat) (cs : List Chunk)
    (h : walkChunks P b e = some cs) :
    (∀ c ∈ cs, c.b ≤ c.e ∧ c.b % P.chunk = 0 ∧ c.e < P.size ∧ 0 < c.size ∧ c.size ≤ P.chunk ∧
      b ≤ c.b ∧ c.b ≤ e ∧ GridChunk P c) ∧
    (∀ j (hj : j + 1 < cs.length),
      cs[j + 1].b = cs[j].e + 1 ∧ cs[j].e + 1 = cs[j].b + P.chunk) ∧
    (∀ x, (∃ c ∈ cs, c.b ≤ x ∧ x ≤ c.e) ↔ (b ≤ x ∧ x ≤ ceilU e P.chunk - 1 ∧ x < P.size)) := by
  obtain ⟨hb, rfl⟩ := (walkChunks_spec P hc b e cs).mp h
  refine ⟨?_, ?_, chunkList_cover P hc b e hb⟩
  · intro c hcm
    obtain ⟨hg, h1, h2⟩ := gridChunk_of_mem_chunkList P hc b e hb c hcm
    obtain ⟨hle, hlt, hsz⟩ := hg.le hc
    exact ⟨hle, hg.1, hlt, Nat.sub_pos_of_lt (Nat.lt_succ_of_le hle),
      Nat.sub_le_iff_le_add'.mpr hsz, h1, h2, hg⟩
  · intro j hj
    rw [chunkList_getElem P b e (j + 1) hj, chunkList_getElem P b e j (Nat.lt_of_succ_lt hj)]
    rw [chunkList_length] at hj
    have hlt := ((lt_numChunks_iff P hc b e (j + 1)).mp hj).2
    rw [Nat.succ_mul, ← Nat.add_assoc] at hlt ⊢
    rw [chunkAt_end P hc _ (Nat.lt_of_le_of_lt (Nat.le_add_right ..) hlt),
      Nat.min_eq_left (Nat.le_of_lt hlt)]
    exact ⟨rfl, rfl⟩

example : walkChunks ⟨10, 4⟩ 4 11 = some [⟨4, 7⟩, ⟨8, 9⟩] := rfl
example : walkChunks ⟨10, 4⟩ 5 11 = none := rfl
example : chunkList ⟨10, 4⟩ 0 11 = [⟨0, 3⟩, ⟨4, 7⟩, ⟨8, 9⟩] := rfl

/-- The piece `[lower, lower+expected)` of the true chunk data is the piece of the blob that
belongs at buffer position `base` (file position `o + base`).  True for every chunk. -/
theorem place_exact (B : Bytes) (o n : Nat) (c : Chunk) :
    slice (slice B c.b c.size) (place o n c).lower (place o n c).expected =
      slice B (o + (place o n c).base) (place o n c).expected :=
  place_slice B o n c

/-- The target intervals `[base, base+expected)` of the chunks of `ReadAt(o, n)` tile `[0, k)`,
`k = adjustBufferSize = min n (size - o)`. -/
theorem place_tiles (P : Params) (hc : 0 < P.chunk) (o n : Nat) (hn : 0 < n) (ho : o ≤ P.size)
    (cs : List Chunk)
    (h : walkChunks P (floorU o P.chunk) (ceilU (o + n - 1) P.chunk - 1) = some cs) :
    Tiles 0 (cs.map (place o n)) (adjust P n o) ∧ adjust P n o = min n (P.size - o) := by
  rw [walk_readAt P hc] at h
  cases h
  exact ⟨tiles_readAt P hc o n hn ho, adjust_eq P n o⟩

/-- For the chunks of `ReadAt(o, n)` the Go expression `chunk.size() - upperUnread - lowerUnread`
is never negative (the truncated subtraction in `place` is the Go integer arithmetic, no hidden
panic), `p[base : base+expectedSize]` lies inside the caller's buffer, and the cache read
`[lower, lower+expected)` lies inside the chunk.  (`hn` is not used.) -/
theorem place_in_bounds (P : Params) (hc : 0 < P.chunk) (o n : Nat) (hn : 0 < n) (ho : o ≤ P.size)
    (cs : List Chunk)
    (h : walkChunks P (floorU o P.chunk) (ceilU (o + n - 1) P.chunk - 1) = some cs) :
    ∀ c ∈ cs, (o - c.b) + ((c.e + 1) - (o + n)) ≤ c.size ∧
      (place o n c).base + (place o n c).expected ≤ n ∧
      (place o n c).lower + (place o n c).expected ≤ c.size := by
  rw [walk_readAt P hc] at h
  cases h
  exact fun c hcm => place_bounds P hc o n ho c hcm

/-- `Tiles` in index form: the first interval starts at `a`, each next one starts where the
previous ends, the last one ends at `k`. -/
theorem tiles_index (a k : Nat) (ps : List Place) (h : Tiles a ps k) :
    (∀ h0 : 0 < ps.length, ps[0].base = a) ∧
    (∀ j (hj : j + 1 < ps.length), ps[j + 1].base = ps[j].base + ps[j].expected) ∧
    (∀ hne : ps ≠ [], (ps.getLast hne).base + (ps.getLast hne).expected = k) ∧
    (ps = [] → a = k) := by
  induction ps generalizing a with
  | nil =>
    exact ⟨fun h0 => absurd h0 (Nat.lt_irrefl 0), fun j hj => absurd hj (Nat.not_lt_zero _),
      fun hne => absurd rfl hne, fun _ => h⟩
  | cons p ps ih =>
    obtain ⟨hb, ht⟩ := h
    obtain ⟨i1, i2, i3, i4⟩ := ih _ ht
    refine ⟨fun _ => hb, fun j hj => ?_, fun _ => ?_, nofun⟩
    · cases j with
      | zero => exact (i1 (Nat.lt_of_succ_lt_succ hj)).trans (by rw [← hb]; rfl)
      | succ j => exact i2 j (Nat.lt_of_succ_lt_succ hj)
    · cases ps with
      | nil => exact hb ▸ i4 rfl
      | cons q qs => exact i3 (List.cons_ne_nil _ _)

-- non-vacuity: size 10, chunk 4, ReadAt(o = 3, n = 6) touches all three chunks
example : walkChunks ⟨10, 4⟩ (floorU 3 4) (ceilU (3 + 6 - 1) 4 - 1) = some [⟨0, 3⟩, ⟨4, 7⟩, ⟨8, 9⟩] := rfl
example : Tiles 0 ([⟨0, 3⟩, ⟨4, 7⟩, ⟨8, 9⟩].map (place 3 6)) 6 := by decide

/-- For every state satisfying the invariant (cache entries are true grid chunks, fetched set
well-formed and inside the blob), every offset/length and every honest reply: the invariant is
kept, the fetched coverage only grows, and the result is an error or exactly
`k = min n (size - o)` bytes equal to `B[o, o+k)`. -/
theorem readAt_exact (P : Params) (B : Bytes) (hc : 0 < P.chunk) (hB : B.length = P.size)
    (s : St) (hs : Inv P B s) (o n : Nat) (reply : Reply) (hr : HonestReply B reply) :
    CacheOK P B (readAt P s o n reply).1.cache ∧
    WF (readAt P s o n reply).1.fetched ∧
    InBlob P.size (readAt P s o n reply).1.fetched ∧
    (∀ x, cov x s.fetched → cov x (readAt P s o n reply).1.fetched) ∧
    ((readAt P s o n reply).2 = none ∨
      ∃ buf, (readAt P s o n reply).2 = some (min n (P.size - o), buf) ∧ buf.length = n ∧
        buf.take (min n (P.size - o)) = slice B o (min n (P.size - o))) := by
  obtain ⟨h1, h2, h3⟩ := readAt_spec P B hc hB s hs o n reply hr
  exact ⟨h1.cacheOK, h1.wf, h1.inBlob, h2, h3⟩

/-- `FetchedSize` is monotone under `ReadAt` and never exceeds the blob size. -/
theorem readAt_fetchedSize (P : Params) (B : Bytes) (hc : 0 < P.chunk) (hB : B.length = P.size)
    (s : St) (hs : Inv P B s) (o n : Nat) (reply : Reply) (hr : HonestReply B reply) :
    totalSize s.fetched ≤ totalSize (readAt P s o n reply).1.fetched ∧
    totalSize (readAt P s o n reply).1.fetched ≤ P.size := by
  obtain ⟨h1, h2, _⟩ := readAt_spec P B hc hB s hs o n reply hr
  exact fetchedSize_of_inv P _ s _ hs.invQ h1.invQ h2

/-- `Cache` (one `cacheAt`) keeps the invariant; `FetchedSize` is monotone and bounded. -/
theorem cacheAt_inv (P : Params) (B : Bytes) (hc : 0 < P.chunk)
    (s : St) (hs : Inv P B s) (o n : Nat) (reply : Reply) (hr : HonestReply B reply) :
    Inv P B (cacheAt P s o n reply).1 ∧
    totalSize s.fetched ≤ totalSize (cacheAt P s o n reply).1.fetched ∧
    totalSize (cacheAt P s o n reply).1.fetched ≤ P.size := by
  obtain ⟨h1, h2⟩ := cacheAt_specQ P B _ (goodQ_exact P B) hc s hs.invQ o n reply hr
  exact ⟨h1.inv, fetchedSize_of_inv P _ s _ hs.invQ h1 h2⟩

/-- The same for a cache that may hold truncated entries (a cache read returning short data):
if every entry is a prefix of the true bytes of its grid chunk (`CachePrefixOK`, weaker than
`CacheOK`), `ReadAt` still returns an error or exactly the right bytes, and keeps that weaker
invariant.  A short cache read is treated as a miss, never copied as if complete. -/
theorem readAt_exact_truncated_cache (P : Params) (B : Bytes) (hc : 0 < P.chunk)
    (hB : B.length = P.size) (s : St) (hcache : CachePrefixOK P B s.cache) (hwf : WF s.fetched)
    (hin : InBlob P.size s.fetched) (o n : Nat) (reply : Reply) (hr : HonestReply B reply) :
    CachePrefixOK P B (readAt P s o n reply).1.cache ∧
    WF (readAt P s o n reply).1.fetched ∧
    InBlob P.size (readAt P s o n reply).1.fetched ∧
    (∀ x, cov x s.fetched → cov x (readAt P s o n reply).1.fetched) ∧
    ((readAt P s o n reply).2 = none ∨
      ∃ buf, (readAt P s o n reply).2 = some (min n (P.size - o), buf) ∧ buf.length = n ∧
        buf.take (min n (P.size - o)) = slice B o (min n (P.size - o))) := by
  obtain ⟨h1, h2, h3⟩ := readAt_specQ P B _ (goodQ_prefix P B) hc hB s ⟨hcache, hwf, hin⟩
    o n reply hr
  exact ⟨h1.cacheQ, h1.wf, h1.inBlob, h2, h3⟩

-- non-vacuity: blob 0..9, chunk 4; chunk [4,7] cached, bytes [0,7] fetched before
example : Inv ⟨10, 4⟩ exB exS := by
  refine ⟨fun c d h => ?_, by decide, by unfold InBlob; decide⟩
  obtain ⟨rfl, rfl⟩ := Cache.get_singleton h
  exact ⟨by decide, by decide⟩
example : HonestReply exB (.parts [⟨0, 3, [0, 1, 2, 3]⟩, ⟨8, 9, [8, 9]⟩]) := by decide
-- a short body is honest too (and leads to an error, not to wrong bytes)
example : HonestReply exB (.parts [⟨0, 3, [0, 1]⟩]) := by decide
example : (readAt ⟨10, 4⟩ exS 3 6 (.parts [⟨0, 3, [0, 1, 2, 3]⟩, ⟨8, 9, [8, 9]⟩])).2
    = some (6, [3, 4, 5, 6, 7, 8]) := rfl
example : (readAt ⟨10, 4⟩ exS 3 6 (.parts [⟨0, 3, [0, 1]⟩])).2 = none := rfl
example : (readAt ⟨10, 4⟩ exS 8 5 (.parts [⟨8, 9, [8, 9]⟩])).2 = some (2, [8, 9, 0, 0, 0]) := rfl

/-- Over any history of `ReadAt` / `Cache` / cache-entry loss / cache-entry truncation from the
empty state, each op with its own arbitrary honest reply: every read of the history returned an
error or exactly the right count and bytes; at the end no cache entry holds wrong bytes, and the
fetched set is well-formed and inside the blob. -/
theorem history_exact (P : Params) (B : Bytes) (hc : 0 < P.chunk) (hB : B.length = P.size)
    (ops : List Op) (hh : ∀ op ∈ ops, op.Honest B) :
    (CachePrefixOK P B (runOps P {} ops).cache ∧ WF (runOps P {} ops).fetched ∧
      InBlob P.size (runOps P {} ops).fetched) ∧
    ∀ t ∈ trace P {} ops,
      t.2.2 = none ∨ ∃ buf, t.2.2 = some (min t.2.1 (P.size - t.1), buf) ∧ buf.length = t.2.1 ∧
        buf.take (min t.2.1 (P.size - t.1)) = slice B t.1 (min t.2.1 (P.size - t.1)) := by
  obtain ⟨h1, _, h3⟩ := runOps_prefix P B hc hB ops {} (invQ_init P _) hh
  exact ⟨⟨h1.cacheQ, h1.wf, h1.inBlob⟩, h3⟩

/-- Without truncation ops (the cache returns entries all-or-nothing, what C11 establishes for the
real cache) the strong invariant `CacheOK` holds after every history. -/
theorem history_cacheOK (P : Params) (B : Bytes) (hc : 0 < P.chunk) (hB : B.length = P.size)
    (ops : List Op) (hh : ∀ op ∈ ops, op.Honest B) (hnt : ∀ op ∈ ops, op.isTrunc = false) :
    Inv P B (runOps P {} ops) :=
  (runOps_specQ P B _ (goodQ_exact P B) hc hB ops {} (invQ_init P _) hh (Or.inl hnt)).1.inv

/-- `FetchedSize` over a history: monotone from any reachable state on, and bounded. -/
theorem history_fetchedSize (P : Params) (B : Bytes) (hc : 0 < P.chunk) (hB : B.length = P.size)
    (pre ops : List Op) (hp : ∀ op ∈ pre, op.Honest B) (hh : ∀ op ∈ ops, op.Honest B) :
    totalSize (runOps P {} pre).fetched ≤ totalSize (runOps P (runOps P {} pre) ops).fetched ∧
    totalSize (runOps P (runOps P {} pre) ops).fetched ≤ P.size := by
  obtain ⟨h1, _, _⟩ := runOps_prefix P B hc hB pre {} (invQ_init P _) hp
  obtain ⟨k1, k2, _⟩ := runOps_prefix P B hc hB ops _ h1 hh
  exact fetchedSize_of_inv P _ _ _ h1 k1 k2

example : exB.length = (⟨10, 4⟩ : Params).size := rfl
example : ∀ op ∈ [Op.read 3 6 (.parts [⟨0, 9, exB⟩]), .drop ⟨4, 7⟩, .cache 0 10 .fail,
    .trunc ⟨0, 3⟩ 2, .read 5 2 (.parts [⟨4, 7, [4, 5, 6, 7]⟩]), .read 1 3 (.parts [⟨0, 3, [0, 1, 2, 3]⟩]),
    .read 0 2 .fail], op.Honest exB := by decide
-- the read at (1,3) after the truncation of [0,3] to 2 bytes refetches; the read at (0,2) is
-- served from the truncated entry
example : trace ⟨10, 4⟩ {} [.read 3 6 (.parts [⟨0, 9, exB⟩]), .drop ⟨4, 7⟩, .cache 0 10 .fail,
    .trunc ⟨0, 3⟩ 2, .read 5 2 (.parts [⟨4, 7, [4, 5, 6, 7]⟩]), .read 1 3 (.parts [⟨0, 3, [0, 1, 2, 3]⟩]),
    .read 0 2 .fail]
    = [(3, 6, some (6, [3, 4, 5, 6, 7, 8])), (5, 2, some (2, [5, 6])), (1, 3, some (3, [1, 2, 3])),
       (0, 2, some (2, [0, 1]))] := rfl
example : ∀ op ∈ [Op.read 3 6 (.parts [⟨0, 9, exB⟩]), .drop ⟨4, 7⟩, .cache 0 10 .fail],
    op.isTrunc = false := by decide
-- a truncated entry satisfies the weak invariant but not the strong one
example : QPrefix ⟨10, 4⟩ exB ⟨4, 7⟩ [4, 5] ∧ ¬ QExact ⟨10, 4⟩ exB ⟨4, 7⟩ [4, 5] := by
  refine ⟨⟨by decide, by decide⟩, fun h => absurd h.1 (by decide)⟩

/-- However the stream `total` is cut into `Write` calls, a fresh `bytesWriter` over a buffer of
`len` bytes with offset `destOff` ends up holding `total[destOff, destOff+len)` (clipped to the
stream; the rest of the buffer is untouched), and the buffer length never changes. -/
theorem bytesWriter_correct (len destOff : Nat) (total : Bytes) (ps : List Bytes)
    (hps : ps.flatten = total) :
    let w := ps.foldl BW.write { dest := List.replicate len 0, destOff := destOff, current := 0 }
    w.dest.length = len ∧
    w.dest.take (min len (total.length - destOff)) =
      slice total destOff (min len (total.length - destOff)) ∧
    (destOff + len ≤ total.length → w.dest = slice total destOff len) := by
  subst hps
  simp only [BW.fold_eq_write, BW.write_dest, Nat.zero_sub, Nat.sub_zero, List.length_replicate]
  have hl : (slice ps.flatten destOff len).length = min len (ps.flatten.length - destOff) :=
    slice_length ..
  have ht := writeAt_take (List.replicate len 0) 0 (slice ps.flatten destOff len) (Nat.zero_le _)
  rw [Nat.zero_add, List.take_zero, List.nil_append] at ht
  refine ⟨?_, ?_, ?_⟩
  · rw [writeAt_length _ _ _ (by rw [hl, List.length_replicate]; omega), List.length_replicate]
  · rw [← hl, ht]
    exact slice_self_length ..
  · intro h
    unfold writeAt
    rw [List.take_zero, List.nil_append,
      List.drop_of_length_le (by rw [hl, List.length_replicate]; omega), List.append_nil]

/-- In the copying branch of `Write` the Go slice expressions `p[pBegin:pEnd]` and
`dest[destBase:]` are in bounds (no panic is hidden by the model's total list operations). -/
theorem bytesWriter_slices_in_bounds (w : BW) (p : Bytes)
    (h1 : ¬ (w.current - w.destOff > w.dest.length)) (h2 : ¬ (w.destOff - w.current ≥ p.length)) :
    let pEnd0 := w.destOff + w.dest.length - w.current
    let pEnd := if pEnd0 > p.length then p.length else pEnd0
    w.destOff - w.current ≤ pEnd ∧ pEnd ≤ p.length ∧ w.current - w.destOff ≤ w.dest.length := by
  simp only
  split <;> omega

example : ([[1, 2], [], [3, 4, 5], [6]] : List Bytes).flatten = [1, 2, 3, 4, 5, 6] := rfl
example : (([[1, 2], [], [3, 4, 5], [6]] : List Bytes).foldl BW.write
    { dest := List.replicate 3 0, destOff := 1, current := 0 }).dest = [2, 3, 4] := rfl
example : (([[1, 2], [3]] : List Bytes).foldl BW.write
    { dest := List.replicate 4 0, destOff := 1, current := 0 }).dest = [2, 3, 0, 0] := rfl

/-- In multi-range and in single-range mode the ranges put into the Range header cover every byte
of every missing chunk.  (`hne` is not used: coverage of `regionSet.add` needs no assumption.) -/
theorem request_covers_missing (missing : List Chunk) (hne : ∀ c ∈ missing, c.b ≤ c.e)
    (single : Bool) :
    ∀ c ∈ missing, ∀ x : Int, (c.b : Int) ≤ x → x ≤ c.e → cov x (requestRanges single missing) :=
  request_covers missing single

/-- For missing chunks of the grid, every requested range is non-empty and starts / ends where a
grid chunk starts / ends (so the reply to it is chunk aligned). -/
theorem request_aligned (P : Params) (hc : 0 < P.chunk) (missing : List Chunk)
    (hm : ∀ c ∈ missing, GridChunk P c) (single : Bool) :
    ∀ r ∈ requestRanges single missing, r.b ≤ r.e ∧ GridStart P r.b ∧ GridEnd P r.e :=
  requestRanges_grid P hc missing hm single

/-- An honest server that answers exactly the requested ranges (one part per range, all its
bytes) is an `HonestReply` and makes `fetchRegions` succeed, from any state. -/
theorem honest_server_fetch_succeeds (P : Params) (B : Bytes) (hc : 0 < P.chunk)
    (hB : B.length = P.size) (missing : List Chunk) (hm : ∀ c ∈ missing, GridChunk P c)
    (single : Bool) (s : St) :
    HonestReply B (honestAnswer B (requestRanges single missing)) ∧
    ∃ got, (fetchMissing P s missing (honestAnswer B (requestRanges single missing))).2 = some got :=
  ⟨honestAnswer_honest B _, fetchMissing_honest_ok P B hc hB missing hm single s⟩

/-- `ReadAt` never fails against such a server: the chunks it asks for (`missingFor`) are grid
chunks, and the answer to `requestRanges` of them lets it succeed.  With the invariant the result
is then the exact bytes. -/
theorem honest_server_readAt_succeeds (P : Params) (B : Bytes) (hc : 0 < P.chunk)
    (hB : B.length = P.size) (s : St) (hs : Inv P B s) (o n : Nat) (single : Bool) :
    ∃ ms, missingFor P s o n = some ms ∧
      ∃ buf, (readAt P s o n (honestAnswer B (requestRanges single ms))).2
          = some (min n (P.size - o), buf) ∧
        buf.take (min n (P.size - o)) = slice B o (min n (P.size - o)) := by
  obtain ⟨ms, h1, h2⟩ := readAt_honest_ok P B hc hB s o n single
  refine ⟨ms, h1, ?_⟩
  obtain ⟨_, _, h3⟩ := readAt_spec P B hc hB s hs o n _ (honestAnswer_honest B (requestRanges single ms))
  rcases h3 with h3 | ⟨buf, h4, _, h5⟩
  · exact absurd h3 h2
  · exact ⟨buf, h4, h5⟩

/-- `Cache` never fails against such a server. -/
theorem honest_server_cacheAt_succeeds (P : Params) (B : Bytes) (hc : 0 < P.chunk)
    (hB : B.length = P.size) (s : St) (o n : Nat) (single : Bool) :
    (cacheAt P s o n (honestAnswer B (requestRanges single
      ((chunksFrom P (o + n - 1) (P.size + 1) (floorU o P.chunk)).filter
        (fun c => (s.cache.get c).isNone))))).2 = true := by
  rw [cacheAt_eq P hc]
  obtain ⟨got, hg⟩ := fetchMissing_honest_ok P B hc hB
    ((rangeChunks P o n).filter fun c => (s.cache.get c).isNone)
    (fun c hcm => (gridChunk_of_mem_rangeChunks P hc o n c (List.mem_filter.mp hcm).1).1) single s
  exact Option.isSome_iff_exists.mpr ⟨got, hg⟩

-- non-vacuity: chunks [0,3] and [8,9] missing (the middle one cached)
example : ∀ c ∈ [(⟨0, 3⟩ : Chunk), ⟨8, 9⟩], GridChunk ⟨10, 4⟩ c := by decide
example : ∀ c ∈ [(⟨0, 3⟩ : Chunk), ⟨8, 9⟩], c.b ≤ c.e := by decide
example : requestRanges false [⟨0, 3⟩, ⟨8, 9⟩] = [⟨0, 3⟩, ⟨8, 9⟩] := rfl
example : requestRanges true [⟨0, 3⟩, ⟨8, 9⟩] = [⟨0, 9⟩] := rfl
example : requestRanges false [⟨4, 7⟩, ⟨0, 3⟩] = [⟨0, 7⟩] := rfl
example : missingFor ⟨10, 4⟩ exS 3 6 = some [⟨0, 3⟩, ⟨8, 9⟩] := rfl
example : (readAt ⟨10, 4⟩ exS 3 6 (honestAnswer exB (requestRanges true [⟨0, 3⟩, ⟨8, 9⟩]))).2
    = some (6, [3, 4, 5, 6, 7, 8]) := rfl

/-- At most two blob requests per `fetch`, and never more than scripted replies consumed. -/
theorem fetchSM_at_most_two (st : FSt) (retry : Bool) (script : List Status) (refresh : Option Bool) :
    (fetchSM st retry script refresh).2.2 ≤ 2 ∧
    (fetchSM st retry script refresh).2.2 ≤ script.length := by
  rcases script with _ | ⟨s, rest⟩
  · exact ⟨Nat.zero_le _, Nat.le_refl _⟩
  · cases fetchSM_cons st retry s rest refresh with
    | once _ eq => rw [eq]; exact ⟨Nat.le_succ 1, Nat.succ_le_succ (Nat.zero_le _)⟩
    | refreshed _ _ _ _ eq => rw [eq]; exact fetchRetry_count ..
    | single _ _ _ eq => rw [eq]; exact fetchRetry_count ..

/-- With `retry = false` (the recursive call) at most one request, and the fetcher state is
unchanged. -/
theorem fetchSM_no_retry_one (st : FSt) (script : List Status) (refresh : Option Bool) :
    (fetchSM st false script refresh).2.2 ≤ 1 ∧ (fetchSM st false script refresh).1 = st := by
  rcases script with _ | ⟨s, rest⟩
  · exact ⟨Nat.zero_le _, rfl⟩
  · cases fetchSM_cons st false s rest refresh with
    | once _ eq => rw [eq]; exact ⟨Nat.le_refl _, rfl⟩
    | refreshed _ _ again => cases again
    | single _ again => cases again

/-- Single-range mode is never switched off. -/
theorem fetchSM_singleRange_mono (st : FSt) (retry : Bool) (script : List Status)
    (refresh : Option Bool) (h : st.singleRange = true) :
    (fetchSM st retry script refresh).1.singleRange = true := by
  rcases script with _ | ⟨s, rest⟩
  · exact h
  · cases fetchSM_cons st retry s rest refresh with
    | once _ eq => rw [eq]; exact h
    | refreshed _ _ _ _ eq => rw [eq, fetchRetry_fst]; exact h
    | single _ _ multi => rw [h] at multi; cases multi

/-- The outcome is a body iff the last status consumed is 200 or 206. -/
theorem fetchSM_body_iff_last_ok (st : FSt) (retry : Bool) (script : List Status)
    (refresh : Option Bool) :
    (fetchSM st retry script refresh).2.1 = .body ↔
      ∃ s, (script.take (fetchSM st retry script refresh).2.2).getLast? = some s ∧
        (s = .ok200 ∨ s = .partial206) := by
  simp only [← Status.isOK_iff]
  rcases script with _ | ⟨s, rest⟩
  · simp [fetchSM]
  · cases fetchSM_cons st retry s rest refresh with
    | once _ eq body => rw [eq]; simpa using body
    | refreshed _ is403 _ _ eq => rw [eq]; exact fetchRetry_body _ s rest (by rw [is403]; rfl)
    | single is400 _ _ eq => rw [eq]; exact fetchRetry_body _ s rest (by rw [is400]; rfl)

/-- A second request is sent only after a 403 (retry allowed, URL refresh succeeded; the range
mode is untouched) or after a 400 (retry allowed, not yet single-range; the mode is switched on
and nothing else changes): one retry per 403 and per 400. -/
theorem fetchSM_second_request (st : FSt) (retry : Bool) (script : List Status)
    (refresh : Option Bool) (h : (fetchSM st retry script refresh).2.2 = 2) :
    retry = true ∧
    ((script.head? = some .forbidden403 ∧ refresh.isSome ∧
        (fetchSM st retry script refresh).1.singleRange = st.singleRange) ∨
     (script.head? = some .badReq400 ∧ st.singleRange = false ∧
        (fetchSM st retry script refresh).1 = { st with singleRange := true })) := by
  rcases script with _ | ⟨s, rest⟩
  · cases h
  · cases fetchSM_cons st retry s rest refresh with
    | once _ eq => rw [eq] at h; cases h
    | refreshed _ is403 again url eq =>
      exact ⟨again, Or.inl ⟨by rw [is403]; rfl, by rw [url]; rfl, by rw [eq, fetchRetry_fst]⟩⟩
    | single is400 again multi eq =>
      exact ⟨again, Or.inr ⟨by rw [is400]; rfl, multi, by rw [eq, fetchRetry_fst]⟩⟩

/-- The URL changes only through a successful refresh after a 403. -/
theorem fetchSM_url (st : FSt) (retry : Bool) (script : List Status) (refresh : Option Bool) :
    (fetchSM st retry script refresh).1.redirected = st.redirected ∨
      (retry = true ∧ script.head? = some .forbidden403 ∧
        refresh = some (fetchSM st retry script refresh).1.redirected) := by
  rcases script with _ | ⟨s, rest⟩
  · exact Or.inl rfl
  · cases fetchSM_cons st retry s rest refresh with
    | once _ eq => rw [eq]; exact Or.inl rfl
    | refreshed _ is403 again url eq =>
      exact Or.inr ⟨again, by rw [is403]; rfl, by rw [eq, fetchRetry_fst]; exact url⟩
    | single _ _ _ eq => rw [eq, fetchRetry_fst]; exact Or.inl rfl

example : fetchSM {} true [.badReq400, .partial206, .other] none = (⟨true, false⟩, .body, 2) := rfl
example : fetchSM {} true [.forbidden403, .ok200] (some true) = (⟨false, true⟩, .body, 2) := rfl
example : fetchSM ⟨true, false⟩ true [.badReq400, .ok200] none = (⟨true, false⟩, .error, 1) := rfl

end SV.Props.C06b
