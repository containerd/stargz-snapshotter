/-
C08 — Snapshotter keeps snapshot metadata, directories and backend mounts in step.

Setting (see `SV/Model/Snap.lean`): a history is a list of calls, each with its own `Oracle`
(the outcome of every backend Mount/Check/Unmount of that call); `runOps (init cfg0) hist` is the
state after the history; `plan s orc op` is the list of atomic steps of the next call and
`Reachable cfg0 s` says that `s` is the state after some history and some prefix of the steps of
the call in flight.  All theorems quantify over ALL histories, configurations and oracles.
Sequential semantics (one call in flight) up to the section on concurrent callers.
-/
import SV.Lemmas.Snap
import SV.Lemmas.SnapConc

namespace SV.Props.C08
open SV.Snap

/-- the key whose parent chain `mounts()` checks for a call that can return a mount list -/
def checkKeyOf : Op → Option String
  | .prepare _ p _ => some p
  | .view _ p _ => some p
  | .mounts k => some k
  | _ => none

/-- the key of the snapshot a returned mount list is for -/
def keyOf : Op → String
  | .prepare k _ _ => k
  | .view k _ _ => k
  | .mounts k => k
  | _ => ""

/-- A backend mount implies its directory — in EVERY state a crash can expose: after any history
of calls with any backend outcomes, at any prefix of the atomic steps of the call in flight. -/
theorem mount_implies_dir (cfg0 : Config) (s : State) (h : Reachable cfg0 s) :
    ∀ n ∈ s.mounts, Dir.id n ∈ s.dirs :=
  (inv_reachable h).mountDir

/-- No mount list is handed out for a chain that contains a remote layer whose Check fails:
whenever Prepare / View / Mounts returns mounts, every remote-labelled snapshot on the chain that
was checked (from the parent, resp. from the key itself) had a successful Check in this call. -/
theorem mounts_unavailable_on_failed_check (s : State) (orc : Oracle) (op : Op) (m : MountSpec)
    (h : (runOp s orc op).2 = .mounts m) :
    ∃ ck ch, checkKeyOf op = some ck ∧ chainOf (runOp s orc op).1 ck = some ch ∧
      ∀ c ∈ ch, isRemote c.labels = true → orc.checkOk c.id = true := by
  obtain ⟨key, ck, sn, pids, ha⟩ := runOp_mounts h
  obtain ⟨_, ch, h1, h2⟩ := mountsPlan_result ha.answer
  refine ⟨ck, ch, ?_, h1, h2⟩
  rcases ha.call with ⟨l, rfl⟩ | ⟨l, rfl⟩ | ⟨rfl, rfl⟩ <;> rfl

/-- ... and conversely a failing Check on the chain makes the call fail (it cannot return mounts). -/
theorem failed_check_no_mounts (s : State) (orc : Oracle) (op : Op) (ck : String) (ch : List Snap) (c : Snap)
    (hck : checkKeyOf op = some ck) (hch : chainOf (runOp s orc op).1 ck = some ch) (hc : c ∈ ch)
    (hr : isRemote c.labels = true) (hfail : orc.checkOk c.id = false) :
    ∀ m, (runOp s orc op).2 ≠ .mounts m := by
  intro m hm
  obtain ⟨ck', ch', h1, h2, h3⟩ := mounts_unavailable_on_failed_check s orc op m hm
  rw [hck] at h1
  cases h1
  rw [hch] at h2
  cases h2
  rw [h3 c hc hr] at hfail
  cases hfail

/-- Lower directories are listed nearest parent first: the mount list returned for a snapshot is
`mountSpec sn (ids of ch)` where `ch` is the chain obtained by following parent links from the
snapshot's parent (`IsChain`: head = the parent, next = the parent's parent, …). -/
theorem lowerdir_nearest_parent_first (cfg0 : Config) (hist : List (Op × Oracle)) (orc : Oracle) (op : Op)
    (m : MountSpec) (h : (runOp (runOps (init cfg0) hist) orc op).2 = .mounts m) :
    ∃ sn ch, findKey (runOp (runOps (init cfg0) hist) orc op).1.snaps (keyOf op) = some sn ∧
      IsChain (runOps (init cfg0) hist).snaps sn.parent ch ∧ m = mountSpec sn (ch.map (·.id)) := by
  obtain ⟨key, ck, sn, pids, ha⟩ := runOp_mounts h
  obtain ⟨hf, ps, hps, rfl⟩ := ha.record (inv_hist cfg0 hist)
  refine ⟨sn, ps, ?_, chain_isChain _ _ _ hps, (mountsPlan_result ha.answer).1⟩
  rcases ha.call with ⟨l, rfl⟩ | ⟨l, rfl⟩ | ⟨rfl, rfl⟩ <;> exact hf

/-- the `lowerdir=` option is exactly that chain, and it is never empty -/
theorem overlay_lowerdir_is_chain (sn : Snap) (pids : List Nat) (up : Option Nat) (lower : List Nat)
    (h : mountSpec sn pids = .overlay up lower) : lower = pids ∧ pids ≠ [] :=
  mountSpec_overlay h

/-- the parent chain of every live snapshot exists (no dangling parent link, the walk terminates) -/
theorem parent_chain_total (cfg0 : Config) (s : State) (h : Reachable cfg0 s) (sn : Snap) (hsn : sn ∈ s.snaps) :
    ∃ ch, chainOf s sn.key = some ch ∧ IsChain s.snaps sn.key ch := by
  have hinv := inv_reachable h
  apply chainOf_total hinv
  right
  exact hasKey_true.mpr ⟨sn, hinv.findKey_of_mem hsn⟩

/-- A backend mount is released only after its snapshot has been removed, or while closing:
at every Unmount step of every call other than Close, no live snapshot owns that directory. -/
theorem unmount_only_after_removed_or_close (cfg0 : Config) (hist : List (Op × Oracle)) (orc : Oracle) (op : Op)
    (pre post : List Step) (n : Nat) (ok : Bool)
    (hsplit : (plan (runOps (init cfg0) hist) orc op).1 = pre ++ .fsUnmount (.id n) ok :: post) :
    (∃ order, op = .close order) ∨
    ∀ a ∈ (applySteps (runOps (init cfg0) hist) pre).snaps, a.id ≠ n := by
  rcases (plan_split (inv_hist cfg0 hist) hsplit).safe with h | h
  · exact Or.inl (closingOf_eq_true h)
  · exact Or.inr (liveDir_id.mp h)

/-- ... and always before its directory is deleted: at every RemoveAll step the directory carries
no backend mount any more. -/
theorem unmount_before_rmdir (cfg0 : Config) (hist : List (Op × Oracle)) (orc : Oracle) (op : Op)
    (pre post : List Step) (d : Dir)
    (hsplit : (plan (runOps (init cfg0) hist) orc op).1 = pre ++ .rmdir d :: post) :
    ∀ n, d = .id n → n ∉ (applySteps (runOps (init cfg0) hist) pre).mounts :=
  (plan_split (inv_hist cfg0 hist) hsplit).ok

/-- A directory is deleted only if no live snapshot owns it — or, during Close, if it belongs to a
remote snapshot (whose directory restore recreates). -/
theorem rmdir_only_orphans_or_close (cfg0 : Config) (hist : List (Op × Oracle)) (orc : Oracle) (op : Op)
    (pre post : List Step) (d : Dir)
    (hsplit : (plan (runOps (init cfg0) hist) orc op).1 = pre ++ .rmdir d :: post) :
    liveDir (applySteps (runOps (init cfg0) hist) pre).snaps d = false ∨
    ((∃ order, op = .close order) ∧ remoteDir (applySteps (runOps (init cfg0) hist) pre).snaps d = true) := by
  rcases (plan_split (inv_hist cfg0 hist) hsplit).safe with h | ⟨hc, h⟩
  · exact Or.inl h
  · exact Or.inr ⟨closingOf_eq_true hc, h⟩

/-- The outcomes C08 allows for a `Prepare` whose labels name the target `target`. -/
def PrepareOutcome (s s' : State) (r : Res) (key target : String) (labels : Labels) : Prop :=
  -- AlreadyExists and the target is a committed snapshot; if this call created it, it carries the
  -- caller's labels plus the remote label, has exactly one live backend mount on its (existing)
  -- directory, and the active key has been consumed
  (r = .err .exists ∧ ∃ t, findKey s'.snaps target = some t ∧ t.kind = .committed ∧
      (hasKey s.snaps target = false →
        t.labels = lset labels remoteLabel remoteVal ∧ isRemote t.labels = true ∧
        s'.mounts.count t.id = 1 ∧ Dir.id t.id ∈ s'.dirs ∧ hasKey s'.snaps key = false)) ∨
  -- AlreadyExists of the key itself (createSnapshot): nothing changed
  (r = .err .exists ∧ hasKey s.snaps key = true ∧ s'.snaps = s.snaps) ∨
  -- fallback: an ordinary active snapshot with exactly the caller's labels, no backend mount,
  -- nothing newly committed
  (∃ m, r = .mounts m ∧ ∃ a, findKey s'.snaps key = some a ∧ a.kind = .active ∧ a.labels = labels ∧
      a.id ∉ s'.mounts ∧ committedOf s'.snaps = committedOf s.snaps) ∨
  -- any other error: no new committed snapshot
  (∃ e, r = .err e ∧ e ≠ .exists ∧ committedOf s'.snaps = committedOf s.snaps)

private theorem prepare_outcomes_aux (s : State) (hinv : Inv s) (hopen : s.closed = false) (orc : Oracle)
    (key parent target : String) (labels : Labels)
    (ht : lget labels targetLabel = some target)
    (hne : target ≠ key)
    (hT : ∀ t, findKey s.snaps target = some t → t.kind = .committed) :
    PrepareOutcome s (runOp s orc (.prepare key parent labels)).1 (runOp s orc (.prepare key parent labels)).2
      key target labels := by
  have hinv' := inv_runOp hinv orc (.prepare key parent labels)
  revert hinv'
  simp only [runOp, plan, hopen, Bool.false_eq_true, if_false]
  have hcase := preparePlan_cases s orc key parent labels
  generalize preparePlan s orc key parent labels = p at hcase ⊢
  have hcomm : ∀ {st1 sn pids}, createPlan s orc .active key parent labels = (st1, .ok (sn, pids)) →
      committedOf (applySteps s st1).snaps = committedOf s.snaps := fun he => by
    obtain ⟨ps, hcr⟩ := createPlan_ok he
    rw [hcr.snaps]; exact committedOf_insert (by rw [hcr.sn_eq]; simp)
  cases hcase with
  | @createFailed st1 e he =>
    intro _
    obtain ⟨h1, hex⟩ := createPlan_err he
    by_cases hx : e = .exists
    · subst hx
      exact Or.inr (Or.inl ⟨rfl, hex rfl, h1⟩)
    · exact Or.inr (Or.inr (Or.inr ⟨e, rfl, hx, by rw [h1]⟩))
  | noTarget _ ht' => rw [ht] at ht'; cases ht'
  | @mountFailed st1 sn pids _ he =>
    -- fall back to an ordinary snapshot: the failed Mount and the Check calls change nothing
    intro _
    obtain ⟨ps, hcr⟩ := createPlan_ok he
    have hstate : applySteps s (st1 ++ Step.fsMount sn.id labels false ::
        (mountsPlan (applySteps s st1) orc sn pids parent).1) = applySteps s st1 := by
      rw [applySteps_append, applySteps_cons]
      exact mountsPlan_state
    simp only [hstate]
    rcases mountsPlan_res_cases (applySteps s st1) orc sn pids parent with ⟨m, hr⟩ | hr <;> rw [hr]
    · refine Or.inr (Or.inr (Or.inl ⟨m, rfl, sn, createPlan_ok_findKey hinv he, ?_, ?_, ?_, hcomm he⟩))
      · rw [hcr.sn_eq]
      · rw [hcr.sn_eq]
      · rw [hcr.mounts]; exact hcr.notMounted hinv
    · exact Or.inr (Or.inr (Or.inr ⟨.unavailable, rfl, by simp, hcomm he⟩))
  | emptyTarget he =>
    -- `CommitActive` fails with a bolt error
    intro _
    refine Or.inr (Or.inr (Or.inr ⟨.other, rfl, by simp, ?_⟩))
    rw [applySteps_append]
    exact hcomm he
  | @targetExists st1 sn pids target' he ht' _ _ hhas =>
    intro _
    rw [ht] at ht'; cases ht'
    obtain ⟨ps, hcr⟩ := createPlan_ok he
    obtain ⟨t, hft⟩ := hasKey_true.mp hhas
    have hft' : findKey s.snaps target = some t := by
      rw [hcr.snaps, findKey_insertSnap_ne (by rw [hcr.sn_eq]; exact hne)] at hft; exact hft
    refine Or.inl ⟨rfl, t, by rw [applySteps_append]; exact hft, hT t hft', fun hno => ?_⟩
    exact absurd (findKey_some hft').2 (hasKey_false.mp hno t (findKey_some hft').1)
  | @internalCommit st1 sn pids target' he ht' _ _ hhas =>
    rw [ht] at ht'; cases ht'
    obtain ⟨ps, hcr⟩ := createPlan_ok he
    have hfk := createPlan_ok_findKey hinv he
    let t : Snap := { sn with key := target, kind := .committed, labels := lset labels remoteLabel remoteVal }
    have hfinal : applySteps s (st1 ++ [Step.fsMount sn.id labels true, Step.marker "prepare.mounted",
        Step.marker "commit.beforetx", Step.txCommitActive key target (lset labels remoteLabel remoteVal),
        Step.marker "prepare.targetcommitted"]) =
        { applySteps s st1 with mounts := sn.id :: s.mounts,
                                snaps := insertSnap t (removeKey (applySteps s st1).snaps key) } := by
      simp only [applySteps_append, applySteps_cons, applySteps_nil, applyStep, if_true, commitActive, hfk, hcr.mounts]
      rfl
    simp only [hfinal]
    intro hinv'
    have htmem : t ∈ insertSnap t (removeKey (applySteps s st1).snaps key) := mem_insertSnap.mpr (Or.inl rfl)
    refine Or.inl ⟨rfl, t, hinv'.findKey_of_mem htmem, rfl, fun _ => ⟨rfl, isRemote_lset _ _, ?_, hcr.dir, ?_⟩⟩
    · show (sn.id :: s.mounts).count sn.id = 1
      rw [List.count_cons_self, List.count_eq_zero.mpr (hcr.notMounted hinv)]
    · rw [hasKey_false]
      intro a ha
      rcases mem_insertSnap.mp ha with rfl | ha
      · exact hne
      · exact (mem_removeKey.mp ha).2

/-- the target label does not name an uncommitted snapshot (nor the key being prepared) -/
def TargetNotUncommitted (s : State) (key target : String) : Prop :=
  target ≠ key ∧ ∀ t, findKey s.snaps target = some t → t.kind = .committed

/-- Prepare with a target label, after ANY history and for ANY backend outcomes: it reports
AlreadyExists with the target committed — and, if this very call created it, labelled remote (the
caller's labels plus the remote label), with exactly one live backend mount on its existing
directory and the active key consumed — or AlreadyExists because the key exists (nothing changed),
or it falls back to an ordinary active snapshot with exactly the caller's labels and no backend
mount, or it fails leaving no new committed snapshot.
PARTIAL: needs `TargetNotUncommitted`; see `PrepareTargetOutcomesFull` / `prepare_target_outcomes_full_false`. -/
theorem prepare_target_outcomes_partial (cfg0 : Config) (hist : List (Op × Oracle)) (orc : Oracle)
    (key parent target : String) (labels : Labels)
    (ht : lget labels targetLabel = some target)
    (hT : TargetNotUncommitted (runOps (init cfg0) hist) key target) :
    PrepareOutcome (runOps (init cfg0) hist)
      (runOp (runOps (init cfg0) hist) orc (.prepare key parent labels)).1
      (runOp (runOps (init cfg0) hist) orc (.prepare key parent labels)).2 key target labels := by
  have hinv := inv_hist cfg0 hist
  generalize runOps (init cfg0) hist = s at hinv hT ⊢
  by_cases hcl : s.closed = true
  · -- the store is closed: the call fails without touching anything
    have : plan s orc (.prepare key parent labels) = ([], .err .other) := plan_closed hcl orc _ nofun
    simp only [runOp, this, applySteps_nil]
    exact Or.inr (Or.inr (Or.inr ⟨.other, rfl, by simp, rfl⟩))
  · exact prepare_outcomes_aux s hinv (by simpa using hcl) orc key parent target labels ht hT.1 hT.2

/-- the statement of C08 for Prepare without the extra hypothesis -/
def PrepareTargetOutcomesFull : Prop :=
  ∀ (cfg0 : Config) (hist : List (Op × Oracle)) (orc : Oracle) (key parent target : String) (labels : Labels),
    lget labels targetLabel = some target →
    PrepareOutcome (runOps (init cfg0) hist)
      (runOp (runOps (init cfg0) hist) orc (.prepare key parent labels)).1
      (runOp (runOps (init cfg0) hist) orc (.prepare key parent labels)).2 key target labels

/-- every backend call succeeds (`default : Oracle`) -/
def okOracle : Oracle := ⟨fun _ => true, fun _ => true, fun _ => true⟩

/-- The full statement is FALSE (known finding `prepare-exists-target-not-committed`, replayed on
the implementation by scenario S4 of the harness): `Prepare("a1")` then `Prepare("k2", target "a1")`
reports AlreadyExists although `a1` is an active snapshot. -/
theorem prepare_target_outcomes_full_false : ¬ PrepareTargetOutcomesFull := by
  intro h
  have h1 := h {} [(.prepare "a1" "" [], okOracle)] okOracle "k2" "" "a1" [(targetLabel, "a1")] (by decide)
  have hr : (runOp (runOps (init {}) [(.prepare "a1" "" [], okOracle)]) okOracle
      (.prepare "k2" "" [(targetLabel, "a1")])).2 = .err .exists := by decide
  have hf : findKey (runOp (runOps (init {}) [(.prepare "a1" "" [], okOracle)]) okOracle
      (.prepare "k2" "" [(targetLabel, "a1")])).1.snaps "a1" = some ⟨"a1", 1, .active, "", []⟩ := by decide
  have hk : hasKey (runOps (init {}) [(.prepare "a1" "" [], okOracle)]).snaps "k2" = false := by decide
  rcases h1 with ⟨_, t, h2, h3, _⟩ | ⟨_, h2, _⟩ | ⟨m, h2, _⟩ | ⟨e, h2, h3, _⟩
  · rw [hf] at h2
    cases h2
    cases h3
  · rw [hk] at h2; cases h2
  · rw [hr] at h2; cases h2
  · rw [hr] at h2
    cases h2
    exact h3 rfl

/-- After Cleanup the snapshot directories on disk are exactly those of live snapshots
(histories whose restarts restore; the model has no RemoveAll failures). -/
theorem cleanup_exact (cfg0 : Config) (hist : List (Op × Oracle)) (hro : RestoreOn hist) (orc : Oracle)
    (order : List Dir) (hopen : (runOps (init cfg0) hist).closed = false) :
    (runOp (runOps (init cfg0) hist) orc (.cleanup order)).2 = .ok ∧
    ∀ d, d ∈ (runOp (runOps (init cfg0) hist) orc (.cleanup order)).1.dirs ↔
      ∃ a ∈ (runOp (runOps (init cfg0) hist) orc (.cleanup order)).1.snaps, d = Dir.id a.id :=
  cleanup_exact_of_allDirs _ hopen ((qdirs_runOps (inv_init cfg0) (qdirs_init cfg0) hist hro).allDirs hopen) orc order

/-- The remote label appears only through the internal commit of a Prepare naming that target,
on a snapshot that carries a live backend mount: for every step of every call that does not set
the label itself, a snapshot that is remote after the step either was remote before it, or the step
is that commit. -/
theorem remote_label_only_via_prepare (cfg0 : Config) (hist : List (Op × Oracle)) (orc : Oracle) (op : Op)
    (hop : CleanOp op) (pre post : List Step) (st : Step)
    (hsplit : (plan (runOps (init cfg0) hist) orc op).1 = pre ++ st :: post)
    (a : Snap) (ha : a ∈ (applyStep (applySteps (runOps (init cfg0) hist) pre) st).snaps)
    (hr : isRemote a.labels = true) :
    (∃ b ∈ (applySteps (runOps (init cfg0) hist) pre).snaps, b.key = a.key ∧ b.id = a.id ∧ isRemote b.labels = true) ∨
    (∃ key lb, st = .txCommitActive key a.key lb ∧ targetOf op = some a.key ∧ a.kind = .committed ∧
       a.id ∈ (applySteps (runOps (init cfg0) hist) pre).mounts) :=
  remote_only_via_prepare (inv_hist cfg0 hist) hop hsplit ha hr

/-- ... hence, in histories whose calls do not set the label themselves, only committed snapshots
are ever remote — in every state a crash can expose. -/
theorem remote_snapshots_are_committed (cfg0 : Config) (s : State) (h : CleanReachable cfg0 s) :
    ∀ a ∈ s.snaps, isRemote a.labels = true → a.kind = .committed :=
  (cinv_reachable h).remoteCommitted

/-! ### concurrent callers: the interleaved semantics (`SV/Model/SnapConc.lean`)

`CReach {} cfg c`: `c` is reachable by ANY interleaving of the atomic steps of any number of
concurrent Prepare / View / Commit / Update / Remove / Cleanup calls, where only bolt's single writer
(a lock held from createSnapshot's `TransactionContext(ctx, true)` to its commit, and by every other
write transaction) restricts the schedule.  Assumption built into the semantics: no Remove(k) /
Commit(_, k) runs concurrently with a Prepare/View that is creating the same key k. -/

open SV.Snap.Conc

/-- a backend mount implies its directory, in every state of every interleaving -/
theorem mount_implies_dir_concurrent (cfg : Config) (c : CState) (h : CReach {} cfg c) :
    ∀ n ∈ c.s.mounts, Dir.id n ∈ c.s.dirs :=
  (cinvar_reachable h).inv.mountDir

/-- the directory of a live snapshot is never removed: in every state of every interleaving every
snapshot in the metadata has its directory (false if Cleanup scans under a read transaction:
`cleanupReadTx_breaks_invariant`) -/
theorem live_snapshot_dirs_never_removed_concurrent (cfg : Config) (c : CState) (h : CReach {} cfg c) :
    ∀ a ∈ c.s.snaps, Dir.id a.id ∈ c.s.dirs :=
  (cinvar_reachable h).allDirs

/-- whatever a cleanup loop in flight is still going to unmount / delete is owned by no live snapshot
(so in particular no directory of a live snapshot with a live mount is ever unmounted) -/
theorem unmount_only_after_removed_concurrent (cfg : Config) (c : CState) (h : CReach {} cfg c)
    (i : Nat) (ds : List Dir) (u : Bool) (hpc : c.th i = .clean ds u) :
    ∀ d ∈ ds, ∀ n, d = Dir.id n → ∀ a ∈ c.s.snaps, a.id ≠ n := by
  have := (cinvar_reachable h).tok i
  rw [hpc] at this
  intro d hd n hn
  have hdead := this.1 d hd
  rw [hn] at hdead
  exact hdead.2

/-- when a thread is about to `RemoveAll` a directory (it has called Unmount on it), the directory
carries no backend mount — whatever the other threads did in between -/
theorem unmount_before_rmdir_concurrent (cfg : Config) (c : CState) (h : CReach {} cfg c)
    (i : Nat) (d : Dir) (r : List Dir) (hpc : c.th i = .clean (d :: r) true) :
    ∀ n, d = Dir.id n → n ∉ c.s.mounts :=
  (show TOk c.s (.clean (d :: r) true) from hpc ▸ (cinvar_reachable h).tok i).headUnmounted

/-- the metadata invariant itself (distinct keys and ids, committed parents, …) and the writer
lock discipline hold in every interleaving -/
theorem invariant_concurrent (cfg : Config) (c : CState) (h : CReach {} cfg c) : CInvar c :=
  cinvar_reachable h

/-- at a quiescent state of a concurrent run (whatever happened before), one Cleanup leaves exactly
the directories of the live snapshots -/
theorem cleanup_exact_concurrent (cfg : Config) (c : CState) (h : CReach {} cfg c) (orc : Oracle) (order : List Dir) :
    (runOp c.s orc (.cleanup order)).2 = .ok ∧
    ∀ d, d ∈ (runOp c.s orc (.cleanup order)).1.dirs ↔ ∃ a ∈ (runOp c.s orc (.cleanup order)).1.snaps, d = Dir.id a.id :=
  cleanup_exact_of_allDirs c.s (closed_reachable h) (cinvar_reachable h).allDirs orc order

/-- The Prepare-with-target outcome under concurrency: when the internal commit of a Prepare that has
mounted its snapshot fires — after ANY interleaving with other calls — the target becomes a committed
snapshot with the caller's labels plus the remote label, it carries a live backend mount (exactly
one: the mount table has no duplicates) and its directory exists. -/
theorem prepare_target_commit_concurrent (cfg : Config) (c : CState) (h : CReach {} cfg c)
    (i : Nat) (T : String) (sn : Snap) (hpc : c.th i = .prepCommit T sn) (hok : commitOk c.s T sn.key) :
    ∃ t, findKey (applyStep c.s (.txCommitActive sn.key T (lset sn.labels remoteLabel remoteVal))).snaps T = some t ∧
      t.kind = .committed ∧ t.id = sn.id ∧ t.labels = lset sn.labels remoteLabel remoteVal ∧ isRemote t.labels = true ∧
      t.id ∈ (applyStep c.s (.txCommitActive sn.key T (lset sn.labels remoteLabel remoteVal))).mounts ∧
      (applyStep c.s (.txCommitActive sn.key T (lset sn.labels remoteLabel remoteVal))).mounts.Nodup ∧
      Dir.id t.id ∈ (applyStep c.s (.txCommitActive sn.key T (lset sn.labels remoteLabel remoteVal))).dirs := by
  have hci := cinvar_reachable h
  have htok := hci.tok i
  rw [hpc] at htok
  obtain ⟨⟨a, ha, hai, hak⟩, hm⟩ := htok
  have hstep := (commitOk_iff (lb := lset sn.labels remoteLabel remoteVal)).mp hok
  obtain ⟨_, _, sn0, hf0, _⟩ := hok
  have hsn0 := findKey_some hf0
  have ha0 : a = sn0 := hci.inv.keyInj ha hsn0.1 (by rw [hak, hsn0.2])
  have hinv' := inv_step hci.inv hstep
  have had' : AllDirs (applyStep c.s (.txCommitActive sn.key T (lset sn.labels remoteLabel remoteVal))) :=
    allDirs_step hci.allDirs (st := .txCommitActive sn.key T (lset sn.labels remoteLabel remoteVal)) trivial
  have hmem : ({ sn0 with key := T, kind := .committed, labels := lset sn.labels remoteLabel remoteVal } : Snap) ∈
      (applyStep c.s (.txCommitActive sn.key T (lset sn.labels remoteLabel remoteVal))).snaps := by
    simp only [applyStep, commitActive, hf0]
    exact mem_insertSnap.mpr (Or.inl rfl)
  refine ⟨_, hinv'.findKey_of_mem hmem, rfl, by rw [← ha0]; exact hai, rfl, isRemote_lset _ _, ?_, hinv'.mountNodup, ?_⟩
  · show sn0.id ∈ c.s.mounts
    rw [← ha0, hai]; exact hm
  · exact had' _ hmem

/-! #### Cleanup under a read transaction: a model-level counterexample

With `cleanupReadTx` (Cleanup scans the directories under a READ transaction, i.e. without the writer
lock) the invariant FAILS: Prepare("k") renames its directory, the concurrent Cleanup scans (directory 1
on disk, no id 1 in the metadata), unmounts and deletes it, Prepare commits. -/

def raceOp : Op := .prepare "k" "" []

def raceSnap : Snap := ⟨"k", 1, .active, "", []⟩

def race0 : CState := cinit {}

def race1 : CState := { race0 with th := setPc race0.th 0 (.idle raceOp), orc := fun j => if j = 0 then okOracle else race0.orc j }

def race2 : CState := { race1 with th := setPc race1.th 1 (.idle (.cleanup [])), orc := fun j => if j = 1 then okOracle else race1.orc j }

def race3 : CState := { (race2.run 0 (.mkTemp race2.tmp) (.crRename none race2.tmp raceSnap)) with tmp := race2.tmp + 1 }

def race4 : CState := race3.run 0 (.rename 0 1) (.crCommit none raceSnap)

def race5 : CState := race4.goto 1 (.clean [Dir.id 1] false)

def race6 : CState := race5.run 1 (.fsUnmount (.id 1) true) (.clean [Dir.id 1] true)

def race7 : CState := race6.run 1 (.rmdir (.id 1)) (.clean [] false)

def race8 : CState := race7.run 0 (.txCreate raceSnap) .done

theorem race_reachable : CReach { cleanupReadTx := true } {} race8 := by
  have s1 : CStep { cleanupReadTx := true } race0 race1 :=
    CStep.spawn race0 0 raceOp okOracle rfl (by intro j; constructor <;> intro k _ <;> simp [race0, cinit, PC.consumes, PC.ownKey])
  have s2 : CStep { cleanupReadTx := true } race1 race2 :=
    CStep.spawn race1 1 (.cleanup []) okOracle rfl (by intro j; constructor <;> intro k hk <;> simp [PC.consumes, PC.ownKey] at hk)
  have s3 : CStep { cleanupReadTx := true } race2 race3 :=
    CStep.createBegin race2 0 .active "k" "" [] rfl (by decide)
      (by
        intro j
        simp only [race2, race1, race0, cinit, setPc]
        split
        · rfl
        · split <;> rfl)
      ⟨⟨[], rfl, rfl⟩, by decide⟩
  have s4 : CStep { cleanupReadTx := true } race3 race4 := CStep.rename race3 0 none 0 raceSnap rfl
  have s5 : CStep { cleanupReadTx := true } race4 race5 :=
    CStep.cleanupScan race4 1 [] rfl (by intro hf; cases hf)
  have s6 : CStep { cleanupReadTx := true } race5 race6 := CStep.cleanUnmount race5 1 (.id 1) [] rfl
  have s7 : CStep { cleanupReadTx := true } race6 race7 := CStep.cleanRmdir race6 1 (.id 1) [] rfl
  have s8 : CStep { cleanupReadTx := true } race7 race8 := CStep.createCommit race7 0 none raceSnap rfl
  exact .step (.step (.step (.step (.step (.step (.step (.step .init s1) s2) s3) s4) s5) s6) s7) s8

/-- ... and in the state reached the live snapshot "k" has no directory: the invariant (and
`live_snapshot_dirs_never_removed_concurrent`) is false for the `cleanupReadTx` variant. -/
theorem cleanupReadTx_breaks_invariant :
    ∃ c, CReach { cleanupReadTx := true } {} c ∧ (∃ a ∈ c.s.snaps, Dir.id a.id ∉ c.s.dirs) ∧ ¬ CInvar c := by
  have hbad : ∃ a ∈ race8.s.snaps, Dir.id a.id ∉ race8.s.dirs := ⟨raceSnap, by decide, by decide⟩
  refine ⟨race8, race_reachable, hbad, ?_⟩
  intro hinv
  obtain ⟨a, ha, hd⟩ := hbad
  exact hd (hinv.allDirs a ha)

/-- layer c1 prepared remotely, a container on top of it -/
def demoHist : List (Op × Oracle) :=
  [(.prepare "k1" "" [(targetLabel, "c1")], okOracle), (.prepare "k2" "c1" [], okOracle)]

example : RestoreOn demoHist := by
  intro p hp cfg h
  simp [demoHist] at hp
  rcases hp with rfl | rfl <;> cases h
example : CleanHist demoHist := by
  intro p hp
  simp [demoHist] at hp
  rcases hp with rfl | rfl <;> (show isRemote _ = false; decide)
example : (runOps (init {}) demoHist).closed = false := rfl
example : TargetNotUncommitted (runOps (init {}) demoHist) "k3" "c3" := by
  refine ⟨by decide, ?_⟩
  intro t h
  have : findKey (runOps (init {}) demoHist).snaps "c3" = none := rfl
  rw [this] at h; cases h
-- the created-by-this-call outcome really occurs: remote, mounted once, key consumed
example : (runOp (runOps (init {}) demoHist) okOracle (.prepare "k3" "c1" [(targetLabel, "c3")])).2 = .err .exists := rfl
example : (runOp (runOps (init {}) demoHist) okOracle (.prepare "k3" "c1" [(targetLabel, "c3")])).1.mounts = [3, 1] := rfl
-- and the fallback outcome when the backend Mount fails
example : (runOp (runOps (init {}) demoHist) ⟨fun _ => false, fun _ => true, fun _ => true⟩
    (.prepare "k3" "c1" [(targetLabel, "c3")])).2 = .mounts (.overlay (some 3) [1]) := rfl
-- a failing Check of the remote parent makes Mounts unavailable
example : (runOp (runOps (init {}) demoHist) ⟨fun _ => true, fun _ => false, fun _ => true⟩ (.mounts "k2")).2
    = .err .unavailable := rfl
example : (runOp (runOps (init {}) demoHist) okOracle (.mounts "k2")).2 = .mounts (.overlay (some 2) [1]) := rfl
-- an Unmount step exists in a plan (sync removal), so the trace theorems are not vacuous
example : (plan (runOps (init {}) demoHist) okOracle (.remove "k2" [])).1 =
    [.txRemove "k2", .marker "remove.txcommitted", .fsUnmount (.id 2) true, .marker "cleanupdir.unmounted",
     .rmdir (.id 2), .marker "cleanupdir.removed"] := rfl

end SV.Props.C08
