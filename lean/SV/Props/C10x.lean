/-
C10x — no revival (what is excluded: a value still HELD when its ttl fired being put back into
the cache by a later Get/Add, without a membership reference).  For ALL histories (every order of
Add/Get/Remove/timer expiry/done):

  * expiry vacates the key whether or not the value is held: the next Get misses, the next Add stores
    and returns the NEW value;
  * a value that has left the cache - for whichever reason, held or not - never becomes a member
    again, so no later Get/Add hands it out as the cached value (Get/Add hand out members only);
  * hence a value held across its expiry is finalised exactly when its last holder lets go, and
    stays finalised exactly once for the rest of every history.
-/
import SV.Lemmas.RefcountMono
import SV.Props.C10

namespace SV.Props.C10x
open SV.Refcount

/-- The timer function (and Remove) vacates the key, whatever the history before and whoever holds
the value. -/
theorem ttl_expire_vacates (ops : List TOp) (k : Nat) :
    (TTL.run (ops ++ [.expire k])).m k = none ∧ (TTL.run (ops ++ [.remove k])).m k = none := by
  rw [TTL.run_append, TTL.run_append]
  exact ⟨TTL.evictLocked_none_self _ k, TTL.evictLocked_none_self _ k⟩

/-- After an expiry the next Get of the key misses and the next Add stores and returns the new
payload (`added = true`) - also when the expired value is still held. -/
theorem ttl_after_expire_get_misses_add_adds (ops : List TOp) (k v : Nat) :
    ((TTL.run (ops ++ [.expire k])).get k).2 = .miss ∧
    ∃ tok, ((TTL.run (ops ++ [.expire k])).add k v).2 = .got v tok true := by
  have h := (ttl_expire_vacates ops k).1
  exact ⟨by rw [TTL.get_vacant h], _, by rw [TTL.add_vacant v h]⟩

/-- Get and Add hand out members only: the closure they return belongs to the refCounter the map
holds under the key after the operation. -/
theorem ttl_handed_out_is_member (ops : List TOp) (k v tok val : Nat) (flag : Bool) :
    (((TTL.run ops).get k).2 = .got val tok flag →
      ∃ id, ((TTL.run ops).get k).1.m k = some id ∧ ((TTL.run ops).get k).1.core.toks[tok]? = some { rc := id }) ∧
    (((TTL.run ops).add k v).2 = .got val tok flag →
      ∃ id, ((TTL.run ops).add k v).1.m k = some id ∧ ((TTL.run ops).add k v).1.core.toks[tok]? = some { rc := id }) := by
  cases hm : (TTL.run ops).m k with
  | none =>
    rw [TTL.get_vacant hm, TTL.add_vacant v hm]
    refine ⟨fun h => (nomatch h), fun h => ?_⟩
    cases h
    exact ⟨_, if_pos rfl, List.getElem?_concat_length⟩
  | some id =>
    rw [TTL.get_cached hm, TTL.add_cached v hm]
    constructor <;>
    · intro h
      cases h
      exact ⟨id, hm, List.getElem?_concat_length⟩

/-- No revival: a value that is not a member after `ops` (expired, removed, evicted by a release -
held or not) is not a member after any continuation `ops ++ ops'`; it keeps its key and payload. -/
theorem ttl_no_revival (ops ops' : List TOp) (id : Nat) (r : RC)
    (hr : (TTL.run ops).core.rcs[id]? = some r) (hout : ¬ (TTL.run ops).member id r) :
    ∃ r', (TTL.run (ops ++ ops')).core.rcs[id]? = some r' ∧ r'.key = r.key ∧ r'.val = r.val ∧
      ¬ (TTL.run (ops ++ ops')).member id r' := by
  have hf : r.finDone = true := by
    cases hfd : r.finDone with
    | true => rfl
    | false => exact absurd (((TInv.run ops).stores.mem_iff hr).mpr hfd) hout
  have hm := TTL.foldl_mono ops' (TTL.run ops) id r hr
  rw [← TTL.run_append] at hm
  obtain ⟨r', hr', hk, hv, hfd⟩ := hm
  refine ⟨r', hr', hk, hv, fun hmem => ?_⟩
  have := ((TInv.run (ops ++ ops')).stores.mem_iff hr').mp hmem
  rw [hfd hf] at this
  cases this

/-- A value held across its expiry: once its last holder has let go it is finalised exactly once,
and that stays so whatever happens afterwards (no second callback by a later Get/release). -/
theorem ttl_departed_finalised_once_forever (ops ops' : List TOp) (id : Nat) (r : RC)
    (hr : (TTL.run ops).core.rcs[id]? = some r) (hout : ¬ (TTL.run ops).member id r) :
    ∃ r', (TTL.run (ops ++ ops')).core.rcs[id]? = some r' ∧ r'.calls ≤ 1 ∧
      (r'.calls = 1 ↔ held (TTL.run (ops ++ ops')).core.toks id = 0) := by
  obtain ⟨r', hr', _, _, hnm⟩ := ttl_no_revival ops ops' id r hr hout
  refine ⟨r', hr', SV.Props.C10.ttl_callback_at_most_once _ id r' hr', ?_⟩
  rw [SV.Props.C10.ttl_callback_iff_dead _ id r' hr']
  exact ⟨fun h => h.2, fun h => ⟨hnm, h⟩⟩

/-- Non-vacuity: value 0 of key 7 is held (token 0) when its ttl fires; a Get then misses, an Add
stores a new value; after the holder's release the old value is finalised once, the new one not. -/
example :
    let s := TTL.run [.add 7 100, .expire 7, .get 7, .add 7 200, .done 0 false, .get 7]
    s.m 7 = some 1 ∧ (s.core.rcs.map (·.calls)) = [1, 0] ∧ held s.core.toks 1 = 2 := by
  decide

end SV.Props.C10x
