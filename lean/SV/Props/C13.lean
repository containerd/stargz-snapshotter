/-
C13 — Background tasks yield to prioritized work, stay bounded, never self-overlap.

All theorems quantify over `Reachable cap n s`: every state reached from `init cap n` (manager of capacity `cap`, `n`
concurrent `InvokeBackgroundTask` calls) by ANY finite sequence of protocol events, i.e. every
interleaving of any number of prioritized begin/end pairs, delayed decrements, and steps of the
invocations and of their bodies (bodies return whenever they like: `bodyReturns` is just another
event, so "arbitrary duration / arbitrarily late reaction to the cancellation" is covered).

`step` is the code as it is (commit 2a04ad3: `case <-ch: cancel(); <-done; return false`).
`stepBuggy` is the code before that commit, for which the theorems fail (`buggy_*`).
-/
import SV.Lemmas.Task

namespace SV.Props.C13
open SV.Task

/-- The start decision is taken only with `prioritizedTasks = 0` (no prioritized task in progress
or inside its silence period); the body it spawns watches the notify channel of the current epoch
and its context is not cancelled. -/
theorem start_only_when_quiet {cap n : Nat} {s s' : State} {i : Nat}
    (_hr : Reachable cap n s) (h : step s (.inv i .decideStart) = some s') :
    s.prio = 0 ∧ ∃ v', s'.invs[i]? = some v' ∧ v'.pc = .running s.epoch ∧ v'.cur = true ∧
      v'.cancelled = false := by
  obtain @⟨_, _, v, sf, v', hv, hl⟩ := step_cases h
  simp only [localStep] at hl
  split at hl <;> cases hl
  exact ⟨(‹_ ∧ _› : _ ∧ s.prio = 0).2, _, getElem?_set_of_some _ hv, rfl, rfl, rfl⟩

/-- Whatever the event: if it makes the number of alive bodies of some invocation grow, the event
is that invocation's start decision and it is taken with `prioritizedTasks = 0`. -/
theorem body_started_only_by_quiet_decide {cap n : Nat} {s s' : State} {e : Event} {i : Nat}
    {v v' : Invo} (_hr : Reachable cap n s) (h : step s e = some s')
    (hv : s.invs[i]? = some v) (hv' : s'.invs[i]? = some v') (hgrow : v.aliveN < v'.aliveN) :
    e = .inv i .decideStart ∧ s.prio = 0 := by
  by_cases he : ∃ a, e = .inv i a
  · obtain ⟨a, rfl⟩ := he
    obtain @⟨_, _, w, sf, w', hw, hl⟩ := step_cases h
    cases hw.symm.trans hv
    cases (getElem?_set_of_some w' hv).symm.trans hv'
    rcases (localStep_spec hl (_hr.wf.good hv)).2.2.2 with h | ⟨rfl, h2⟩
    · omega
    · exact ⟨rfl, h2⟩
  · cases ((step_getElem?_ne (fun a ha => he ⟨a, ha⟩) h).symm.trans hv').symm.trans hv
    exact absurd hgrow (Nat.lt_irrefl _)

/-- A body that has been started and not yet been told to stop was started in a quiet moment and
no prioritized task has begun since: while any prioritized task is in progress or in its silence
period, every such body watches an OLD notify channel, i.e. its cancellation is pending. -/
theorem running_while_prio_is_stale {cap n : Nat} {s : State} {i e0 : Nat} {v : Invo}
    (hr : Reachable cap n s) (hv : s.invs[i]? = some v) (hpc : v.pc = .running e0) :
    e0 ≤ s.epoch ∧ (0 < s.prio → e0 < s.epoch) := by
  have hg := hr.wf.good hv
  unfold Good at hg
  rw [hpc] at hg
  obtain ⟨_, h1, h2, _⟩ := hg
  refine ⟨h1, fun hp => ?_⟩
  rcases Nat.lt_or_ge e0 s.epoch with h | h
  · exact h
  · have := h2 (by omega); omega

/-- If a body is running (started, not yet cancelled, `select` pending) when `DoPrioritizedTask`
happens, then in the state right after it `observeNotify` (the `<-ch` branch with `cancel()`) is
enabled for its invocation, and taking it leaves the invocation WAITING for that body
(`cancelling`) with the body's context cancelled and the set of alive bodies unchanged.
The step stays enabled as long as the invocation has not left `running` (second part). -/
theorem running_bodies_cancelled_on_prio {cap n : Nat} {s s1 : State} {i e0 : Nat} {v : Invo}
    (hr : Reachable cap n s) (hv : s.invs[i]? = some v) (hpc : v.pc = .running e0)
    (hd : step s .doPrio = some s1) :
    (∃ s2 v2, step s1 (.inv i .observeNotify) = some s2 ∧ s2.invs[i]? = some v2 ∧
        v2.pc = .cancelling ∧ v2.cancelled = true ∧ v2.cur = v.cur ∧ v2.orphans = v.orphans) ∧
    (∀ t w, Reachable cap n t → t.invs[i]? = some w → w.pc = .running e0 → s1.epoch ≤ t.epoch →
        (step t (.inv i .observeNotify)).isSome) := by
  have hle := (running_while_prio_is_stale hr hv hpc).1
  cases hd
  constructor
  · have he : e0 < s.epoch + 1 := by omega
    refine ⟨{ s with prio := s.prio + 1, epoch := s.epoch + 1,
                     invs := s.invs.set i { v with pc := .cancelling, cancelled := true } },
      { v with pc := .cancelling, cancelled := true }, ?_, getElem?_set_of_some _ hv, rfl, rfl, rfl, rfl⟩
    simp [step, stepGen, hv, localStep, hpc, he]
  · intro t w _ hw hwpc hep
    apply step_inv_isSome hw
    have : e0 < t.epoch := Nat.lt_of_lt_of_le (Nat.lt_succ_of_le hle) hep
    simp [localStep, hwpc, this]

/-- While the invocation waits for a cancelled body the body's context IS cancelled, and the
invocation leaves that state only after the body has returned. -/
theorem cancelling_means_ctx_cancelled {cap n : Nat} {s : State} {i : Nat} {v : Invo}
    (hr : Reachable cap n s) (hv : s.invs[i]? = some v) (hpc : v.pc = .cancelling) :
    v.cancelled = true ∧
    ∀ a s', step s (.inv i a) = some s' → v.cur = true → a = .bodyReturns := by
  have hg := hr.wf.good hv
  obtain ⟨pc, cur, orph, canc⟩ := v
  obtain rfl : pc = .cancelling := hpc
  refine ⟨hg.2, fun a s' h hcur => ?_⟩
  obtain rfl : cur = true := hcur
  obtain rfl : orph = 0 := hg.1
  obtain @⟨_, _, w, sf, v', hw, hl⟩ := step_cases h
  cases hw.symm.trans hv
  cases a <;> simp [localStep] at hl
  rfl

/-- Semaphore accounting: free slots + invocations holding one = capacity. -/
theorem sem_bound {cap n : Nat} {s : State} (hr : Reachable cap n s) :
    s.semFree + holders s = cap ∧ holders s ≤ cap := by
  have := hr.wf.2.1
  rw [hr.cap_eq] at this
  exact ⟨this, by omega⟩

/-- At most `cap` bodies are alive at any time (alive = spawned and `do(ctx)` not yet returned). -/
theorem alive_bodies_bounded {cap n : Nat} {s : State} (hr : Reachable cap n s) :
    aliveTotal s ≤ cap := by
  have := (wf_safe hr.wf).1
  rw [hr.cap_eq] at this
  exact this

/-- Two executions of the same invoked task never overlap: every invocation has at most one
alive body, and no body of an earlier execution survives (`orphans = 0`). -/
theorem no_self_overlap {cap n : Nat} {s : State} (hr : Reachable cap n s) :
    ∀ v ∈ s.invs, v.aliveN ≤ 1 ∧ v.orphans = 0 := by
  intro v hv
  exact ⟨((wf_safe hr.wf).2 v hv).1, (hr.wf.2.2 v hv).1⟩

/-- No body of an invocation is alive once the invocation has returned - nor at any other moment
at which it does not hold a semaphore slot (before the retry, while waiting, ...). -/
theorem none_alive_at_return {cap n : Nat} {s : State} (hr : Reachable cap n s) :
    ∀ v ∈ s.invs, (v.pc = .returned ∨ v.pc = .finished ∨ holds v.pc = false) → v.aliveN = 0 := by
  intro v hv h
  apply ((wf_safe hr.wf).2 v hv).2
  rcases h with h | h | h
  · rw [h]; rfl
  · rw [h]; rfl
  · exact h

theorem progress_variant {cap n : Nat} {s s' : State} {e : Event} (hr : Reachable cap n s)
    (he : e ≠ .doPrio) (h : step s e = some s') : mu s' < mu s :=
  mu_step hr.wf he h

/-- Until every invocation has returned, some event other than `doPrio` is enabled: either a
prioritized task can end / its silence period can elapse, or an invocation can move, or a body can
return.  (Capacity 0 would block `Acquire` forever, hence `0 < cap`.) -/
theorem progress_no_deadlock {cap n : Nat} {s : State} (hr : Reachable cap n s) (hcap : 0 < cap)
    (hstuck : ∀ e, e ≠ Event.doPrio → step s e = none) : AllReturned s := by
  apply Classical.byContradiction
  intro hall
  obtain ⟨e, he, hsome⟩ := some_event_enabled hr.wf (hr.cap_eq ▸ hcap) hall
  rw [hstuck e he] at hsome
  cases hsome

/-- FAIRNESS ASSUMPTION, stated explicitly: (1) from some point on no further `doPrio` occurs
("prioritized work stops"); (2) the execution does not stop while an event other than `doPrio` is
enabled - which includes that started prioritized tasks end (`donePrio`), that the sleeping
decrement goroutine is scheduled (`silenceElapsed`), that `sync.Cond`/semaphore/channel wake-ups
are delivered, and that every body eventually returns (`bodyReturns`).
Under it every invoked task completes: a `doPrio`-free continuation `es` of ANY reachable state has
at most `mu s` events, and when it cannot be continued every invocation has returned. -/
theorem progress {cap n : Nat} {s s' : State} {es : List Event} (hr : Reachable cap n s)
    (hcap : 0 < cap) (hno : Event.doPrio ∉ es) (h : run s es = some s') :
    es.length ≤ mu s ∧ ((∀ e, e ≠ Event.doPrio → step s' e = none) → AllReturned s') := by
  refine ⟨?_, ?_⟩
  · have := mu_run hr.wf hno h; omega
  · obtain ⟨es0, h0⟩ := hr
    exact progress_no_deadlock ⟨es0 ++ es, by rw [run_append h0]; exact h⟩ hcap

/-- ... and such a completing continuation exists from every reachable state. -/
theorem progress_completes {cap n : Nat} (hcap : 0 < cap) :
    ∀ (k : Nat) (s : State), Reachable cap n s → mu s ≤ k →
      ∃ es s', Event.doPrio ∉ es ∧ run s es = some s' ∧ AllReturned s' := by
  intro k
  induction k with
  | zero =>
    intro s hr hk
    refine ⟨[], s, List.not_mem_nil, rfl, progress_no_deadlock hr hcap fun e he => ?_⟩
    cases h : step s e with
    | none => rfl
    | some s1 => have := mu_step hr.wf he h; omega
  | succ k ih =>
    intro s hr hk
    by_cases hall : AllReturned s
    · exact ⟨[], s, List.not_mem_nil, rfl, hall⟩
    · obtain ⟨e, he, hsome⟩ := some_event_enabled hr.wf (hr.cap_eq ▸ hcap) hall
      cases h : step s e with
      | none => rw [h] at hsome; cases hsome
      | some s1 =>
        have hlt := mu_step hr.wf he h
        obtain ⟨es, s', hno, hrun, hall'⟩ := ih s1 (hr.next h) (by omega)
        refine ⟨e :: es, s', fun hm => ?_, by rw [run_cons, h]; exact hrun, hall'⟩
        rcases List.mem_cons.mp hm with hm | hm
        · exact he hm.symm
        · exact hno hm

/-- One invocation on a manager of capacity 1: the body is started, a prioritized task begins,
the manager cancels and (old code) returns `false` WITHOUT waiting for the body; the prioritized
task ends, its silence period elapses, the retry starts a second body while the first still runs. -/
def buggyTrace : List Event :=
  [.inv 0 .passWait, .inv 0 .acquire, .inv 0 .decideStart, .doPrio, .inv 0 .observeNotify,
   .inv 0 .release, .donePrio, .silenceElapsed, .inv 0 .passWait, .inv 0 .acquire,
   .inv 0 .decideStart]

/-- ... the second body finishes, the invocation returns, the first body is still alive. -/
def buggyTraceReturn : List Event :=
  buggyTrace ++ [.inv 0 .bodyReturns, .inv 0 .observeDone, .inv 0 .release, .inv 0 .ret]

/-- For the old protocol `no_self_overlap` and `alive_bodies_bounded` are false:
two bodies of the same invocation alive at once, 2 > capacity 1. -/
theorem buggy_self_overlap_and_over_cap :
    ∃ s, runBuggy (init 1 1) buggyTrace = some s ∧
      (∃ v ∈ s.invs, v.aliveN = 2 ∧ v.orphans = 1) ∧ aliveTotal s = 2 ∧ s.cap = 1 :=
  exists_of_get (by decide) _ (by decide)

/-- For the old protocol `none_alive_at_return` is false. -/
theorem buggy_alive_at_return :
    ∃ s, runBuggy (init 1 1) buggyTraceReturn = some s ∧
      ∃ v ∈ s.invs, v.pc = .returned ∧ v.aliveN = 1 :=
  exists_of_get (by decide) _ (by decide)

/-- The repaired protocol does not admit that schedule: after `observeNotify` the invocation may
not release its slot before the body has returned. -/
theorem fixed_rejects_buggy_trace :
    run (init 1 1) buggyTrace = none ∧
    run (init 1 1) [.inv 0 .passWait, .inv 0 .acquire, .inv 0 .decideStart, .doPrio,
      .inv 0 .observeNotify, .inv 0 .release] = none ∧
    (run (init 1 1) [.inv 0 .passWait, .inv 0 .acquire, .inv 0 .decideStart, .doPrio,
      .inv 0 .observeNotify, .inv 0 .bodyReturns, .inv 0 .observeDoneAfterCancel,
      .inv 0 .release]).isSome = true := by
  decide

/-- capacity 2, three invocations: two bodies running, the third invocation blocked on the
semaphore, then a prioritized task begins. -/
def exTrace : List Event :=
  [.inv 0 .passWait, .inv 1 .passWait, .inv 2 .passWait, .inv 0 .acquire, .inv 1 .acquire,
   .inv 0 .decideStart, .inv 1 .decideStart, .doPrio]

example : Reachable 2 3 ((run (init 2 3) exTrace).get (by decide)) := ⟨exTrace, by decide⟩
-- the hypotheses of `running_bodies_cancelled_on_prio` are met with a body really running
example : ∃ s, run (init 2 3) exTrace.dropLast = some s ∧
    s.invs[1]? = some { pc := .running 0, cur := true } ∧ (step s .doPrio).isSome :=
  exists_of_get (by decide) _ (by decide)
-- the third invocation cannot acquire (bound is tight), a start decision is refused while prio > 0
example : ((run (init 2 3) exTrace).bind fun s => step s (.inv 2 .acquire)) = none := by decide
example : (run (init 2 3) (exTrace ++ [.inv 0 .observeNotify, .inv 0 .bodyReturns,
    .inv 0 .observeDoneAfterCancel, .inv 0 .release, .inv 2 .acquire, .inv 2 .decideStart])) = none := by
  decide
example : (run (init 2 3) (exTrace ++ [.inv 0 .observeNotify, .inv 0 .bodyReturns,
    .inv 0 .observeDoneAfterCancel, .inv 0 .release, .inv 2 .acquire, .inv 2 .decideBackoff,
    .inv 2 .release, .donePrio, .silenceElapsed, .inv 2 .passWait])).isSome = true := by decide
-- a complete run: every invocation returns
example : ∃ s, run (init 1 2) [.inv 0 .passWait, .inv 0 .acquire, .inv 0 .decideStart,
    .inv 1 .passWait, .inv 0 .bodyReturns, .inv 0 .observeDone, .inv 0 .release, .inv 0 .ret,
    .inv 1 .acquire, .inv 1 .decideStart, .inv 1 .bodyReturns, .inv 1 .observeDone,
    .inv 1 .release, .inv 1 .ret] = some s ∧ AllReturned s ∧ mu s = 0 :=
  exists_of_get (by decide) _ (by decide)
example : mu (init 2 3) = 24 := by decide

end SV.Props.C13
