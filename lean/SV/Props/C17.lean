/-
C17 — FUSE manager's persistent record equals its live mounts across re-init/restart.

The model is `SV/Model/FuseMgr.lean` (fusemanager/service.go + fusestore.go, current code: `Init`
becomes Ready only when a filesystem exists).  All theorems quantify over every operation history from a freshly
started manager (`Reachable`, `run {} ops`) and over every failure oracle (each `Op` carries its
own: the stage at which `Init` fails, which `fs.Mount` calls fail, whether `fs.Check` /
`fs.Unmount` fails, whether an unknown path is an OS mountpoint).
-/
import SV.Lemmas.FuseMgr

namespace SV.Props.C17
open SV.FuseMgr

/-- the bolt store has a record for `mp`. -/
def Recorded (s : St) (mp : Mp) : Prop := aget mp s.store ≠ none
/-- the manager serves `mp` (it is in `fsMap`). -/
def Served (s : St) (mp : Mp) : Prop := aget mp s.fsMap ≠ none

/-- Quiescent invariant, for every history and failure pattern: while the store is open, every
served mountpoint is recorded; a recorded mountpoint that is not served exists only if the last
`Init` of this manager process did not return ok (it reported the restore error, or none has run
since the process started); a manager that accepts requests has completed an `Init`. -/
theorem store_matches_serving (ops : List Op) :
    let s := run {} ops
    (s.closed = false →
      (∀ mp, Served s mp → Recorded s mp) ∧
      ((∃ mp, Recorded s mp ∧ ¬ Served s mp) → s.lastInit ≠ some .ok)) ∧
    (s.status = .ready → s.lastInit ≠ none) := by
  intro s
  have h : Inv s := inv_reachable ⟨ops, rfl⟩
  refine ⟨fun hcl => ⟨h.sub hcl, ?_⟩, fun hr => (h.ready_fs hr).2⟩
  rintro ⟨mp, hrec, hns⟩ hli
  exact hns (h.sup hcl hli mp hrec)

/-- The ghost `lastInit` really is the answer of the last `Init` since the process started:
`Init` sets it to its own result, a restart clears it, nothing else touches it. -/
theorem lastInit_is_last_init_result (s : St) (op : Op) :
    (step s op).st.lastInit =
      match op with
      | .init .. => some (step s op).resp
      | .restart => none
      | _ => s.lastInit := by
  cases op with
  | init c st fm => exact initWith_lastInit false s c st fm
  | restart => rfl
  | _ => refine step_frame (P := fun t => t.lastInit = s.lastInit) ?_ ?_ (fun _ _ _ _ _ => rfl) <;> nofun

/-- After any `Init` that returns ok the store and the served set are equal. -/
theorem init_ok_store_equals_serving (s : St) (hs : Reachable s) (cfg : Cfg) (stage : Stage)
    (failMp : Mp → Bool) (hok : (init s cfg stage failMp).resp = .ok) :
    ∀ mp, Recorded (init s cfg stage failMp).st mp ↔ Served (init s cfg stage failMp).st mp := by
  have h := inv_reachable hs
  obtain ⟨I, h'⟩ := init_spec cfg stage failMp h
  have hcl : (init s cfg stage failMp).st.closed = false := by rw [I.closed]; exact I.ok_open hok
  intro mp
  exact ⟨h'.sup hcl (by rw [I.lastInit, hok]) mp, h'.sub hcl mp⟩

/-- A mountpoint served before a re-`Init` (whatever its outcome) is still owned by the same
filesystem instance afterwards, that `Init` issues no `fs.Mount` for it, a successful
construction installs a different (fresh) instance as `curFs`, and subsequent `Check` / `Unmount`
requests for it go to the original owner. -/
theorem reinit_keeps_owner (s : St) (hs : Reachable s) (mp : Mp) (f : FsId)
    (hown : aget mp s.fsMap = some f) (cfg : Cfg) (stage : Stage) (failMp : Mp → Bool) :
    let o := init s cfg stage failMp
    aget mp o.st.fsMap = some f ∧ (f, mp) ∈ o.st.live ∧
    (∀ g lab ok, Call.mount g mp lab ok ∉ o.calls) ∧
    (stage = .ok → o.st.curFs = some s.nextFs ∧ f ≠ s.nextFs) ∧
    (∀ lab ok, (check o.st mp lab ok).calls = [.check f mp lab ok]) ∧
    (∀ ok os, (unmount o.st mp ok os).calls = [.unmount f mp ok]) := by
  intro o
  have h := inv_reachable hs
  obtain ⟨I, (h' : Inv o.st)⟩ := init_spec cfg stage failMp h
  have hown' : aget mp o.st.fsMap = some f := I.mono mp f hown
  have hcur : o.st.curFs ≠ none := h'.map_cur mp f hown'
  have hrdy : o.st.status = .ready := by
    rw [I.status]
    cases hc : o.st.curFs with
    | none => exact absurd hc hcur
    | some g => simp
  refine ⟨hown', (h'.live_iff f mp).mpr hown', ?_, ?_, ?_, ?_⟩
  · intro g lab ok hc
    cases hown.symm.trans (I.mount_unowned hc)
  · intro hst
    refine ⟨I.new_cur hst, ?_⟩
    have := h.map_lt mp f hown
    exact Nat.ne_of_lt this
  · intro lab ok
    simp [check, hrdy, hown']
  · intro ok os
    simp only [unmount, hrdy, hown']
    cases ok <;> simp

/-- Every `fs.Check` / `fs.Unmount` the manager ever issues goes to the instance that owns the
mountpoint, i.e. the one whose `fs.Mount` created the live mount. -/
theorem requests_go_to_owner (s : St) (hs : Reachable s) (op : Op) (g : FsId) (mp : Mp) :
    ((∃ lab ok, Call.check g mp lab ok ∈ (step s op).calls) ∨
      (∃ ok, Call.unmount g mp ok ∈ (step s op).calls)) →
    aget mp s.fsMap = some g ∧ (g, mp) ∈ s.live := by
  have h := inv_reachable hs
  intro hc
  suffices aget mp s.fsMap = some g from ⟨this, (h.live_iff g mp).mpr this⟩
  rcases hc with ⟨lab, ok, hc⟩ | ⟨ok, hc⟩
  · exact (step_spec h op).calls _ hc
  · exact (step_spec h op).calls _ hc

/-- No mountpoint is ever mounted a second time: every `fs.Mount` the manager issues (in `Mount`
or while restoring in `Init`, successful or not) is for a mountpoint that has no live mount on any
instance, and the backend never holds two live mounts of one mountpoint. -/
theorem never_mounted_twice (s : St) (hs : Reachable s) :
    (s.live.map Prod.snd).Nodup ∧
    ∀ op g mp lab ok, Call.mount g mp lab ok ∈ (step s op).calls →
      aget mp s.fsMap = none ∧ ∀ g', (g', mp) ∉ s.live := by
  have h := inv_reachable hs
  refine ⟨h.live_nodup, fun op g mp lab ok hc => ?_⟩
  have hn : aget mp s.fsMap = none := ((step_spec h op).calls _ hc).1
  refine ⟨hn, fun g' hg' => ?_⟩
  cases hn.symm.trans ((h.live_iff g' mp).mp hg')

/-- Ownership is created only by a successful `fs.Mount` on the owning instance … -/
theorem owner_is_mounter (s : St) (hs : Reachable s) (op : Op) (mp : Mp) (f : FsId)
    (hn : aget mp s.fsMap = none) (hown : aget mp (step s op).st.fsMap = some f) :
    ∃ lab, Call.mount f mp lab true ∈ (step s op).calls := by
  rcases (step_spec (inv_reachable hs) op).owner mp with e | ⟨g, lab, _, hg, hc⟩ | ⟨e, _⟩
  · cases hn.symm.trans (e.symm.trans hown)
  · cases hg.symm.trans hown
    exact ⟨lab, hc⟩
  · cases e.symm.trans hown

/-- … and ended only by a successful `fs.Unmount` on the owner (or by the death of the process):
under every other operation — in particular every `Init` — the owner stays the same. -/
theorem owner_stable (s : St) (hs : Reachable s) (op : Op) (mp : Mp) (f : FsId)
    (hown : aget mp s.fsMap = some f) :
    aget mp (step s op).st.fsMap = some f ∨ op = .restart ∨
    (∃ os, op = .unmount mp true os ∧ (step s op).calls = [.unmount f mp true] ∧
      aget mp (step s op).st.fsMap = none) := by
  rcases (step_spec (inv_reachable hs) op).owner mp with e | ⟨g, lab, hn, _⟩ | ⟨e, rfl | ⟨g, os, hg, rfl, hc⟩⟩
  · exact Or.inl (e.trans hown)
  · cases hn.symm.trans hown
  · exact Or.inr (Or.inl rfl)
  · cases hg.symm.trans hown
    exact Or.inr (Or.inr ⟨os, rfl, hc, e⟩)

/-- `curFs` changes only when `Init` constructs a filesystem (to that fresh instance) and when
the process restarts. -/
theorem curFs_changes_only_by_construction (s : St) (op : Op) :
    (step s op).st.curFs =
      match op with
      | .init _ .ok _ => some s.nextFs
      | .restart => none
      | _ => s.curFs := by
  cases op with
  | init c st fm =>
    cases st with
    | ok => exact initWith_ok_curFs false s c fm
    | _ => rfl
  | restart => rfl
  | _ => refine step_frame (P := fun t => t.curFs = s.curFs) ?_ ?_ (fun _ _ _ _ _ => rfl) <;> nofun

/-- Every `fs.Mount` goes to the filesystem that is current when the operation ends: for a
`Mount` request that is `curFs`, for a restoring `Init` it is the instance that very `Init`
constructed from the configuration it was given (fresh: no mountpoint is owned by it yet). -/
theorem new_mounts_use_cur (s : St) (hs : Reachable s) (op : Op) (g : FsId) (mp : Mp) (lab : Lab)
    (ok : Bool) (hc : Call.mount g mp lab ok ∈ (step s op).calls) :
    (step s op).st.curFs = some g ∧
    ((∃ m l k, op = .mount m l k ∧ s.curFs = some g) ∨
     (∃ cfg fm, op = .init cfg .ok fm ∧ g = s.nextFs ∧ aget g (step s op).st.fsCfg = some cfg ∧
        ∀ m, aget m s.fsMap ≠ some g)) := by
  have h := inv_reachable hs
  obtain ⟨_, ⟨l, k, rfl, hcur⟩ | ⟨cfg, fm, rfl, rfl⟩⟩ := (step_spec h op).calls _ hc
  · exact ⟨(curFs_changes_only_by_construction s (.mount mp l k)).trans hcur, Or.inl ⟨mp, l, k, rfl, hcur⟩⟩
  · have I := (init_spec cfg .ok fm h).1
    exact ⟨I.new_cur rfl, Or.inr ⟨cfg, fm, rfl, rfl, I.new_cfg rfl, fun m hm => Nat.lt_irrefl _ (h.map_lt m _ hm)⟩⟩

/-- Requests before a successful first initialisation fail — also after any number of FAILED
initialisations (config parse, configFunc or construction error), on a fresh manager as well as
after any restart: they return an error, call nothing and change nothing. -/
theorem not_ready_rejects (s0 : St) (hs0 : s0 = {} ∨ ∃ t, s0 = (restartManager t).st)
    (pre : List Op) (hpre : ∀ op ∈ pre, NoConstruct op) :
    let s := run s0 pre
    s.status ≠ .ready ∧
    (∀ mp lab ok, mount s mp lab ok = ⟨s, .err, []⟩) ∧
    (∀ mp lab ok, check s mp lab ok = ⟨s, .err, []⟩) ∧
    (∀ mp ok os, unmount s mp ok os = ⟨s, .err, []⟩) := by
  intro s
  have h0 : s0.curFs = none ∧ s0.status ≠ .ready := by
    rcases hs0 with rfl | ⟨t, rfl⟩ <;> simp [restartManager]
  have := (noconstruct_run pre s0 hpre h0.1 h0.2).2
  exact ⟨this, rejects_of_no_fs s this⟩

/-- After the manager process restarts on the kept store file — whatever requests and failed
`Init`s arrive first — the next `Init` either reports an error or mounts EVERY recorded
mountpoint, with its recorded labels, on the filesystem it has just constructed, and serves it
from that instance.  It never panics. -/
theorem restart_remounts_recorded (s : St) (hs : Reachable s) (pre : List Op)
    (hpre : ∀ op ∈ pre, Harmless op) (cfg : Cfg) (stage : Stage) (failMp : Mp → Bool) :
    let r := run (restartManager s).st pre
    let o := init r cfg stage failMp
    o.resp ≠ .panic ∧
    (o.resp = .ok → ∀ mp rec, aget mp s.store = some rec →
      Call.mount r.nextFs mp rec.labels true ∈ o.calls ∧
      aget mp o.st.fsMap = some r.nextFs ∧ (r.nextFs, mp) ∈ o.st.live ∧
      o.st.curFs = some r.nextFs ∧ Recorded o.st mp) := by
  intro r o
  have hr : Reachable r := reachable_run (reachable_run hs [.restart]) pre
  have h := inv_reachable hr
  obtain ⟨I, (h' : Inv o.st)⟩ := init_spec cfg stage failMp h
  obtain ⟨_, _, _, (H : r = _)⟩ := harmless_run pre (restartManager s).st hpre rfl
    (by simp [restartManager])
  have hstore : r.store = s.store := by rw [H]; rfl
  have hmap : r.fsMap = [] := by rw [H]; rfl
  refine ⟨I.nopanic, ?_⟩
  intro hok mp rec hrec
  obtain ⟨hcall, hown⟩ := I.remounted hok (hstore ▸ hrec) (by rw [hmap]; rfl)
  refine ⟨hcall, hown, (h'.live_iff _ _).mpr hown, I.new_cur (I.ok_stage hok), ?_⟩
  show aget mp o.st.store ≠ none
  rw [I.store, hstore, hrec]; simp

/-- Unmounting a mountpoint that is neither recorded nor mounted succeeds (and does nothing),
provided the path is not an OS mountpoint; with an open store "not recorded" already implies
"not mounted". -/
theorem unmount_unknown_ok (s : St) (hs : Reachable s) (hrdy : s.status = .ready) (mp : Mp)
    (hrec : ¬ Recorded s mp) (hserved : s.closed = true → ¬ Served s mp) (ok : Bool) :
    unmount s mp ok false = ⟨s, .ok, []⟩ := by
  have h := inv_reachable hs
  have hn : aget mp s.fsMap = none := by
    cases hcl : s.closed with
    | true => simpa [Served] using hserved hcl
    | false =>
      cases hm : aget mp s.fsMap with
      | none => rfl
      | some f => exact absurd (h.sub hcl mp (by simp [hm])) hrec
  simp [unmount, hrdy, hn]

/-- The current code never dereferences a nil filesystem or config: no operation of any history
panics. -/
theorem never_panics (s : St) (hs : Reachable s) (op : Op) : (step s op).resp ≠ .panic :=
  (step_spec (inv_reachable hs) op).nopanic

/-- The code before commit d17aed2 (`Init`'s defer sets Ready unconditionally): a FAILED first
`Init` (a configFunc error) leaves the manager Ready with a nil filesystem, and the next `Mount`
dereferences it — `not_ready_rejects` and `never_panics` are false for that variant.  The current
code answers the same request with an error. -/
theorem initBuggy_counterexample :
    let o := initBuggy {} 0 .cfgfunc (fun _ => false)
    o.resp = .err ∧ o.st.status = .ready ∧ o.st.curFs = none ∧
    (mount o.st 0 0 true).resp = .panic ∧
    (runWith true {} [.init 0 .cfgfunc (fun _ => false), .mount 0 0 true]).status = .ready ∧
    (mount (init {} 0 .cfgfunc (fun _ => false)).st 0 0 true) =
      ⟨(init {} 0 .cfgfunc (fun _ => false)).st, .err, []⟩ := by
  decide

/-- `store_matches_serving` is stated for an open store.  `Close` (NotReady, database closed,
file removed) is not terminal in the current code: a later `Init` on the same `Server` fails in
restore ("database not open") but finds `curFs` set and turns the manager Ready again; a `Mount`
is then served and `storeFuseInfo`'s error is ignored — a served mountpoint without a record. -/
theorem reinit_after_close_serves_unrecorded :
    let nofail : Mp → Bool := fun _ => false
    let s := run {} [.init 0 .ok nofail, .close, .init 1 .ok nofail, .mount 3 1 true]
    s.closed = true ∧ s.status = .ready ∧ s.lastInit = some .err ∧
    aget 3 s.fsMap = some 1 ∧ aget 3 s.store = none := by
  decide

/-- Observation (no theorem above depends on it): the `Config` field of a record is `fm.config`
at the time of the `Mount`, and a re-`Init` that fails in a configFunc (or in construction) has
already replaced `fm.config` while the filesystem built from the previous configuration keeps
serving — the record of a new mount then carries configuration 2 although its owner was built
from configuration 1.  (`restoreFuseInfo` never reads the field.) -/
theorem failed_reinit_records_new_config_on_old_fs :
    let nofail : Mp → Bool := fun _ => false
    let s := run {} [.init 1 .ok nofail, .init 2 .cfgfunc nofail, .mount 0 0 true]
    s.lastInit = some .err ∧ aget 0 s.fsMap = some 0 ∧ aget 0 s.fsCfg = some 1 ∧
    (aget 0 s.store).map (·.cfg) = some 2 := by
  decide

/-- A history with a failed first `Init`, a re-`Init` with live mounts, a failing restore after a
manager restart and a repaired one: reachable, open, Ready, four instances constructed, two of
them owning mounts at the end. -/
def demoOps : List Op :=
  [ .init 0 .construct (fun _ => false),          -- failed first Init
    .mount 1 0 true,                              -- rejected
    .init 1 .ok (fun _ => false),                 -- fs 0
    .mount 1 1 true, .mount 2 2 true,             -- owned by fs 0
    .init 2 .ok (fun _ => false),                 -- re-init: fs 1, nothing re-mounted
    .mount 3 0 true,                              -- owned by fs 1
    .unmount 2 false false,                       -- fs.Unmount fails: stays
    .restart,
    .init 3 .ok (fun mp => mp == 2),              -- fs 2: restore stops at mp 2
    .init 3 .ok (fun _ => false) ]                -- fs 3 picks up the rest

example : (run {} demoOps).status = .ready ∧ (run {} demoOps).closed = false ∧
    (run {} demoOps).fsMap = [(1, 2), (2, 3), (3, 3)] ∧
    (run {} demoOps).store.map Prod.fst = [1, 2, 3] ∧
    (run {} demoOps).lastInit = some .ok := by decide

example : Reachable (run {} demoOps) := ⟨demoOps, rfl⟩

-- hypotheses of `reinit_keeps_owner` / `owner_stable`: a served mountpoint before a re-init
example : aget 1 (run {} (demoOps.take 5)).fsMap = some 0 := by decide
-- the re-init leaves it with instance 0 although `curFs` becomes 1
example : aget 1 (run {} (demoOps.take 6)).fsMap = some 0 ∧ (run {} (demoOps.take 6)).curFs = some 1 := by
  decide
-- a state with a recorded but unserved mountpoint exists, and its last Init reported the error
example : aget 3 (run {} (demoOps.take 10)).store ≠ none ∧ aget 3 (run {} (demoOps.take 10)).fsMap = none ∧
    (run {} (demoOps.take 10)).lastInit = some .err := by decide
-- `Harmless` / `NoConstruct` prefixes exist
example : ∀ op ∈ [Op.init 0 .cfgfunc (fun _ => false), .mount 0 0 true], Harmless op := by
  intro op h; simp at h; rcases h with rfl | rfl <;> simp [Harmless]
-- `unmount_unknown_ok`: Ready, open, mountpoint 7 unknown
example : (run {} demoOps).status = .ready ∧ ¬ Recorded (run {} demoOps) 7 := by
  unfold Recorded; decide

end SV.Props.C17
