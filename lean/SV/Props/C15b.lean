/-
C15 (second part) — "waiting for prefetch returns after the configured timeout and never blocks
forever", for SEVERAL staggered callers, with time.  Model: SV/Model/Waiter.lean.
All theorems are for every timeout, every arrival schedule and every `done()` instant.
-/
import SV.Model.Waiter

namespace SV.Props.C15b
open SV.Waiter

/-- the channel is closed no later than any caller's own deadline -/
theorem closeTime_le_own (T : Nat) (d : Option Nat) (as : List Nat) (a : Nat) (h : a ∈ as) :
    ∃ c, closeTime T d as = some c ∧ c ≤ a + T := by
  induction as with
  | nil => cases h
  | cons x xs ih =>
    refine ⟨_, rfl, ?_⟩
    rcases List.mem_cons.mp h with rfl | h'
    · cases closeTime T d xs with
      | none => exact Nat.le_refl _
      | some c => exact Nat.min_le_right _ _
    · obtain ⟨c, hc, hle⟩ := ih h'
      rw [hc]
      exact Nat.le_trans (Nat.min_le_left _ _) hle

/-- the channel is closed no later than `done()` -/
theorem closeTime_le_done (T : Nat) (t : Nat) (as : List Nat) :
    ∃ c, closeTime T (some t) as = some c ∧ c ≤ t := by
  induction as with
  | nil => exact ⟨t, rfl, Nat.le_refl _⟩
  | cons x xs ih =>
    obtain ⟨c, hc, hle⟩ := ih
    refine ⟨_, rfl, ?_⟩
    rw [hc]
    exact Nat.le_trans (Nat.min_le_left _ _) hle

/-- **Bounded wait.** Every caller returns no later than its OWN entry + timeout — whatever the
other callers do, however many there are, whenever they enter, and even if prefetch never ends. -/
theorem wait_bounded_by_own_timeout (T : Nat) (d : Option Nat) (as : List Nat) (a : Nat) (h : a ∈ as) :
    a ≤ returnTime T d as a ∧ returnTime T d as a ≤ a + T := by
  obtain ⟨c, hc, hle⟩ := closeTime_le_own T d as a h
  rw [returnTime, hc]
  exact ⟨Nat.le_max_left _ _, Nat.max_le.mpr ⟨Nat.le_add_right _ _, hle⟩⟩

/-- a caller returns as soon as prefetch has called `done()` (at once if it enters afterwards) -/
theorem wait_returns_on_done (T t : Nat) (as : List Nat) (a : Nat) :
    returnTime T (some t) as a ≤ max a t := by
  obtain ⟨c, hc, hle⟩ := closeTime_le_done T t as
  rw [returnTime, hc]
  exact Nat.max_le.mpr ⟨Nat.le_max_left _ _, Nat.le_trans hle (Nat.le_max_right _ _)⟩

/-- more callers never close the channel later … -/
theorem closeTime_antitone (T : Nat) (d : Option Nat) (as : List Nat) (b : Nat) (c : Nat)
    (h : closeTime T d as = some c) : ∃ c', closeTime T d (b :: as) = some c' ∧ c' ≤ c := by
  refine ⟨_, rfl, ?_⟩
  rw [h]
  exact Nat.min_le_left _ _

/-- … so **another caller never delays anyone**: adding a caller (anywhere in time) can only make the
callers already there return earlier or at the same instant.  (False for one timer shared by all
callers and re-armed by every arrival: `shared_timer_delays`.) -/
theorem more_waiters_never_delay (T : Nat) (d : Option Nat) (as : List Nat) (b a : Nat) (h : a ∈ as) :
    returnTime T d (b :: as) a ≤ returnTime T d as a := by
  obtain ⟨c, hc, _⟩ := closeTime_le_own T d as a h
  obtain ⟨c', hc', hle⟩ := closeTime_antitone T d as b c hc
  rw [returnTime, returnTime, hc, hc']
  exact Nat.max_le.mpr ⟨Nat.le_max_left _ _, Nat.le_trans hle (Nat.le_max_right _ _)⟩

/-- the order in which callers are listed is irrelevant -/
theorem closeTime_perm (T : Nat) (d : Option Nat) (as bs : List Nat) (h : as.Perm bs) :
    closeTime T d as = closeTime T d bs := by
  induction h with
  | nil => rfl
  | cons x _ ih => rw [closeTime, closeTime, ih]
  | swap x y l =>
    rw [closeTime, closeTime, closeTime, closeTime]
    congr 1
    cases closeTime T d l with
    | none => exact Nat.min_comm _ _
    | some c => exact Nat.min_right_comm _ _ _
  | trans _ _ ih1 ih2 => exact ih1.trans ih2

/-- a lone caller with a stalled prefetch returns exactly at its timeout, with the timeout error -/
theorem lone_waiter_times_out (T a : Nat) :
    returnTime T none [a] a = a + T ∧ result T none [a] a = .timedOut := by
  simp [returnTime, result, closeTime, minO]

/-- a caller entering after the close returns at once with `nil` -/
theorem late_waiter_returns_at_once (T : Nat) (d : Option Nat) (as : List Nat) (a c : Nat)
    (hc : closeTime T d as = some c) (hlate : c ≤ a) (hT : 0 < T) :
    returnTime T d as a = a ∧ result T d as a = .nil := by
  rw [returnTime, result, hc]
  exact ⟨Nat.max_eq_left hlate, if_neg (by omega)⟩

/-- `timedOut` is only ever reported at or after the caller's own deadline -/
theorem timedOut_only_at_own_deadline (T : Nat) (d : Option Nat) (as : List Nat) (a : Nat) (h : a ∈ as)
    (hr : result T d as a = .timedOut) : returnTime T d as a = a + T := by
  obtain ⟨c, hc, hle⟩ := closeTime_le_own T d as a h
  simp only [result, hc] at hr
  rw [returnTime, hc]
  split at hr
  · rename_i hge
    rw [Nat.le_antisymm hle hge]
    exact Nat.max_eq_right (Nat.le_add_right a T)
  · cases hr

/-- with a stalled prefetch nothing closes the channel before one full timeout has elapsed -/
theorem closeTime_ge_timeout (T : Nat) (as : List Nat) (c : Nat) (h : closeTime T none as = some c) :
    T ≤ c := by
  induction as generalizing c with
  | nil => cases h
  | cons x xs ih =>
    rw [closeTime] at h
    cases h
    cases hx : closeTime T none xs with
    | none => exact Nat.le_add_left T x
    | some c' => exact Nat.le_min.mpr ⟨ih c' hx, Nat.le_add_left T x⟩

/-- Arrivals `k, k+1, …` with the timer due at `f > k`: every arrival comes before the timer is due
and re-arms it to its own instant `+ 2`, so the last of `n` leaves it at `k + n + 1`. -/
theorem sharedFire_consecutive (n k f : Nat) (hf : k < f) :
    sharedFire 2 (some f) (List.range' k n) = some (if n = 0 then f else k + n + 1) := by
  induction n generalizing k f with
  | zero => simp [sharedFire]
  | succ n ih =>
    rw [List.range'_succ]
    simp only [sharedFire, hf, if_true]
    rw [ih (k + 1) (k + 2) (Nat.lt_succ_self _), if_neg (Nat.succ_ne_zero n)]
    congr 1
    split
    · rename_i hn; subst hn; rfl
    · omega

/-- **One timer shared by all callers and re-armed by every arrival is unbounded**: for every bound `B` there is a
schedule (callers entering one time unit apart, timeout 2) on which the FIRST caller returns later
than `B`, although its own timeout is 2. -/
theorem shared_timer_unbounded (n : Nat) :
    sharedReturn 2 (List.range' 0 (n + 1)) 0 = n + 2 ∧
    returnTime 2 none (List.range' 0 (n + 1)) 0 = 2 := by
  constructor
  · unfold sharedReturn
    rw [List.range'_succ]
    simp only [sharedFire]
    rw [sharedFire_consecutive n 1 2 (Nat.lt_succ_self _)]
    show max 0 _ = n + 2
    rw [Nat.max_eq_right (Nat.zero_le _)]
    split
    · rename_i hn; subst hn; rfl
    · omega
  · obtain ⟨c, hc, hle⟩ := closeTime_le_own 2 none (List.range' 0 (n + 1)) 0
      (List.range'_succ ▸ List.mem_cons_self)
    -- the first deadline is 2, and with a stalled prefetch nothing closes the channel earlier
    rw [returnTime, hc, Nat.le_antisymm hle (closeTime_ge_timeout 2 _ c hc)]
    rfl

theorem shared_timer_delays :
    sharedReturn 2 [0, 1, 2, 3, 4, 5, 6, 7, 8, 9] 0 = 11 ∧ returnTime 2 none [0, 1, 2, 3, 4, 5, 6, 7, 8, 9] 0 = 2 :=
  shared_timer_unbounded 9

-- non-vacuity: the schedule the harness replays (timeout 2, callers at 0,1,2,3,4);
-- the second is the theorems' `a ∈ as`
example : [0, 1, 2, 3, 4].map (returnTime 2 none [0, 1, 2, 3, 4]) = [2, 2, 2, 3, 4] := rfl
example : (0 : Nat) ∈ [0, 1, 2, 3, 4] := by decide

end SV.Props.C15b
