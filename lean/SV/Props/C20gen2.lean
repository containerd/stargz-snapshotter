/-
C20 — regenerated tie.  `SV/Gen/Labels.lean` is produced from the CURRENT Go sources by
`tools/go2lean` on every run: the label-key constants of fs/source/source.go, fs/config/config.go
and service/cri.go, emitted as the values go/types computes (each string also as a character
list).  The theorems state that they are the keys the hand-written C20 model (`SV.Labels`) uses,
so an edit of a key in the Go code breaks a proof obligation here.
-/
import SV.Gen.Labels
import SV.Model.Labels

namespace SV.Props.C20gen2
open SV

theorem targetRefLabel_eq : Gen.Labels.targetRefLabel_chars = Labels.kRef := rfl
theorem targetDigestLabel_eq : Gen.Labels.targetDigestLabel_chars = Labels.kDigest := rfl
theorem targetImageLayersLabel_eq : Gen.Labels.targetImageLayersLabel_chars = Labels.kLayers := rfl
theorem targetImageURLsLabelPrefix_eq : Gen.Labels.targetImageURLsLabelPrefix_chars = Labels.kURLsPrefix := rfl
theorem targetURLsLabel_eq : Gen.Labels.targetURLsLabel_chars = Labels.kURLs := rfl
theorem targetPrefetchSizeLabel_eq : Gen.Labels.TargetPrefetchSizeLabel_chars = Labels.kPrefetch := rfl
theorem criTargetRefLabel_eq : Gen.Labels.criTargetRefLabel_chars = Labels.kCriRef := rfl
theorem criTargetLayerDigestLabel_eq : Gen.Labels.criTargetLayerDigestLabel_chars = Labels.kCriDigest := rfl
theorem criTargetImageLayersLabel_eq : Gen.Labels.criTargetImageLayersLabel_chars = Labels.kCriLayers := rfl
/-- The CRI writer and the default writer use the SAME urls keys (service/cri.go repeats the
constants of fs/source/source.go). -/
theorem cri_urls_keys_eq :
    Gen.Labels.criTargetImageURLsLabelPrefix_chars = Labels.kURLsPrefix ∧
    Gen.Labels.criTargetURLsLabel_chars = Labels.kURLs := ⟨rfl, rfl⟩

-- the String form and the character-list form of a generated constant agree
example : Gen.Labels.targetURLsLabel.toList = Gen.Labels.targetURLsLabel_chars := String.toList_ofList
example : Gen.Labels.targetRefLabel_chars.length = 46 := rfl

end SV.Props.C20gen2
