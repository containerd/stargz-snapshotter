/-
C01 — Verified layers never return bytes that do not match the TOC-pinned digests.

Model: `SV/Model/Verify.lean` (the verification gate of one layer object: `VerifiableReader`,
`reader`, `layer`, the ladder of `filesystem.Mount`).  `H` (SHA-256) and `parse` (the metadata store) are
uninterpreted parameters;
all claims are digest EQUALITIES, no collision assumption is used.  The theorems quantify over
ALL operation sequences (`run`), ALL adversary choices (the TOC bytes at every (re-)resolve, the
bytes of every compressed read, read failures) and ALL interleavings of the atomic steps
(`prefetchBegin` = `readAndCache` up to the end of its critical section, `prefetchCommit` = its
`w.Commit()`, `layerVerify` ∋ the critical section of `VerifyTOC`).

Statements about BYTES are phrased with `Pinned H parse D c b`: "`b` hashes to the digest that SOME
TOC whose bytes hash to `D` records for chunk `c`".  `D` is all the trusted manifest pins; with an
uninterpreted `H` this needs no collision assumption and covers `Cache(WithReader(sr))`
(`layer.backgroundFetch`), whose walk goes over `metadata.Reader.Clone(sr)`: the memory store's clone
re-parses the TOC from `sr`, and since a094525 `Cache` refuses it unless its digest equals the TOC
digest of the layer object (operation `prefetchBeginClone c reply tb'`, `tb'` = the adversary's TOC
bytes).  `reads_verified_same_toc` gives the form "matches the digest recorded in the TOC of THIS
layer object" under the one hypothesis it needs: TOC bytes with the digest of the layer's TOC record
the same chunk digests (SHA-256 collision-freeness on TOCs).  The behaviour before a094525 (no
comparison) is the model variant `prefetchWith`; `clone_prefetch_serves_forged_bytes` is its
counterexample and the scenario is a regression scenario of the harness.
-/
import SV.Lemmas.Verify

namespace SV.Props.C01
open SV.Verify
set_option linter.unusedSectionVars false

section
variable {β δ : Type} [DecidableEq δ] (H : β → δ) (parse : β → Toc δ)

/-- A layer object after any history: created by a resolve with any TOC bytes, then any
operations (including evictions that re-resolve with other TOC bytes). -/
def reach (cfg : Cfg) (tb : β) (ops : List (Op β δ)) : St β δ := run H parse (init parse cfg tb) ops

/-- `filesystem.Mount` with the TOC digest label `D` (verification not disabled) succeeds only if
the TOC bytes actually hashed for this layer object hash to `D`; the layer is then `verified`.
Holds after ANY history, in particular for a layer that was already verified with another digest
or already skip-verified. -/
theorem mount_requires_digest (cfg : Cfg) (tb : β) (ops : List (Op β δ)) (l : Labels δ) (D : δ)
    (hcfg : cfg.disableVerification = false) (hl : l.toc = some (some D))
    (hm : (step H parse (reach H parse cfg tb ops) (.mount l)).2 = .ok) :
    (reach H parse cfg tb ops).tocActual H = D ∧
      (step H parse (reach H parse cfg tb ops) (.mount l)).1.layerR = .verified := by
  have hc : (reach H parse cfg tb ops).cfg.disableVerification = false := by
    unfold reach; rw [run_cfg]; exact hcfg
  rw [step, mount_digest H hc hl] at hm ⊢
  exact layerVerify_ok H hm

/-- The same for the stargz store (`layernode.Lookup`: `Verify(<digest in the directory name>)`). -/
theorem storeLookup_requires_digest (cfg : Cfg) (tb : β) (ops : List (Op β δ)) (D : δ)
    (hm : (step H parse (reach H parse cfg tb ops) (.storeLookup D)).2 = .ok) :
    (reach H parse cfg tb ops).tocActual H = D ∧
      (step H parse (reach H parse cfg tb ops) (.storeLookup D)).1.layerR = .verified := by
  rw [step, storeLookup_eq] at hm ⊢
  exact layerVerify_ok H hm

/-- A bare `layer.Verify(D)` succeeds only if the TOC bytes hashed for this layer object hash to `D`. -/
theorem layerVerify_requires_digest (cfg : Cfg) (tb : β) (ops : List (Op β δ)) (D : δ)
    (hm : (step H parse (reach H parse cfg tb ops) (.layerVerify D)).2 = .ok) :
    (reach H parse cfg tb ops).tocActual H = D :=
  (layerVerify_ok H hm).1

/-- For every history: every entry in the chunk cache of a verified layer, and every prefetch
writer still in flight, was COMPARED with a chunk digest before it was written (nothing enters
unchecked).  That the digest was one a TOC hashing to the layer's TOC digest records is
`no_unverified_bytes_cached_for_verified_layer`. -/
theorem verified_layer_cache_all_compared (cfg : Cfg) (tb : β) (ops : List (Op β δ))
    (hv : (reach H parse cfg tb ops).layerR = .verified) :
    (∀ ke ∈ (reach H parse cfg tb ops).cache, ke.2.ver = true) ∧
    (∀ p ∈ (reach H parse cfg tb ops).pending, p.2.ver = true) := by
  have hi : InvF (reach H parse cfg tb ops) := (inv_run H parse ops (inv_init H parse cfg tb)).toInvF
  generalize reach H parse cfg tb ops = s at hv hi ⊢
  have hl := hi.noErr hv
  refine ⟨hi.clean (by rw [hv]; simp) hl, fun p hp => ?_⟩
  cases h : p.2.ver with
  | true => rfl
  | false => have := hi.pend p hp h; rw [hl] at this; cases this

/-- Invariant, for EVERY history: a verified layer's chunk cache (and every prefetch writer still in
flight) holds only entries that were compared with a chunk digest before insertion, and their bytes
are pinned by the TOC digest of the layer object. -/
theorem no_unverified_bytes_cached_for_verified_layer (cfg : Cfg) (tb : β) (ops : List (Op β δ))
    (hv : (reach H parse cfg tb ops).layerR = .verified) :
    (∀ ke ∈ (reach H parse cfg tb ops).cache, ke.2.ver = true ∧
        PiecesGood (Pinned H parse ((reach H parse cfg tb ops).tocActual H)) ke.2.pieces) ∧
    (∀ p ∈ (reach H parse cfg tb ops).pending, p.2.ver = true ∧
        PiecesGood (Pinned H parse ((reach H parse cfg tb ops).tocActual H)) p.2.pieces) := by
  have hi : Inv H parse (reach H parse cfg tb ops) := inv_run H parse ops (inv_init H parse cfg tb)
  obtain ⟨h1, h2⟩ := verified_layer_cache_all_compared H parse cfg tb ops hv
  generalize reach H parse cfg tb ops = s at hv hi h1 h2 ⊢
  exact ⟨fun ke hke => ⟨h1 ke hke, hi.good ke hke (h1 ke hke)⟩,
         fun p hp => ⟨h2 p hp, hi.pgood p hp (h2 p hp)⟩⟩

/-- After a successful mount with TOC digest `D` (the history `ops1` before it is arbitrary), for
every continuation `ops2` on the same layer object and every further operation `o`: whatever `o`
returns as file data consists of chunks whose bytes hash to a chunk digest recorded by a TOC that
hashes to `D`; and the TOC of the layer object hashes to `D`.  No hypothesis on the history. -/
theorem reads_verified (cfg : Cfg) (tb : β) (ops1 : List (Op β δ)) (l : Labels δ) (D : δ)
    (ops2 : List (Op β δ)) (o : Op β δ) (ps : List (Nat × β))
    (hcfg : cfg.disableVerification = false) (hl : l.toc = some (some D))
    (hm : (step H parse (reach H parse cfg tb ops1) (.mount l)).2 = .ok)
    (hne : NoEvict ops2)
    (ho : (step H parse (run H parse (step H parse (reach H parse cfg tb ops1) (.mount l)).1 ops2) o).2
            = .data ps) :
    PiecesGood (Pinned H parse D) ps ∧ H (reach H parse cfg tb ops1).tocBytes = D := by
  obtain ⟨hd, hv⟩ := mount_requires_digest H parse cfg tb ops1 l D hcfg hl hm
  have hi0 : Inv H parse (reach H parse cfg tb ops1) := inv_run H parse ops1 (inv_init H parse cfg tb)
  generalize reach H parse cfg tb ops1 = s at hm hd hv hi0 ho ⊢
  have hout := verified_reads H parse (inv_step H parse hi0 (.mount l)) hv ops2 hne o ps ho
  rw [(frame_step H parse s (.mount l) rfl).pin H parse, Pin, show H s.tocBytes = D from hd] at hout
  exact ⟨hout, hd⟩

/-- The same with "the digest recorded in the TOC of THIS layer object".  The one hypothesis:
TOC bytes that hash to the digest of the layer's TOC bytes record the same chunk digests
(collision-freeness of SHA-256 on TOCs; trivially true for the db store, whose clone keeps the
stored TOC, and whenever the blob source serves the TOC range unchanged). -/
theorem reads_verified_same_toc (cfg : Cfg) (tb : β) (ops1 : List (Op β δ)) (l : Labels δ) (D : δ)
    (ops2 : List (Op β δ)) (o : Op β δ) (ps : List (Nat × β))
    (hcfg : cfg.disableVerification = false) (hl : l.toc = some (some D))
    (hm : (step H parse (reach H parse cfg tb ops1) (.mount l)).2 = .ok)
    (hne : NoEvict ops2)
    (hinj : ∀ tb', H tb' = H (reach H parse cfg tb ops1).tocBytes →
      (parse tb').dig = (reach H parse cfg tb ops1).toc.dig)
    (ho : (step H parse (run H parse (step H parse (reach H parse cfg tb ops1) (.mount l)).1 ops2) o).2
            = .data ps) :
    PiecesGood (TocGood H (reach H parse cfg tb ops1).toc) ps := by
  obtain ⟨h1, h2⟩ := reads_verified H parse cfg tb ops1 l D ops2 o ps hcfg hl hm hne ho
  intro p hp
  obtain ⟨tb', ht, hdg⟩ := h1 p hp
  have := hinj tb' (by rw [ht, h2])
  unfold TocGood
  rw [← this]; exact hdg

/-- The prefetch / `VerifyTOC` race, all schedules.  A prefetched chunk that fails verification
(wrong bytes or no usable digest) and reaches its critical section
 * BEFORE the decision (`prohibitVerifyFailure` unset): is recorded, and from then on every
   `VerifyTOC` / `layer.Verify` / mount-with-digest of this layer object fails and the layer is
   never `verified`, whatever happens in between;
 * AFTER the decision: the call fails and changes nothing (no writer is left, nothing is
   committed). -/
theorem bad_prefetch_blocks_verify (cfg : Cfg) (tb : β) (ops0 : List (Op β δ)) (c : Nat) (b : β)
    (hmiss : cget (reach H parse cfg tb ops0).cache (.chunk c) = none)
    (hbad : chunkOk H (reach H parse cfg tb ops0).toc c b = false) :
    ((reach H parse cfg tb ops0).prohibit = false →
      ∀ (ops : List (Op β δ)), NoEvict ops → ∀ (D : δ) (l : Labels δ),
        let s2 := run H parse (step H parse (reach H parse cfg tb ops0) (.prefetchBegin c (some b))).1 ops
        (verifyTOC H s2 D).2 = .err ∧ (layerVerify H s2 D).2 = .err ∧ (storeLookup H s2 D).2 = .err ∧
        (s2.cfg.disableVerification = false → l.toc = some (some D) → (mount H s2 l).2 = .err) ∧
        s2.layerR ≠ .verified) ∧
    ((reach H parse cfg tb ops0).prohibit = true →
      step H parse (reach H parse cfg tb ops0) (.prefetchBegin c (some b))
        = (reach H parse cfg tb ops0, .err)) := by
  have hi0 : Inv H parse (reach H parse cfg tb ops0) := inv_run H parse ops0 (inv_init H parse cfg tb)
  generalize reach H parse cfg tb ops0 = s at hmiss hbad hi0 ⊢
  have hpb : step H parse s (.prefetchBegin c (some b)) = _ := prefetchBegin_bad H hmiss hbad
  constructor
  · intro hp ops hne D l
    have hl1 : (step H parse s (.prefetchBegin c (some b))).1.lastVerifyErr = true := by
      rw [hpb, hp]; rfl
    have hi1 : Inv H parse (step H parse s (.prefetchBegin c (some b))).1 := inv_step H parse hi0 _
    generalize (step H parse s (.prefetchBegin c (some b))).1 = s1 at hl1 hi1
    have hi2 : Inv H parse (run H parse s1 ops) := inv_run H parse ops hi1
    have hl2 := (frame_run H parse ops s1 hne).lve hl1
    generalize run H parse s1 ops = s2 at hi2 hl2
    obtain ⟨hv, hlv⟩ := verify_err H (D := D) (Or.inl hl2)
    refine ⟨hv, hlv, storeLookup_eq H s2 D ▸ hlv, fun hd ht => ?_, fun hver => ?_⟩
    · rw [mount_digest H hd ht]; exact hlv
    · exact absurd ((hi2.noErr hver).symm.trans hl2) nofun
  · intro hp
    rw [hpb, hp]; rfl

/-- `filesystem.Mount` without a TOC digest label succeeds only under one of the two configuration
switches (`disable_verification`, or `allow_no_verification` together with the skip-verify label). -/
theorem unverified_requires_config (cfg : Cfg) (tb : β) (ops : List (Op β δ)) (l : Labels δ)
    (hl : l.toc = none)
    (hm : (step H parse (reach H parse cfg tb ops) (.mount l)).2 = .ok) :
    cfg.disableVerification = true ∨ (cfg.allowNoVerification = true ∧ l.skip = true) := by
  have hc : (reach H parse cfg tb ops).cfg = cfg := by unfold reach; rw [run_cfg]; rfl
  generalize reach H parse cfg tb ops = s at hm hc
  rw [step, mount_eq, hl] at hm
  dsimp only at hm
  split at hm
  · next hd => exact Or.inl (hc ▸ hd)
  · split at hm
    · next ha => exact Or.inr (hc ▸ (Bool.and_eq_true_iff.mp ha).symm)
    · cases hm

/-- With both switches off, and the layer API reached only through the filesystem (mount, store
lookup, prefetch, background fetch, reads, passthrough, eviction — no bare `SkipVerify`), EVERY byte
any operation ever returns is pinned by the TOC digest of the layer object that served it, and that
layer object is `verified` — for all histories, with no assumption on which mounts succeeded. -/
theorem strict_config_reads_verified (cfg : Cfg) (tb : β) (ops : List (Op β δ)) (o : Op β δ)
    (ps : List (Nat × β))
    (hd : cfg.disableVerification = false) (ha : cfg.allowNoVerification = false)
    (hns : ∀ o' ∈ ops, o'.isLayerSkip = false)
    (ho : (step H parse (reach H parse cfg tb ops) o).2 = .data ps) :
    PiecesGood (Pinned H parse ((reach H parse cfg tb ops).tocActual H)) ps ∧
      (reach H parse cfg tb ops).layerR = .verified := by
  have hi : Inv H parse (reach H parse cfg tb ops) := inv_run H parse ops (inv_init H parse cfg tb)
  have hnsk : (reach H parse cfg tb ops).layerR ≠ .skipped :=
    strict_run H parse ops (init parse cfg tb) hd ha hns (by simp [init])
  generalize reach H parse cfg tb ops = s at hi hnsk ho ⊢
  cases hr : s.layerR with
  | skipped => exact absurd hr hnsk
  | none => exact absurd hr (step_data H parse hi o ps ho).1
  | verified => exact ⟨(step_data H parse hi o ps ho).2 hr, rfl⟩

/-- With both switches off and no bare `SkipVerify`, data is only ever returned by a `verified` layer
object, for ALL histories (a layer becomes `verified` only through a digest comparison:
`mount_requires_digest`, `storeLookup_requires_digest`). -/
theorem strict_config_data_only_from_verified (cfg : Cfg) (tb : β) (ops : List (Op β δ)) (o : Op β δ)
    (ps : List (Nat × β))
    (hd : cfg.disableVerification = false) (ha : cfg.allowNoVerification = false)
    (hns : ∀ o' ∈ ops, o'.isLayerSkip = false)
    (ho : (step H parse (reach H parse cfg tb ops) o).2 = .data ps) :
    (reach H parse cfg tb ops).layerR = .verified :=
  (strict_config_reads_verified H parse cfg tb ops o ps hd ha hns ho).2

end

section
variable {β δ : Type} [DecidableEq δ] (H : β → δ) (parse : β → Toc δ)

/-- Current code: once skip-verify has taken effect on a layer object, every later `Verify` of that
object is refused and changes nothing, whatever digest is presented and whatever happens between. -/
theorem verify_after_skip_refused (s : St β δ) (hs : s.layerR = .skipped) (ops : List (Op β δ))
    (hne : NoEvict ops) (D : δ) :
    layerVerify H (run H parse s ops) D = (run H parse s ops, .err) := by
  have hsk := (frame_run H parse ops s hne).skipped hs
  rcases layerVerify_cases H (run H parse s ops) D with ⟨_, h⟩ | ⟨hn, _⟩ | ⟨hn, _⟩
  · exact h
  · exact absurd hsk hn
  · exact absurd hsk hn

/-- Current code: a verified layer object compares the digest again on every `Verify`. -/
theorem second_verify_compares (s : St β δ) (D : δ) (hd : H s.tocBytes ≠ D) :
    (layerVerify H s D).2 = .err :=
  (verify_err H (Or.inr hd)).2

/-- Current code: `SkipVerify` after `Verify` keeps the verified reader. -/
theorem skip_after_verify_keeps_verified (s : St β δ) (hv : s.layerR = .verified) : layerSkip s = s := by
  simp [layerSkip, hv]

end

/-! Counterexamples for the old `layer.Verify` (`verifyBuggy`, the code before 843bce5), on the
instance `β = δ = Nat`, `H = id`: TOC bytes `1` (so the actual TOC digest is `1`), every chunk's
recorded digest is `7`. -/

def exToc : Toc Nat := ⟨fun _ => [0, 1], fun _ => some 7⟩
def exCfg : Cfg := { allowNoVerification := true }
def exInit : St Nat Nat := init (fun _ => exToc) exCfg 1
/-- a read of chunk 0 for which the adversary supplies bytes `5` (digest `5 ≠ 7`) -/
def exBadRead : List (Step Nat) := [{ c := 0, reply := some 5 }]

/-- skip → verify(D): the old code accepts ANY digest without comparing (here 999 ≠ 1), the mount
"with TOC digest" succeeds, and a read then returns bytes that do not match the recorded digest. -/
theorem verifyBuggy_skip_then_verify_accepts :
    let s1 := layerSkip exInit
    (verifyBuggy id s1 999).2 = .ok ∧ s1.tocActual id ≠ 999 ∧
    (mountBuggy id s1 ⟨some (some 999), false⟩).2 = .ok ∧
    (read id (verifyBuggy id s1 999).1 exBadRead).2 = .data [(0, 5)] ∧
    exToc.dig 0 ≠ some (id 5) := by
  refine ⟨rfl, by decide, rfl, rfl, by decide⟩

/-- verify(D₁ good) → verify(D₂ wrong): the old code accepts the wrong digest. -/
theorem verifyBuggy_second_verify_accepts_wrong :
    let s1 := (verifyBuggy id exInit 1).1
    (verifyBuggy id exInit 1).2 = .ok ∧ (verifyBuggy id s1 2).2 = .ok ∧ s1.tocActual id ≠ 2 := by
  refine ⟨rfl, rfl, by decide⟩

/-- skip → read (unverified bytes are cached) → verify(D good): the old code "verifies" the layer
while its cache holds unverified bytes; the later read serves them from the cache. -/
theorem verifyBuggy_serves_cached_unverified_bytes :
    let s1 := (read id (layerSkip exInit) exBadRead).1
    let s2 := (verifyBuggy id s1 1).1
    (verifyBuggy id s1 1).2 = .ok ∧
    (read id s2 [{ c := 0, reply := none }]).2 = .data [(0, 5)] := by
  refine ⟨rfl, rfl⟩

/-- The current code on the same three histories. -/
theorem layerVerify_rejects_the_counterexamples :
    (layerVerify id (layerSkip exInit) 999).2 = .err ∧
    (layerVerify id (layerVerify id exInit 1).1 2).2 = .err ∧
    (layerVerify id (read id (layerSkip exInit) exBadRead).1 1).2 = .err := by
  refine ⟨rfl, rfl, rfl⟩

/-! ## `Cache(WithReader)` before a094525 (variant `prefetchWith` with an unchecked digest)

The memory metadata store's `Clone` re-parses the TOC from the section reader handed to
`Cache(WithReader(sr))` (`layer.backgroundFetch`); nobody compared its digest. -/

/-- On the old code a VERIFIED layer serves, from its chunk cache, bytes no TOC hashing to the
verified digest pins: verify with the right digest (`1`), clone-based prefetch of chunk 0 with forged
bytes `5` against a forged TOC that records `5`, read.  The current operation refuses that clone
(its TOC bytes `2` hash to `2 ≠ 1`) and changes nothing. -/
theorem clone_prefetch_serves_forged_bytes :
    let s1 := (layerVerify id (init (fun _ => exToc) {} 1) 1).1
    let s2 := (prefetchWith id s1 0 (some 5) (some 5)).1
    (layerVerify id (init (fun _ => exToc) {} 1) 1).2 = .ok ∧ s2.layerR = .verified ∧
    (read id s2 [{ c := 0, reply := none }]).2 = .data [(0, 5)] ∧
    ¬ Pinned id (fun _ => exToc) (s2.tocActual id) 0 5 ∧
    step id (fun _ => exToc) s1 (.prefetchBeginClone 0 (some 5) 2) = (s1, .err) := by
  refine ⟨rfl, rfl, rfl, ?_, rfl⟩
  rintro ⟨tb, _, h⟩
  have h' : exToc.dig 0 = some (id 5) := h
  exact absurd h' (by decide)

/-- The hypotheses of `mount_requires_digest` / `reads_verified` are satisfiable: after a prefetch of a
good chunk, a mount with the right digest succeeds, a read of good bytes returns them, a read of bad
bytes fails, and the read through the cache returns the good bytes. -/
example :
    let l : Labels Nat := ⟨some (some 1), false⟩
    let s0 := reach id (fun _ => exToc) {} 1 [.prefetchBegin 1 (some 7), .prefetchCommit 0]
    (step id (fun _ => exToc) s0 (.mount l)).2 = .ok ∧
    (step id (fun _ => exToc) (step id (fun _ => exToc) s0 (.mount l)).1
        (.read [{ c := 0, reply := some 7 }, { c := 1, reply := none }])).2 = .data [(0, 7), (1, 7)] ∧
    (step id (fun _ => exToc) (step id (fun _ => exToc) s0 (.mount l)).1 (.read exBadRead)).2 = .err := by
  refine ⟨rfl, rfl, rfl⟩

/-- `bad_prefetch_blocks_verify`: both cases occur. -/
example :
    let s0 := reach id (fun _ => exToc) {} 1 []
    cget s0.cache (.chunk 0) = none ∧ chunkOk id s0.toc 0 5 = false ∧ s0.prohibit = false ∧
    (step id (fun _ => exToc) (step id (fun _ => exToc) s0 (.prefetchBegin 0 (some 5))).1
        (.layerVerify 1)).2 = .err ∧
    (step id (fun _ => exToc) (step id (fun _ => exToc) s0 (.layerVerify 1)).1
        (.prefetchBegin 0 (some 5))).2 = .err := by
  refine ⟨rfl, rfl, rfl, rfl, rfl⟩

/-- Background fetch through a clone with the same TOC bytes is accepted and verified as usual. -/
example :
    let s1 := (layerVerify id (init (fun _ => exToc) {} 1) 1).1
    (step id (fun _ => exToc) s1 (.prefetchBeginClone 1 (some 7) 1)).2 = .ok ∧
    (step id (fun _ => exToc) s1 (.prefetchBeginClone 1 (some 5) 1)).2 = .err := ⟨rfl, rfl⟩

/-- `unverified_requires_config`: a mount without digest does succeed under the switch. -/
example : (step id (fun _ => exToc) (reach id (fun _ => exToc) exCfg 1 []) (.mount ⟨none, true⟩)).2 = .ok := rfl

/-- passthrough on a verified layer: merged from a cached chunk and a fetched one, then served. -/
example :
    let s0 := reach id (fun _ => exToc) {} 1 [.layerVerify 1, .read [{ c := 0, reply := some 7 }]]
    let s1 := (step id (fun _ => exToc) s0 (.passthrough 3 (fun _ => some 7) (fun _ => []) true)).1
    (step id (fun _ => exToc) s1 (.readFd 3)).2 = .data [(0, 7), (1, 7)] := rfl

end SV.Props.C01
