/-
C12 — A mounted layer stays usable; a released layer gives back all its resources
(`fs/layer.Resolver`: `Resolve`, the layer and blob TTL caches, `layerRef.Done/Close`, `layer.close`).

Composition with C10.  Both caches of the resolver are the C10 model `SV.Refcount.TTL`, used
unchanged; every state of `SV.LayerLife` keeps them reachable by TTL operations
(`SV.LayerLife.Reach`), so C10's theorems apply to them.  On top, the
invariant `SV.LayerLife.Inv` (SV/Lemmas/LayerLife.lean) links refCounter `i` of the layer cache to
`*layer` object `i` (closed iff its callback has run), likewise for blobs, and says that every layer
owns one closure of the blob cache, released iff the layer is closed.

Premises (see the model file): `Resolve` is atomic per name (per-name lock; checks/C12.py does not pin
the source text but observes it on the running code: concurrent resolvers of one name build one layer
and share it), the caches' own operations are atomic (C10), timer expiry is an operation enabled
at any time.  All theorems quantify over ALL operation sequences `ops` (Resolve with ANY failure
oracle, Done, Close, timer expiry of either cache, Refresh, reads) — `run ops` is the state after the
history `ops` from `NewResolver`.

Vocabulary: a layer instance is its index `lid` in `State.layers`; a holder (`*layerRef`) is a closure
`tok` of the layer cache, live while `tk.once = false`; `held toks id` counts the live closures of
refCounter `id` (for both caches refCounter index = object index).
-/
import SV.Lemmas.LayerLife

namespace SV.Props.C12
open SV.LayerLife SV.Refcount

/-- A layer with a holder that has not released it is open — not closed, reader, metadata and fs
cache open, its blob reference not released — and so is its blob (with its http cache); the holder's
reads and (registry permitting) refreshes succeed.  This holds after EVERY history: whatever expired,
whoever else resolved, failed, released or closed the same layer, whatever was refreshed. -/
theorem held_layer_open (ops : List Op) (tok : Nat) (tk : Tok)
    (ht : (run ops).lc.core.toks[tok]? = some tk) (hn : tk.once = false) :
    ∃ lid l bid b,
      layerOfTok (run ops) tok = some lid ∧ (run ops).layers[lid]? = some l ∧
      l.closed = false ∧ l.readerClosed = false ∧ l.metadataClosed = false ∧ l.cachesClosed = false ∧
      l.blobDone = 0 ∧
      blobOfTok (run ops) l.blobTok = some bid ∧ (run ops).blobs[bid]? = some b ∧
      b.closed = false ∧ b.cacheClosed = false ∧
      readRes (run ops) tok = .ok ∧ readOldRes (run ops) tok = .ok ∧
      ∀ reg, refreshRes (run ops) tok reg = (if reg then .ok else .err) := by
  obtain ⟨l, bid, b, h⟩ := held_reads (Inv.run ops) ht hn
  exact ⟨tk.rc, l, bid, b, h.layerOf, h.layer, h.lopen, h.reader, h.metadata, h.caches, h.blobDone, h.blobOf,
    h.blob, h.bopen, h.bcache, h.read, h.readOld, h.refresh⟩

/-- While it is cached a layer is open as well (the connectivity check of a cached layer can only
fail because of the registry). -/
theorem cached_layer_open (ops : List Op) (name lid : Nat) (hm : (run ops).lc.m name = some lid) :
    ∃ l, (run ops).layers[lid]? = some l ∧ l.name = name ∧ l.closed = false ∧
      ∀ probe, layerCheck (run ops) lid probe = probe := by
  have inv := Inv.run ops
  obtain ⟨l, _, c, hn⟩ := cached_open inv.l.reach inv.l.link hm
  exact ⟨l, c.obj, hn, c.isOpen, fun probe => layerCheck_open inv c.obj c.isOpen probe⟩

/-- Two holders obtained without an intervening eviction share one layer instance: after a
successful `Resolve` of `name` returned instance `a`, let ANY operations happen except the ones that
evict (`mayEvict`: the timer of `name`, an evicting release `Close`, a `Resolve` of `name` whose
connectivity check fails) — other names, failing resolves, releases, blob-cache expiry, refreshes
included; then every `Resolve` of `name` whose check passes returns the same instance `a`, with a
new live holder, whatever the rest of its failure oracle says. -/
theorem single_instance (ops : List Op) (name : Nat) (o1 : Oracle) (a tok1 : Nat) (mid : List Op) (o2 : Oracle)
    (h1 : (resolve (run ops) name o1).2.layer? = some (a, tok1))
    (hmid : ∀ op ∈ mid, mayEvict name op = false) (h2 : o2.lchk = true) :
    let s2 := runFrom (resolve (run ops) name o1).1 mid
    (resolve s2 name o2).2 = .hit a s2.lc.core.toks.length ∧
    (resolve s2 name o2).1.lc.core.toks[s2.lc.core.toks.length]? = some { rc := a, once := false } := by
  intro s2
  have inv1 := (Inv.run ops).resolve name o1
  obtain ⟨_, g⟩ := (resolve_spec (Inv.run ops) name o1).ok h1
  have hm1 := g.cached
  have inv2 : Inv s2 none := Inv.runFrom mid inv1
  have hm2 : s2.lc.m name = some a := keeps_entry_run mid inv1 hm1 hmid
  rw [resolve_hit inv2 o2 hm2, h2, if_pos rfl]
  exact ⟨rfl, List.getElem?_concat_length⟩

/-- … and the layer a successful `Resolve` returns is cached under its name from then on (so the
premise of `single_instance` is what every successful `Resolve` establishes), the caller's closure
is new and live, and the instance is either the cached one (its check passed) or brand new. -/
theorem resolve_caches_result (ops : List Op) (name : Nat) (o : Oracle) (lid tok : Nat)
    (h : (resolve (run ops) name o).2.layer? = some (lid, tok)) :
    (resolve (run ops) name o).1.lc.m name = some lid ∧
    (run ops).lc.core.toks.length ≤ tok ∧
    (∃ tk, (resolve (run ops) name o).1.lc.core.toks[tok]? = some tk ∧ tk.rc = lid ∧ tk.once = false) ∧
    (((run ops).lc.m name = some lid ∧ o.lchk = true) ∨ lid = (run ops).layers.length) := by
  obtain ⟨D, g⟩ := (resolve_spec (Inv.run ops) name o).ok h
  exact ⟨g.cached, by rw [g.tok, List.length_append]; exact Nat.le_add_right _ _,
    ⟨{ rc := lid }, by rw [g.toks, g.tok]; exact List.getElem?_concat_length, rfl, rfl⟩,
    g.origin.imp (·.2) (·.2)⟩

/-- Only the three evicting operations can take a cached layer out of the cache. -/
theorem entry_stays (ops : List Op) (name a : Nat) (op : Op) (hm : (run ops).lc.m name = some a)
    (h : mayEvict name op = false) : (step (run ops) op).1.lc.m name = some a :=
  keeps_entry (Inv.run ops) hm h

/-- The `!added` branch of `Resolve` (a concurrent resolver added the layer first; the fresh layer is
closed and the cached one returned) is dead under the per-name lock: no `Resolve` returns `existing`. -/
theorem resolve_never_existing (ops : List Op) (name : Nat) (o : Oracle) (lid tok : Nat) :
    (resolve (run ops) name o).2 ≠ .existing lid tok := by
  intro h
  obtain ⟨_, g⟩ := (resolve_spec (Inv.run ops) name o).ok (lid := lid) (tok := tok) (by rw [h]; rfl)
  rcases g.origin with ⟨hr, _⟩ | ⟨hr, _⟩ <;> rw [h] at hr <;> cases hr

/-- Once every holder of a layer instance has released it (`held … = 0`) and the cache does not
store it any more (expired, evicted by `Close` or by a failed check), the layer is closed: its
reader, metadata reader and fs cache (directory) are closed and it has released its blob reference —
exactly once.  (C10 `ttl_callback_iff_dead` on the layer cache.) -/
theorem released_layer_reclaimed (ops : List Op) (lid : Nat) (l : Layer)
    (hl : (run ops).layers[lid]? = some l)
    (hheld : held (run ops).lc.core.toks lid = 0)
    (hev : (run ops).lc.m l.name ≠ some lid) :
    l.closed = true ∧ l.readerClosed = true ∧ l.metadataClosed = true ∧ l.cachesClosed = true ∧
    l.blobDone = 1 ∧ ∃ tk, (run ops).bc.core.toks[l.blobTok]? = some tk ∧ tk.once = true := by
  have inv := Inv.run ops
  have hcl : l.closed = true := (closed_iff_dead inv.l.reach inv.l.link hl).mpr ⟨hev, hheld⟩
  have f := inv.l.flagsOf hl
  obtain ⟨tk, htk, ho⟩ := inv.x.btok _ l hl
  exact ⟨hcl, by rw [f.reader, hcl], by rw [f.metadata, hcl], by rw [f.caches, hcl], by rw [f.blobDone, hcl]; rfl,
    tk, htk, by rw [ho, hcl]⟩

/-- … and conversely a layer is closed ONLY then: never while held, never while cached. -/
theorem closed_only_when_released (ops : List Op) (lid : Nat) (l : Layer)
    (hl : (run ops).layers[lid]? = some l) (hc : l.closed = true) :
    held (run ops).lc.core.toks lid = 0 ∧ (run ops).lc.m l.name ≠ some lid := by
  have inv := Inv.run ops
  exact ((closed_iff_dead inv.l.reach inv.l.link hl).mp hc).symm

/-- The blob goes the same way: once it is out of the blob cache and every layer instance that uses
it is closed (each released its reference when it closed), the blob and its http cache (directory)
are closed. -/
theorem released_blob_reclaimed (ops : List Op) (bid : Nat) (b : Blob)
    (hb : (run ops).blobs[bid]? = some b)
    (hlayers : ∀ (i : Nat) (l : Layer), (run ops).layers[i]? = some l →
      blobOfTok (run ops) l.blobTok = some bid → l.closed = true)
    (hev : (run ops).bc.m b.name ≠ some bid) :
    b.closed = true ∧ b.cacheClosed = true := by
  have inv := Inv.run ops
  have hcl : b.closed = true :=
    (closed_iff_dead inv.b.reach inv.b.link hb).mpr ⟨hev, blob_unheld inv hlayers⟩
  exact ⟨hcl, by rw [inv.b.flags _ b hb, hcl]⟩

/-- A closed layer released its blob reference WITH eviction (`l.blob.done(true)`): its blob is no
longer in the blob cache. -/
theorem closed_layer_blob_evicted (ops : List Op) (lid : Nat) (l : Layer)
    (hl : (run ops).layers[lid]? = some l) (hc : l.closed = true) :
    ∃ bid b, blobOfTok (run ops) l.blobTok = some bid ∧ (run ops).blobs[bid]? = some b ∧
      (run ops).bc.m b.name ≠ some bid := by
  have inv := Inv.run ops
  obtain ⟨tk, htk, _⟩ := inv.x.btok _ l hl
  obtain ⟨r, hr, hf⟩ := inv.f lid l tk hl hc htk
  obtain ⟨b, hb, hv, hn, _⟩ := inv.b.link.ok _ r hr
  refine ⟨tk.rc, b, by simp [blobOfTok, htk, valOf_of hr, hv], hb, ?_⟩
  intro hm
  have := (inv.b.reach.inv.stores.mem_iff hr).mp (hn ▸ hm)
  rw [hf] at this; cases this

/-- Both cache handles: when a layer is reclaimed (every holder released it and it is out of the
layer cache) and no other open layer instance uses its blob, then — besides the layer, its reader,
metadata and fs cache (`released_layer_reclaimed`) — the blob and its http cache directory are closed
too; no timer of the blob cache has to fire for that. -/
theorem released_layer_reclaims_blob (ops : List Op) (lid : Nat) (l : Layer)
    (hl : (run ops).layers[lid]? = some l)
    (hheld : held (run ops).lc.core.toks lid = 0)
    (hev : (run ops).lc.m l.name ≠ some lid)
    (hothers : ∀ (j : Nat) (lj : Layer), (run ops).layers[j]? = some lj → j ≠ lid →
      blobOfTok (run ops) lj.blobTok = blobOfTok (run ops) l.blobTok → lj.closed = true) :
    ∃ bid b, blobOfTok (run ops) l.blobTok = some bid ∧ (run ops).blobs[bid]? = some b ∧
      b.closed = true ∧ b.cacheClosed = true := by
  have hc := (released_layer_reclaimed ops lid l hl hheld hev).1
  obtain ⟨bid, b, hbt, hb, hm⟩ := closed_layer_blob_evicted ops lid l hl hc
  refine ⟨bid, b, hbt, hb, released_blob_reclaimed ops bid b hb ?_ hm⟩
  intro i li hli hbi
  by_cases e : i = lid
  · subst e; rw [hl] at hli; cases hli; exact hc
  · exact hothers i li hli e (by rw [hbi, hbt])

/-- The directories on disk are exactly the cache handles that are still open: one `fscache`
directory per open layer, one `httpcache` directory per open blob — nothing else, after any history
(in particular after failed resolves, and none at all once everything is reclaimed). -/
theorem dirs_match_open_handles (ops : List Op) :
    (run ops).fsDirs = (((run ops).layers.countP (fun l => !l.cachesClosed) : Nat) : Int) ∧
    (run ops).httpDirs = (((run ops).blobs.countP (fun b => !b.cacheClosed) : Nat) : Int) := by
  have inv := Inv.run ops
  exact ⟨by rw [inv.l.dirs, countP_not_congr fun _ _ hi => (inv.l.flagsOf hi).caches],
    by rw [inv.b.dirs, countP_not_congr inv.b.flags]⟩

/-- After a layer instance `a` of `name` was reclaimed (closed), a `Resolve` of `name` for which the
registry answers (`bres`, `mres`) succeeds with an instance different from `a` that is open and
readable; and when nothing is cached under `name` it is a brand-new instance. -/
theorem reresolve_fresh (ops : List Op) (name a : Nat) (la : Layer) (o : Oracle)
    (ha : (run ops).layers[a]? = some la) (hclosed : la.closed = true)
    (hb : o.bres = true) (hr : o.mres = true) :
    ∃ lid tok, (resolve (run ops) name o).2.layer? = some (lid, tok) ∧ lid ≠ a ∧
      ((run ops).lc.m name = none → (resolve (run ops) name o).2 = .fresh (run ops).layers.length tok) ∧
      readRes (resolve (run ops) name o).1 tok = .ok ∧
      ∃ l, (resolve (run ops) name o).1.layers[lid]? = some l ∧ l.closed = false ∧ l.name = name := by
  have inv := Inv.run ops
  have inv1 := inv.resolve name o
  have hok : ∃ lid tok, (resolve (run ops) name o).2.layer? = some (lid, tok) ∧
      ((run ops).lc.m name = none → (resolve (run ops) name o).2 = .fresh (run ops).layers.length tok) := by
    have sp := resolve_spec inv name o
    rcases sp.total with he | ⟨lid, tok, hl⟩
    · rcases sp.cause he with ⟨_, h⟩ | ⟨_, h⟩
      · rw [hb] at h; cases h
      · rw [hr] at h; cases h
    · refine ⟨lid, tok, hl, fun hn => ?_⟩
      obtain ⟨_, g⟩ := sp.ok hl
      rcases g.origin with ⟨_, hm, _⟩ | ⟨hf, hlen⟩
      · rw [hn] at hm; cases hm
      · exact hlen ▸ hf
  obtain ⟨lid, tok, hres, hfresh⟩ := hok
  obtain ⟨hm1, _, ⟨tk, htk, hrc, honce⟩, hshape⟩ := resolve_caches_result ops name o lid tok hres
  obtain ⟨l, _, _, held⟩ := held_reads inv1 htk honce
  have hl := held.layer
  rw [hrc] at hl
  obtain ⟨l2, _, c2, hn2⟩ := cached_open inv1.l.reach inv1.l.link hm1
  have hl2 := c2.obj
  rw [hl] at hl2; cases hl2
  refine ⟨lid, tok, hres, ?_, hfresh, held.read, l, hl, held.lopen, hn2⟩
  rcases hshape with ⟨hm, _⟩ | hnew
  · intro e
    subst e
    obtain ⟨l0, hl0, _, hc0, _⟩ := cached_layer_open ops name lid hm
    rw [ha] at hl0; cases hl0
    rw [hclosed] at hc0; cases hc0
  · have := (List.getElem_of_getElem? ha).1
    omega

/-- A `Resolve` that fails (blob resolution or metadata read; with or without a cached layer whose
check failed first) leaves: no layer object, no layer-cache entry and no blob-cache entry that was
not there before, no directory more than before, its own layer-cache closure released, and no
blob-cache closure that is not owned by one of the layers that existed before. -/
theorem failed_resolve_leaks_nothing (ops : List Op) (name : Nat) (o : Oracle)
    (hf : (resolve (run ops) name o).2.isErr = true) :
    let s := run ops
    let s' := (resolve (run ops) name o).1
    s'.layers.length = s.layers.length ∧
    (∀ k id, s'.lc.m k = some id → s.lc.m k = some id) ∧
    (∀ k id, s'.bc.m k = some id → s.bc.m k = some id) ∧
    s'.fsDirs ≤ s.fsDirs ∧ s'.httpDirs ≤ s.httpDirs ∧
    (∀ tok t, s'.lc.core.toks[tok]? = some t → s.lc.core.toks.length ≤ tok → t.once = true) ∧
    (∀ tok t, s'.bc.core.toks[tok]? = some t → t.once = false →
      ∃ i l, i < s.layers.length ∧ s'.layers[i]? = some l ∧ l.blobTok = tok ∧ l.closed = false) := by
  intro s s'
  have inv := Inv.run ops
  have inv1 : Inv s' none := inv.resolve name o
  obtain ⟨D, f⟩ := (resolve_spec inv name o).err hf
  have sub := f.sub
  refine ⟨sub.nlay, sub.lcm, sub.bcm, sub.fs, sub.http, ?_, ?_⟩
  · intro tok t ht hle
    rw [show s'.lc.core.toks = _ from f.toks, List.getElem?_append_right hle] at ht
    exact f.called t (List.mem_of_getElem? ht)
  intro tok t ht ho
  obtain ⟨i, l, hl, hbt, hc⟩ := inv1.x.owner ht ho
  exact ⟨i, l, sub.nlay ▸ (List.getElem_of_getElem? hl).1, hl, hbt, hc⟩

/-- A `Resolve` fails only when the registry refuses the blob (`bres`) or the metadata read fails
(`mres`); a failing connectivity check of a cached layer or blob alone never makes it fail. -/
theorem failed_resolve_classes (ops : List Op) (name : Nat) (o : Oracle)
    (hf : (resolve (run ops) name o).2.isErr = true) : o.bres = false ∨ o.mres = false :=
  ((resolve_spec (Inv.run ops) name o).cause hf).imp (·.2) (·.2)

private def allOk : Oracle := ⟨true, true, true, true⟩

-- held under expiry: resolve, share, first holder done, timer: the second holder still reads
example : (run [.resolve 0 allOk, .resolve 0 allOk, .done 0 false, .expireL 0]).lc.core.toks[1]? = some ⟨0, false⟩ := by
  decide
example : readRes (run [.resolve 0 allOk, .resolve 0 allOk, .done 0 false, .expireL 0]) 1 = .ok := by decide
-- … and the last release reclaims everything (hypotheses of `released_layer_reclaimed`, both directories gone)
example : (run [.resolve 0 allOk, .resolve 0 allOk, .done 0 false, .expireL 0, .done 1 false]).layers
    = [⟨0, 0, true, true, true, true, 1⟩] := by decide
example : held (run [.resolve 0 allOk, .resolve 0 allOk, .done 0 false, .expireL 0, .done 1 false]).lc.core.toks 0 = 0 := by
  decide
example : ((run [.resolve 0 allOk, .expireL 0, .done 0 false]).fsDirs,
           (run [.resolve 0 allOk, .expireL 0, .done 0 false]).httpDirs) = (0, 0) := by decide
-- hypotheses of `single_instance`: a successful resolve, non-evicting ops in between (incl. a failing resolve of another name)
example : (resolve (run []) 0 allOk).2.layer? = some (0, 0) := by decide
example : ∀ op ∈ [Op.resolve 1 ⟨true, true, false, true⟩, .done 0 false, .expireB 0, .expireL 1],
    mayEvict 0 op = false := by decide
-- a failing check under a holder: the old instance stays open for its holder, the name gets a new one
example : (resolve (run [.resolve 0 allOk]) 0 ⟨false, true, true, true⟩).2 = .fresh 1 2 := by decide
example : readRes (resolve (run [.resolve 0 allOk]) 0 ⟨false, true, true, true⟩).1 0 = .ok := by decide
-- hypotheses of `reresolve_fresh`: layer 0 reclaimed, then the name resolves to layer 1
example : (run [.resolve 0 allOk, .done 0 true]).layers[0]? = some ⟨0, 0, true, true, true, true, 1⟩ := by decide
example : (resolve (run [.resolve 0 allOk, .done 0 true]) 0 allOk).2 = .fresh 1 1 := by decide
-- hypotheses of `released_layer_reclaims_blob`: an older instance shares the blob; when both are reclaimed the blob goes
example : ((run [.resolve 0 allOk, .resolve 0 ⟨false, true, true, true⟩, .done 0 false]).layers.map (·.closed),
           (run [.resolve 0 allOk, .resolve 0 ⟨false, true, true, true⟩, .done 0 false]).blobs.map (·.closed))
    = ([true, false], [false]) := by decide
example : ((run [.resolve 0 allOk, .resolve 0 ⟨false, true, true, true⟩, .done 0 false, .done 2 true]).layers.map (·.closed),
           (run [.resolve 0 allOk, .resolve 0 ⟨false, true, true, true⟩, .done 0 false, .done 2 true]).blobs.map (·.closed))
    = ([true, true], [true]) := by decide
-- failing resolves of every kind exist (hypothesis of `failed_resolve_leaks_nothing`)
example : (resolve (run []) 0 ⟨true, true, false, true⟩).2 = .errBlob := by decide
example : (resolve (run [.resolve 0 allOk, .expireL 0]) 0 ⟨true, true, true, false⟩).2 = .errMeta := by decide
example : (resolve (run [.resolve 0 allOk]) 0 ⟨false, false, false, true⟩).2 = .errBlob := by decide
-- the failed metadata read evicted the blob shared with the old holder; the holder still reads
example : readRes (resolve (run [.resolve 0 allOk, .expireL 0]) 0 ⟨true, true, true, false⟩).1 0 = .ok := by decide
example : (resolve (run [.resolve 0 allOk, .expireL 0]) 0 ⟨true, true, true, false⟩).1.bc.m 0 = none := by decide

end SV.Props.C12
