/-
C02 end to end - the composition theorem.

Three models are proved separately and meet only through hypotheses:
  (i)   C03 `SV.Writer`   : every chunk entry of a built blob, read by the documented rule, yields
                            exactly its range of the file (`index_consistent`, `chunks_tile_file`);
  (ii)  C06 `SV.Blob`     : with an honest server `ReadAt(o,n)` on the remote blob returns exactly
                            `blob[o, min(o+n,size))` after any history, truncated cache entries
                            included (`Blob.readAt_specQ`, `Blob.runOps_specQ`);
  (iii) C02 `SV.LazyRead` : `file.ReadAt` returns exactly `content[off .. min(off+n,size))` after any
                            history PROVIDED `Under` is `Honest` and the chunk tables are `WF`.

Here (iii)'s hypotheses are DISCHARGED from (i) and (ii) for the concrete `Under` of
`SV/Model/E2E.lean` (TOC lookup -> `Blob.readAt` of the member range -> decompress -> skip/take).
What remains as hypotheses:
  * `CodecInverse`  - on the members the Writer emitted, `enc` yields `clen` bytes and `dec` inverts it;
  * `UniqueRegNames`- no two regular files of the input share a name (what `importTar` establishes;
                      the same hypothesis as C03's `index_consistent_by_name`);
  * honesty of the server (`Remote.Honest`: it may fail or send short bodies, never wrong bytes);
  * `0 < chunk` sizes (`Writer.chunkSize()` is always > 0: `effChunk_pos`).
-/
import SV.Lemmas.E2E
import SV.Lemmas.E2ESucc
import SV.Props.C02
import SV.Props.C03

namespace SV.Props.C02e2e
open SV.E2E
open SV.Writer (TarEnt TocEnt Member Fmt Params build writerRun callEnts keep UniqueRegNames)
open SV.LazyRead (Env Variant ChunkId Cache slice)

/-- `Build`: for every format, chunk size, min-chunk-size, worker count, entry list, TOC encoding
and compressor oracle, the built blob satisfies everything the composition needs. -/
theorem built_of_build (F : Fmt) (chunk minChunk workers : Nat) (ents : List TarEnt)
    (tocTar : List TocEnt → Writer.Bytes) (orcF orcC : List Nat) (a : Nat) (b : Writer.Blob)
    (hc : 0 < chunk) (hu : UniqueRegNames ents)
    (h : build F chunk minChunk workers ents tocTar orcF orcC a = some b) :
    Built ents b.members b.toc :=
  have hi := C03.index_consistent F chunk minChunk workers ents tocTar orcF orcC a b hc h
  ⟨hi.1, hi.2, C03.chunks_tile_file F chunk minChunk workers ents tocTar orcF orcC a b hc h, hu⟩

/-- Writer runs: any number of `AppendTar`/`AppendTarLossLess` calls, any `MinChunkSize`. -/
theorem built_of_writerRun (P : Params) (F : Fmt) (calls : List (List TarEnt × Writer.Bytes))
    (tocTar : List TocEnt → Writer.Bytes) (orcF orcC : List Nat) (a : Nat) (b : Writer.Blob)
    (hc : 0 < P.chunk) (hu : UniqueRegNames (callEnts calls))
    (h : writerRun P F calls tocTar orcF orcC a = some b) :
    Built (callEnts calls) b.members b.toc :=
  have hi := C03.writer_index_consistent P F calls tocTar orcF orcC a b hc h
  ⟨hi.1, hi.2, C03.writer_chunks_tile_file P F calls tocTar orcF orcC a b hc h, hu⟩

/-- For a built layer (any entry list / chunk size / min-chunk-size / compressor oracle: `Built`),
any codec inverse on the emitted members, any blob-chunk size > 0, any remote cache history and any
honest server behaviour (`R`): the concrete `Under` satisfies LazyRead's `Honest` for EVERY
verification function and co-chunk map (`E`) - in fact every chunk it delivers is the genuine one -
and the file description derived from the Writer's TOC satisfies `WF` (`Contig 0`, cover, size)
for every file id and both metadata-store variants. -/
theorem under_of_built_blob_honest (ents : List TarEnt) (L : Layer)
    (hb : Built ents L.members L.toc) (hcodec : CodecInverse L.codec L.members)
    (hc : 0 < L.blobChunk) (E : Env) (R : Remote) (hR : R.Honest L.bytes) :
    LazyRead.Honest (content ents) E (underOf L (R.env L)) ∧
    (∀ id b, underOf L (R.env L) id = some b → b = LazyRead.trueChunk (content ents) id) ∧
    (∀ v j, LazyRead.WF (content ents) (fileInfo v L.toc j)) ∧
    (∀ v j, LazyRead.Contig 0 (fileInfo v L.toc j).table) :=
  ⟨underOf_honest hb hcodec hc E R hR, fun id b => underOf_exact hb hcodec hc R hR id b,
   fun v j => wf_file hb v j, fun v j => (wf_file hb v j).contig⟩

/-- `content ents j` is the payload of the `j`-th kept tar entry when that is a regular file. -/
theorem content_of_regular (ents : List TarEnt) (j : Nat) (e : TarEnt)
    (he : (keep ents)[j]? = some e) (hreg : e.typ = .reg) : content ents j = e.data := by
  simp [content_eq, he, hreg]

/-- **End-to-end.** Layer built by the Writer model from `ents`; start from empty caches; run ANY
history `ops` of reads, prefetch-stores (single chunks or whole `cacheWithReader` walks), evictions
and truncations of the uncompressed chunk cache, every fetch of which met the remote blob cache after
ANY history of its own (blob reads, `Cache` calls, entry loss, entry truncation) and any honest
server reply.  Then a lazy read `ReadAt(off, n)` of file `j` that succeeds returns exactly
`content(j)[off .. min(off+n, size))`; it is short only at EOF and never wrong.  (With
`content_of_regular`: the bytes of the regular file of the input tar.) -/
theorem e2e_read_exact (ents : List TarEnt) (L : Layer) (hb : Built ents L.members L.toc)
    (hcodec : CodecInverse L.codec L.members) (hc : 0 < L.blobChunk) (E : Env)
    (ops : List Op) (hops : ∀ op ∈ ops, op.Honest L.bytes)
    (j : Nat) (v : Variant) (off n : Nat) (R : Remote) (hR : R.Honest L.bytes) (b : E2E.Bytes) :
    (LazyRead.step E (LazyRead.runOps E (ops.map (Op.lower L)) Cache.empty)
        ((Op.read j v off n R).lower L)).2 = .ok b →
      b = slice (content ents j) off n ∧ b.length = min n ((content ents j).length - off) := by
  intro h
  have hops' : ∀ op ∈ ops.map (Op.lower L), LazyRead.OpOK (content ents) E op := by
    intro op hop
    obtain ⟨o, ho, rfl⟩ := List.mem_map.mp hop
    exact lower_ok hb hcodec hc E o (hops o ho)
  exact C02.read_exact_any_history (content ents) E _ hops' (fileInfo v L.toc j) (wf_file hb v j)
    _ (underOf_honest hb hcodec hc E R hR) off n b h

/-- The same with the Writer run spelled out: for ALL `AppendTar` call lists, chunk sizes,
min-chunk-sizes, formats, TOC encodings and compressor oracle streams. -/
theorem e2e_read_exact_writerRun (P : Params) (F : Fmt) (calls : List (List TarEnt × Writer.Bytes))
    (tocTar : List TocEnt → Writer.Bytes) (orcF orcC : List Nat) (a : Nat) (bl : Writer.Blob)
    (hcw : 0 < P.chunk) (hu : UniqueRegNames (callEnts calls))
    (hrun : writerRun P F calls tocTar orcF orcC a = some bl)
    (C : Codec) (footer : E2E.Bytes) (blobChunk : Nat) (hcodec : CodecInverse C bl.members)
    (hc : 0 < blobChunk) (E : Env) (ops : List Op)
    (hops : ∀ op ∈ ops, op.Honest (layerOf C bl footer blobChunk).bytes)
    (j : Nat) (v : Variant) (off n : Nat) (R : Remote)
    (hR : R.Honest (layerOf C bl footer blobChunk).bytes) (b : E2E.Bytes) :
    (LazyRead.step E (LazyRead.runOps E (ops.map (Op.lower (layerOf C bl footer blobChunk))) Cache.empty)
        ((Op.read j v off n R).lower (layerOf C bl footer blobChunk))).2 = .ok b →
      b = slice (content (callEnts calls) j) off n :=
  fun h => (e2e_read_exact (callEnts calls) (layerOf C bl footer blobChunk)
    (built_of_writerRun P F calls tocTar orcF orcC a bl hcw hu hrun) hcodec hc E ops hops
    j v off n R hR b h).1

/-- ... and with `Build` spelled out (any worker count). -/
theorem e2e_read_exact_build (F : Fmt) (chunk minChunk workers : Nat) (ents : List TarEnt)
    (tocTar : List TocEnt → Writer.Bytes) (orcF orcC : List Nat) (a : Nat) (bl : Writer.Blob)
    (hcw : 0 < chunk) (hu : UniqueRegNames ents)
    (hrun : build F chunk minChunk workers ents tocTar orcF orcC a = some bl)
    (C : Codec) (footer : E2E.Bytes) (blobChunk : Nat) (hcodec : CodecInverse C bl.members)
    (hc : 0 < blobChunk) (E : Env) (ops : List Op)
    (hops : ∀ op ∈ ops, op.Honest (layerOf C bl footer blobChunk).bytes)
    (j : Nat) (v : Variant) (off n : Nat) (R : Remote)
    (hR : R.Honest (layerOf C bl footer blobChunk).bytes) (b : E2E.Bytes) :
    (LazyRead.step E (LazyRead.runOps E (ops.map (Op.lower (layerOf C bl footer blobChunk))) Cache.empty)
        ((Op.read j v off n R).lower (layerOf C bl footer blobChunk))).2 = .ok b →
      b = slice (content ents j) off n :=
  fun h => (e2e_read_exact ents (layerOf C bl footer blobChunk)
    (built_of_build F chunk minChunk workers ents tocTar orcF orcC a bl hcw hu hrun) hcodec hc E ops
    hops j v off n R hR b h).1

/-- The composed read loop terminates whatever the layer, the caches and the remote side do. -/
theorem e2e_read_terminates (L : Layer) (E : Env) (ops : List Op) (j : Nat) (v : Variant)
    (off n : Nat) (R : Remote) :
    (LazyRead.step E (LazyRead.runOps E (ops.map (Op.lower L)) Cache.empty)
        ((Op.read j v off n R).lower L)).2 ≠ .diverge :=
  C02.read_terminates E _ _ _ off n

/-- The remote side of an operation whose every chunk fetch is answered by a server that sends
exactly the requested ranges (`Blob.honestAnswer` of `Blob.requestRanges`, multi- or single-range). -/
def HonestServer (L : Layer) (single : Bool) (R : Remote) : Prop :=
  (∀ id, ∀ op ∈ R.hist id, op.Honest L.bytes) ∧
  ∀ id, R.reply id = honestReplyFor L (Blob.runOps L.params {} (R.hist id)) single id

/-- The statement of `e2e_read_total_correct`: with an honest
server and an environment that accepts genuine chunks and pre-reads nothing, every lazy read - any
file id, any offset (at or after EOF included), any length (0 included), after any history at both
cache levels - succeeds with exactly `content(j)[off, min(off+n,size))`.  No error branch of the
model can be taken under these hypotheses, so none is excepted. -/
def E2EReadSucceeds : Prop :=
  ∀ (ents : List TarEnt) (L : Layer), Built ents L.members L.toc → CodecInverse L.codec L.members →
    0 < L.blobChunk → ∀ (E : Env),
    (∀ id, E.verify id (LazyRead.trueChunk (content ents) id) = true) → (∀ id, E.co id = some []) →
    ∀ (ops : List Op), (∀ op ∈ ops, op.Honest L.bytes) →
    ∀ (j : Nat) (v : Variant) (off n : Nat) (single : Bool) (R : Remote), HonestServer L single R →
      (LazyRead.step E (LazyRead.runOps E (ops.map (Op.lower L)) Cache.empty)
        ((Op.read j v off n R).lower L)).2 = .ok (slice (content ents j) off n)

/-- Chunk level (the step `e2e_read_succeeds` takes per chunk): against an honest server, after ANY
history of the remote blob cache (truncated and lost entries included), the composed `Under` DELIVERS the
genuine chunk, of the recorded length, for every chunk of every file, and `fetchChunk`
(`sf.fr.ReadAt` + `verifyAndCache`, the miss path of `file.ReadAt`) succeeds on it from every
cache.  The induction over the rounds of the `file.ReadAt` loop is `LazyRead.readLoop_rule`
(SV/Lemmas/LazyRead.lean), of which `LazyRead.readLoop_succeeds` is the instance with the trivial
invariant. -/
theorem e2e_chunk_fetch_succeeds_partial (ents : List TarEnt) (L : Layer)
    (hb : Built ents L.members L.toc) (hcodec : CodecInverse L.codec L.members)
    (hc : 0 < L.blobChunk) (E : Env)
    (hv : ∀ id, E.verify id (LazyRead.trueChunk (content ents) id) = true)
    (hco : ∀ id, E.co id = some []) (single : Bool) (R : Remote) (hR : HonestServer L single R)
    (v : Variant) (j : Nat) (ch : LazyRead.Chunk) (hch : ch ∈ (fileInfo v L.toc j).table)
    (c : Cache) :
    underOf L (R.env L) ⟨j, ch.off, ch.size⟩ =
        some (LazyRead.trueChunk (content ents) ⟨j, ch.off, ch.size⟩) ∧
    (LazyRead.trueChunk (content ents) ⟨j, ch.off, ch.size⟩).length = ch.size ∧
    (LazyRead.fetchChunk E (underOf L (R.env L)) c ⟨j, ch.off, ch.size⟩).2 =
        some (LazyRead.trueChunk (content ents) ⟨j, ch.off, ch.size⟩) := by
  have hu : underOf L (R.env L) ⟨j, ch.off, ch.size⟩ =
      some (LazyRead.trueChunk (content ents) ⟨j, ch.off, ch.size⟩) := by
    simp only [underOf, Remote.env, hR.2]
    exact under_honest_delivers hb hcodec hc _ (hist_inv hc (hR.1 _)) single j ch hch
  have hl := LazyRead.trueChunk_length (wf_file hb v j) ch hch
  exact ⟨hu, hl, LazyRead.fetchChunk_of_under hco hu hl (hv _) c⟩

theorem honestServer_honest (L : Layer) (single : Bool) (R : Remote) (hR : HonestServer L single R) :
    R.Honest L.bytes :=
  fun id => ⟨hR.1 id, by rw [hR.2 id]; exact honestReplyFor_honest L _ single id⟩

/-- **No error branch.** With an honest server (answering exactly the requested ranges, after ANY
history of the remote blob cache, truncated/lost entries included), an environment that accepts
genuine chunks and pre-reads nothing, from the cache left by ANY history at the FUSE side (`ops` is
not even required to be honest here): the lazy read of any file id, offset and length ends `.ok`. -/
theorem e2e_read_succeeds (ents : List TarEnt) (L : Layer) (hb : Built ents L.members L.toc)
    (hcodec : CodecInverse L.codec L.members) (hc : 0 < L.blobChunk) (E : Env)
    (hv : ∀ id, E.verify id (LazyRead.trueChunk (content ents) id) = true)
    (hco : ∀ id, E.co id = some []) (ops : List Op)
    (j : Nat) (v : Variant) (off n : Nat) (single : Bool) (R : Remote) (hR : HonestServer L single R) :
    ∃ b, (LazyRead.step E (LazyRead.runOps E (ops.map (Op.lower L)) Cache.empty)
        ((Op.read j v off n R).lower L)).2 = .ok b := by
  have hd : LazyRead.Delivers (content ents) E (underOf L (R.env L)) (fileInfo v L.toc j) :=
    fun ch hch c =>
      (e2e_chunk_fetch_succeeds_partial ents L hb hcodec hc E hv hco single R hR v j ch hch c).2.2
  exact LazyRead.fileReadAt_succeeds (wf_file hb v j) hd _ off n

/-- **Total correctness** (`E2EReadSucceeds`): with an honest server the read returns `.ok` of exactly
`content(j)[off, min(off+n, size))`. -/
theorem e2e_read_total_correct : E2EReadSucceeds := by
  intro ents L hb hcodec hc E hv hco ops hops j v off n single R hR
  obtain ⟨b, h⟩ := e2e_read_succeeds ents L hb hcodec hc E hv hco ops j v off n single R hR
  rw [h, (e2e_read_exact ents L hb hcodec hc E ops hops j v off n R
    (honestServer_honest L single R hR) b h).1]

/-- **Threaded variant.** The lazy read starts with the remote blob cache in the state left by any
honest remote history `h0`; its chunk fetches happen in some order `order` (ANY list of chunk ids:
in particular the order of the rounds of `file.ReadAt`), and each fetch meets the remote cache in
the state the PREVIOUS fetches of the same operation left (`threadState`, computed with the state
`underSt` returns), with its own honest reply.  A successful read still returns exactly
`content(j)[off, min(off+n,size))`.  (Per operation `Under` is a function of the chunk id - LazyRead's
model - so a chunk fetched twice within one operation meets the state of its first fetch.) -/
theorem e2e_read_exact_threaded (ents : List TarEnt) (L : Layer) (hb : Built ents L.members L.toc)
    (hcodec : CodecInverse L.codec L.members) (hc : 0 < L.blobChunk) (E : Env)
    (ops : List Op) (hops : ∀ op ∈ ops, op.Honest L.bytes)
    (j : Nat) (v : Variant) (off n : Nat)
    (h0 : List Blob.Op) (hh0 : ∀ op ∈ h0, op.Honest L.bytes) (order : List ChunkId)
    (rs : ChunkId → Blob.Reply) (hrs : ∀ id, Blob.HonestReply L.bytes (rs id)) (b : E2E.Bytes) :
    (LazyRead.fileReadAt E
        (fun id => under L (threadState L rs (Blob.runOps L.params {} h0) order id) (rs id) id)
        (fileInfo v L.toc j) (LazyRead.runOps E (ops.map (Op.lower L)) Cache.empty) off n).2 = .ok b →
      b = slice (content ents j) off n ∧ b.length = min n ((content ents j).length - off) := by
  intro h
  have hu : (fun id => under L (threadState L rs (Blob.runOps L.params {} h0) order id) (rs id) id) =
      underOf L ((Remote.threaded L h0 order rs).env L) := by
    funext id
    simp only [underOf, Remote.env, Remote.threaded, threadState_eq]
  rw [hu] at h
  exact e2e_read_exact ents L hb hcodec hc E ops hops j v off n (Remote.threaded L h0 order rs)
    (threaded_honest L h0 order rs hh0 hrs) b h

/-- **Order independence.** Two arbitrary honest access histories (different orders, different
cache contents at both levels, different server behaviour): reads of the same range of the same
file that succeed return the same bytes. -/
theorem e2e_order_independent (ents : List TarEnt) (L : Layer) (hb : Built ents L.members L.toc)
    (hcodec : CodecInverse L.codec L.members) (hc : 0 < L.blobChunk) (E E' : Env)
    (ops ops' : List Op) (hops : ∀ op ∈ ops, op.Honest L.bytes)
    (hops' : ∀ op ∈ ops', op.Honest L.bytes)
    (j : Nat) (v v' : Variant) (off n : Nat) (R R' : Remote) (hR : R.Honest L.bytes)
    (hR' : R'.Honest L.bytes) (b b' : E2E.Bytes)
    (h : (LazyRead.step E (LazyRead.runOps E (ops.map (Op.lower L)) Cache.empty)
        ((Op.read j v off n R).lower L)).2 = .ok b)
    (h' : (LazyRead.step E' (LazyRead.runOps E' (ops'.map (Op.lower L)) Cache.empty)
        ((Op.read j v' off n R').lower L)).2 = .ok b') : b = b' := by
  rw [(e2e_read_exact ents L hb hcodec hc E ops hops j v off n R hR b h).1,
    (e2e_read_exact ents L hb hcodec hc E' ops' hops' j v' off n R' hR' b' h').1]

/-- **Idempotence of re-reads.** Reading the same range again - right after the first read, or
after any further honest history `more` - returns the same bytes (whatever the first read left in
the caches and whatever the remote side does meanwhile). -/
theorem e2e_reread_idempotent (ents : List TarEnt) (L : Layer) (hb : Built ents L.members L.toc)
    (hcodec : CodecInverse L.codec L.members) (hc : 0 < L.blobChunk) (E : Env)
    (ops more : List Op) (hops : ∀ op ∈ ops, op.Honest L.bytes)
    (hmore : ∀ op ∈ more, op.Honest L.bytes)
    (j : Nat) (v : Variant) (off n : Nat) (R R' : Remote) (hR : R.Honest L.bytes)
    (hR' : R'.Honest L.bytes) (b b' : E2E.Bytes)
    (h : (LazyRead.step E (LazyRead.runOps E (ops.map (Op.lower L)) Cache.empty)
        ((Op.read j v off n R).lower L)).2 = .ok b)
    (h' : (LazyRead.step E
        (LazyRead.runOps E ((ops ++ Op.read j v off n R :: more).map (Op.lower L)) Cache.empty)
        ((Op.read j v off n R').lower L)).2 = .ok b') : b = b' :=
  e2e_order_independent ents L hb hcodec hc E E ops (ops ++ Op.read j v off n R :: more)
    hops (List.forall_mem_append.mpr ⟨hops, List.forall_mem_cons.mpr ⟨hR, hmore⟩⟩)
    j v v off n R R' hR hR' b b' h h'

/-- A codec for examples: a member is "compressed" to its index in the member table followed by
padding up to `clen` bytes; decompression looks the index up. -/
def dictCodec (ms : List Member) : Codec :=
  { enc := fun m => UInt8.ofNat (ms.idxOf m) :: List.replicate (m.clen - 1) 0
    dec := fun bs => match bs with
      | i :: _ => (ms[i.toNat]?).map (·.payload)
      | [] => none }

/-- Two regular files (5 and 2 bytes) and a directory; chunk size 3: three chunks. -/
def exEnts : List TarEnt :=
  [⟨"d/", .dir, false, [9], [], []⟩, ⟨"d/a", .reg, false, [8], [1, 2, 3, 4, 5], [0, 0, 0]⟩,
   ⟨"d/b", .reg, false, [7], [6, 7], [0]⟩]

def exBlob : Writer.Blob :=
  (writerRun ⟨3, 0, [], false⟩ .gzip [(exEnts, [])] (fun _ => [42]) [2, 0, 1] [3, 1] 6).getD default

def exL : Layer := layerOf (dictCodec exBlob.members) exBlob [0xEE, 0xEE, 0xEE] 4

def exE : Env := { verify := fun _ _ => true, co := fun _ => some [] }

/-- a server that always sends the whole blob as one part -/
def exWhole : Blob.Reply := .parts [⟨0, exL.bytes.length - 1, exL.bytes⟩]

/-- remote side: before each chunk fetch the blob cache saw a read, lost an entry and had one
truncated; the fetch itself is answered with the whole blob -/
def exR : Remote :=
  { hist := fun _ => [.read 3 6 exWhole, .drop ⟨4, 7⟩, .trunc ⟨0, 3⟩ 2], reply := fun _ => exWhole }

example : (writerRun ⟨3, 0, [], false⟩ .gzip [(exEnts, [])] (fun _ => [42]) [2, 0, 1] [3, 1] 6).isSome
    = true := by decide +kernel
example : exBlob.toc.map (fun x => (x.typ, x.offset, x.innerOffset, x.chunkOffset, x.chunkSize)) =
    [(.dir, 0, 0, 0, 0), (.reg, 6, 0, 0, 3), (.chunk, 8, 0, 3, 0), (.reg, 10, 0, 0, 0)] := by decide +kernel
example : groupsOf exBlob.toc = [exBlob.toc.take 1, (exBlob.toc.drop 1).take 2, exBlob.toc.drop 3] := by
  decide +kernel
example : (fileInfo .mem exL.toc 1).table = [⟨0, 3⟩, ⟨3, 2⟩] ∧ (fileInfo .mem exL.toc 2).table = [⟨0, 2⟩] ∧
    (fileInfo .mem exL.toc 0).table = [] := by decide +kernel

/-- the hypotheses of the theorems are met by the example -/
example : UniqueRegNames exEnts := Writer.uniqueRegNames_of_nodup (by decide)
example : CodecInverse exL.codec exL.members := ⟨by decide +kernel, by decide +kernel⟩
example : exR.Honest exL.bytes := fun _ =>
  ⟨show ∀ op ∈ [Blob.Op.read 3 6 exWhole, .drop ⟨4, 7⟩, .trunc ⟨0, 3⟩ 2], op.Honest exL.bytes by decide +kernel,
   show Blob.HonestReply exL.bytes exWhole by decide +kernel⟩
example : Built exEnts exL.members exL.toc :=
  built_of_writerRun ⟨3, 0, [], false⟩ .gzip [(exEnts, [])] (fun _ => [42]) [2, 0, 1] [3, 1] 6 exBlob
    (by decide) (Writer.uniqueRegNames_of_nodup (by decide)) rfl

/-- an honest-server remote side exists for every layer (here: no prior remote history) -/
example (L : Layer) (single : Bool) : HonestServer L single
    { hist := fun _ => [], reply := fun id => honestReplyFor L {} single id } :=
  ⟨fun _ _ h => by simp at h, fun _ => rfl⟩

/-- the composed executable read returns the expected bytes: across both chunks of `d/a`, short at
EOF; the single chunk of `d/b`; after a history that evicts and truncates at both levels -/
example : (LazyRead.step exE Cache.empty ((Op.read 1 .mem 1 10 exR).lower exL)).2 = .ok [2, 3, 4, 5] := by
  decide +kernel
example : (LazyRead.step exE Cache.empty ((Op.read 2 .db 0 2 exR).lower exL)).2 = .ok [6, 7] := by decide +kernel
example : (LazyRead.step exE
    (LazyRead.runOps exE ([Op.read 1 .mem 0 2 exR, .truncate ⟨1, 0, 3⟩ 1, .evict ⟨1, 3, 2⟩,
      .cacheFiles (fun _ => true) [(2, .mem)] exR].map (Op.lower exL)) Cache.empty)
    ((Op.read 1 .db 0 5 exR).lower exL)).2 = .ok [1, 2, 3, 4, 5] := by decide +kernel
/-- a failing registry gives an error, not bytes -/
example : (LazyRead.step exE Cache.empty
    ((Op.read 1 .mem 0 5 { hist := fun _ => [], reply := fun _ => .fail }).lower exL)).2 = .err := by
  decide +kernel

/-- an honest server with no prior remote history; the examples below are the edge cases of
`e2e_read_succeeds` -/
def exHS : Remote := { hist := fun _ => [], reply := fun id => honestReplyFor exL {} false id }
def exHS1 : Remote :=
  { hist := fun _ => [.read 3 6 exWhole, .trunc ⟨4, 7⟩ 1],
    reply := fun id => honestReplyFor exL
      (Blob.runOps exL.params {} [.read 3 6 exWhole, .trunc ⟨4, 7⟩ 1]) true id }
example : HonestServer exL true exHS1 :=
  ⟨fun _ => show ∀ op ∈ [Blob.Op.read 3 6 exWhole, .trunc ⟨4, 7⟩ 1], op.Honest exL.bytes by decide +kernel,
   fun _ => rfl⟩
example : (LazyRead.step exE Cache.empty ((Op.read 1 .mem 1 10 exHS).lower exL)).2 = .ok [2, 3, 4, 5] := by
  decide +kernel
example : (LazyRead.step exE Cache.empty ((Op.read 1 .db 2 2 exHS1).lower exL)).2 = .ok [3, 4] := by decide +kernel
-- offset at EOF, after EOF, zero-length read, a directory (no data), a file id that does not exist
example : (LazyRead.step exE Cache.empty ((Op.read 1 .mem 5 3 exHS).lower exL)).2 = .ok [] := by decide +kernel
example : (LazyRead.step exE Cache.empty ((Op.read 1 .db 9 3 exHS).lower exL)).2 = .ok [] := by decide +kernel
example : (LazyRead.step exE Cache.empty ((Op.read 2 .mem 1 0 exHS).lower exL)).2 = .ok [] := by decide +kernel
example : (LazyRead.step exE Cache.empty ((Op.read 0 .mem 0 4 exHS).lower exL)).2 = .ok [] := by decide +kernel
example : (LazyRead.step exE Cache.empty ((Op.read 7 .db 0 4 exHS).lower exL)).2 = .ok [] := by decide +kernel

/-- threaded: the second chunk of `d/a` is fetched from the remote cache the first fetch left -/
example : (LazyRead.fileReadAt exE
    (fun id => under exL (threadState exL (fun _ => exWhole) (Blob.runOps exL.params {} [.cache 0 4 .fail])
      [⟨1, 0, 3⟩, ⟨1, 3, 2⟩] id) exWhole id)
    (fileInfo .mem exL.toc 1) Cache.empty 0 5).2 = .ok [1, 2, 3, 4, 5] := by decide +kernel
example : (threadState exL (fun _ => exWhole) {} [⟨1, 0, 3⟩, ⟨1, 3, 2⟩] ⟨1, 3, 2⟩).cache.length = 6 ∧
    (threadState exL (fun _ => exWhole) {} [⟨1, 0, 3⟩, ⟨1, 3, 2⟩] ⟨1, 0, 3⟩).cache.length = 0 := by decide +kernel

end SV.Props.C02e2e
