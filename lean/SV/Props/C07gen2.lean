/-
C07 — regenerated tie.  `SV/Gen/Fs.lean` (constants of fs/layer/node.go and
`fileModeToSystemMode`) and `SV/Gen/Estargz.lean` (reserved names) are produced from the CURRENT
Go sources by `tools/go2lean` on every run.  The theorems state that they are what the
hand-written overlay model (`SV.Overlay`) and the TOC model's `sysMode` (`SV.Toc`) use.
`os.FileMode`/`uint32` are translated to `Nat` with `&&&`/`|||` (neither can overflow).
-/
import SV.Gen.Fs
import SV.Gen.Estargz
import SV.Model.Overlay
import SV.Model.Toc

namespace SV.Props.C07gen2
open SV

theorem whiteoutPrefix_eq : Gen.Fs.whiteoutPrefix_chars = Overlay.whiteoutPrefix := by decide
theorem whiteoutOpaqueDir_eq : Gen.Fs.whiteoutOpaqueDir_chars = Overlay.opaqueMarker := by decide +kernel
theorem opaqueXattrValue_eq : Gen.Fs.opaqueXattrValue_chars = Overlay.opaqueXattrValue := by decide
theorem stateDirName_eq : Gen.Fs.stateDirName_chars = Overlay.stateDirName := by decide +kernel
theorem statFileMode_eq : Gen.Fs.statFileMode = (Overlay.statFileMode : Int) := by decide
theorem stateDirMode_eq : Gen.Fs.stateDirMode = (Overlay.stateDirMode : Int) := by decide
theorem tocTarName_eq : Gen.Estargz.TOCTarName_chars = Overlay.tocTarName := by decide +kernel
theorem prefetchLandmark_eq : Gen.Estargz.PrefetchLandmark_chars = Overlay.prefetchLandmark := by decide +kernel
theorem noPrefetchLandmark_eq : Gen.Estargz.NoPrefetchLandmark_chars = Overlay.noPrefetchLandmark := by decide +kernel
/-- `out.Blocks` of `entryToAttr` counts 512-byte units per 4096-byte block -/
theorem block_ratio : Gen.Fs.physicalBlockRatio = 8 ∧ Gen.Fs.blockSize = 4096 ∧
    Gen.Fs.blockSize = Gen.Fs.physicalBlockRatio * Gen.Fs.physicalBlockSize := by decide

/-- FULL statement (not proved here): the translated `fileModeToSystemMode` is `Toc.sysMode` on every 32-bit mode. -/
def fileModeToSystemMode_eq_full : Prop :=
  ∀ fm : Nat, fm < 2 ^ 32 → Gen.Fs.fileModeToSystemMode fm = Toc.sysMode fm

/-- the `os.FileMode` type parts `TOCEntry.Stat().Mode()` can produce (`Toc.goFileMode`) plus socket -/
def typeParts : List Nat :=
  [0, Toc.modeDir, Toc.modeSymlink, Toc.modeDevice + Toc.modeCharDevice, Toc.modeDevice, Toc.modeNamedPipe, Toc.modeSocket]

/-- permission parts the proved part enumerates -/
def permParts : List Nat := [0, 0o111, 0o400, 0o644, 0o755, 0o777]

/-- Proved part (finite, by evaluation): equality on every mode made of one of `permParts`, any
combination of setuid/setgid/sticky and one type part a TOC entry can have (6·8·7 modes; every branch
of the Go switch and every flag test is exercised).  Missing for the full statement: arbitrary
permission bits and modes with several/unknown type bits. -/
theorem fileModeToSystemMode_eq_partial :
    ∀ ty ∈ typeParts, ∀ su sg st : Bool, ∀ p ∈ permParts,
      let fm := p + (if su then Toc.modeSetuid else 0) + (if sg then Toc.modeSetgid else 0)
                  + (if st then Toc.modeSticky else 0) + ty
      Gen.Fs.fileModeToSystemMode fm = Toc.sysMode fm := by
  decide +kernel

example : Gen.Fs.fileModeToSystemMode (Toc.modeDir + 0o755) = 0o40755 := by decide

end SV.Props.C07gen2
