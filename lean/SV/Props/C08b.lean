/-
C08 (part b) — the interleaved semantics of the snapshotter is TIED to the real code by trace
refinement: `svdriver_c08` replays every atomic event of a concurrent run of the real snapshotter
with `SV.Snap.Trace.fire` (`SV/Model/SnapTrace.lean`).  An accepted trace is an execution of the
interleaved semantics `CStep {}`, so every `*_concurrent` theorem of `Props/C08.lean` holds in every
state along it.  Call RESULTS under concurrency are not tracked by `CStep`: the `*_linearizable`
theorems say that the result the checker fixes at the call's commit point (its write-transaction step)
is the SEQUENTIAL model's result for the state at that point, and that the step has the sequential effect.
-/
import SV.Lemmas.SnapTrace
import SV.Props.C08

namespace SV.Props.C08b
open SV.Snap SV.Snap.Conc SV.Snap.Trace

/-- one accepted event is one transition of the interleaved semantics -/
theorem fire_is_cstep (t t' : TState) (ev : Ev) (hb : Bounded t) (h : fire t ev = some t') :
    CStep {} t.c t'.c :=
  (fire_sound hb h).1

/-- an accepted trace (from a fresh root) ends in a state of the interleaved semantics -/
theorem accept_sound (cfg : Config) (evs : List Ev) (t : TState) (h : run (tinit cfg) evs = some t) :
    CReach {} cfg t.c :=
  (run_sound (bounded_init cfg) CReach.init h).1

/-- … and so does every prefix: all states ALONG an accepted trace are states of the interleaved
semantics, where the invariant (and with it every `*_concurrent` theorem) holds -/
theorem accept_sound_prefix (cfg : Config) (evs : List Ev) (t : TState) (h : run (tinit cfg) evs = some t) (k : Nat) :
    ∃ tk, run (tinit cfg) (evs.take k) = some tk ∧ CReach {} cfg tk.c ∧ CInvar tk.c := by
  obtain ⟨tk, htk⟩ := run_take h k
  have hr := accept_sound cfg _ tk htk
  exact ⟨tk, htk, hr, cinvar_reachable hr⟩

/-- the clauses of C08 along an accepted trace: every live snapshot has its directory, every backend
mount has its directory, and what a cleanup loop in flight is going to unmount is owned by no
live snapshot -/
theorem accepted_trace_safe (cfg : Config) (evs : List Ev) (t : TState) (h : run (tinit cfg) evs = some t) :
    (∀ a ∈ t.c.s.snaps, Dir.id a.id ∈ t.c.s.dirs) ∧ (∀ n ∈ t.c.s.mounts, Dir.id n ∈ t.c.s.dirs) ∧
    (∀ i ds u, t.c.th i = .clean ds u → ∀ d ∈ ds, ∀ n, d = Dir.id n → ∀ a ∈ t.c.s.snaps, a.id ≠ n) :=
  have hr := accept_sound cfg evs t h
  ⟨C08.live_snapshot_dirs_never_removed_concurrent cfg t.c hr, C08.mount_implies_dir_concurrent cfg t.c hr,
    C08.unmount_only_after_removed_concurrent cfg t.c hr⟩

/-- every backend call succeeds (`default : Oracle`) -/
def demoOrc : Oracle := ⟨fun _ => true, fun _ => true, fun _ => true⟩

-- the acceptor is not vacuous: it also REJECTS — Cleanup's scan is not enabled while a Prepare holds the writer
-- lock (the interleaving a Cleanup scanning under a read transaction would open)

example : (run (tinit {}) [.spawn 0 (.prepare "k" "" []) demoOrc, .spawn 1 (.cleanup []) demoOrc,
    .txBegin 0, .rename 0, .tx 1]).isNone = true := rfl

example : (run (tinit {}) [.spawn 0 (.prepare "k" "" []) demoOrc, .spawn 1 (.cleanup []) demoOrc,
    .txBegin 0, .rename 0, .txCommit 0, .tx 1, .ret 0, .ret 1]).isSome = true := rfl

/-- Commit: the event `tx i` of a thread that issued `Commit(name, key, labels)` has exactly the
sequential effect of the call on the state at that point, and fixes the sequential result. -/
theorem commit_linearizable (t t' : TState) (i : Nat) (name key : String) (labels : Labels)
    (hpc : t.c.th i = .idle (.commit name key labels)) (hcl : t.c.s.closed = false)
    (h : fire t (.tx i) = some t') :
    t'.c.s = (runOp t.c.s (t.c.orc i) (.commit name key labels)).1 ∧
    t'.res i = some (runOp t.c.s (t.c.orc i) (.commit name key labels)).2 ∧ t'.c.th i = .done := by
  obtain ⟨_, hcase⟩ := fireTx_cases (t := t) (i := i) h
  simp only [runOp, plan, hcl, Bool.false_eq_true, if_false]
  rw [commitPlan_steps]
  cases hcase with
  | commitOk hpc' hr => cases hpc.symm.trans hpc'; rw [hr]; exact ⟨rfl, by simp [setRes], by simp [CState.run, setPc]⟩
  | commitFail hpc' hr =>
    cases hpc.symm.trans hpc'; rw [if_neg hr]; exact ⟨rfl, by simp [setRes], by simp [CState.goto, setPc]⟩
  | _ hpc' => cases hpc.symm.trans hpc'

/-- Remove: the event `tx i` fixes the sequential result for the state at that point; when it is `ok`
the metadata step of the sequential plan (`txRemove`) is taken, otherwise nothing changes -/
theorem remove_linearizable (t t' : TState) (i : Nat) (key : String) (order : List Dir)
    (hpc : t.c.th i = .idle (.remove key order)) (hcl : t.c.s.closed = false)
    (h : fire t (.tx i) = some t') :
    t'.res i = some (runOp t.c.s (t.c.orc i) (.remove key order)).2 ∧
    t'.c.s = (if (runOp t.c.s (t.c.orc i) (.remove key order)).2 = .ok then applyStep t.c.s (.txRemove key) else t.c.s) := by
  obtain ⟨_, hcase⟩ := fireTx_cases (t := t) (i := i) h
  simp only [runOp, plan, hcl, Bool.false_eq_true, if_false]
  cases hcase with
  | removeOk hpc' hr => cases hpc.symm.trans hpc'; rw [hr]; exact ⟨by simp [setRes], rfl⟩
  | removeFail hpc' hr => cases hpc.symm.trans hpc'; rw [if_neg hr]; exact ⟨by simp [setRes], rfl⟩
  | _ hpc' => cases hpc.symm.trans hpc'

/-- … and (synchronous removal) the directories the thread goes on to reclaim are exactly the ones the
sequential plan reclaims, in the same order -/
theorem remove_cleans_sequential_dirs (t t' : TState) (i : Nat) (key : String) (order : List Dir)
    (hpc : t.c.th i = .idle (.remove key order)) (hsync : t.c.s.cfg.asyncRemove = false)
    (hok : (removePlan t.c.s (t.c.orc i) key order).2 = .ok)
    (h : fire t (.tx i) = some t') :
    ∃ ds, t'.c.th i = .clean ds false ∧
      (removePlan t.c.s (t.c.orc i) key order).1 =
        .txRemove key :: .marker "remove.txcommitted" :: cleanupSteps (t.c.orc i) ds := by
  obtain ⟨_, hcase⟩ := fireTx_cases (t := t) (i := i) h
  cases hcase with
  | removeOk hpc' =>
    cases hpc.symm.trans hpc'
    refine ⟨arrange order (orphans (applyStep t.c.s (.txRemove key))), by simp [CState.run, setPc, hsync], ?_⟩
    rcases removePlan_cases t.c.s (t.c.orc i) key order with ⟨e, he⟩ | ⟨he, _⟩
    · rw [he] at hok; cases hok
    · rw [he, hsync]; rfl
  | removeFail hpc' hr => cases hpc.symm.trans hpc'; exact absurd hok hr
  | _ hpc' => cases hpc.symm.trans hpc'

/-- Update: atomic at its write transaction, sequential effect and result -/
theorem update_linearizable (t t' : TState) (i : Nat) (key lk lv : String)
    (hpc : t.c.th i = .idle (.update key lk lv)) (hcl : t.c.s.closed = false)
    (h : fire t (.tx i) = some t') :
    t'.c.s = (runOp t.c.s (t.c.orc i) (.update key lk lv)).1 ∧
    t'.res i = some (runOp t.c.s (t.c.orc i) (.update key lk lv)).2 ∧ t'.c.th i = .done := by
  obtain ⟨_, hcase⟩ := fireTx_cases (t := t) (i := i) h
  simp only [runOp, plan, hcl, Bool.false_eq_true, if_false, updatePlan]
  cases hcase with
  | updateOk hpc' hf =>
    cases hpc.symm.trans hpc'
    simp only [hf]
    exact ⟨rfl, by simp [setRes, updLabels], by simp [CState.run, setPc]⟩
  | updateFail hpc' hf =>
    cases hpc.symm.trans hpc'
    simp only [hf]
    exact ⟨rfl, by simp [setRes], by simp [CState.goto, setPc]⟩
  | _ hpc' => cases hpc.symm.trans hpc'

/-- Cleanup: the scan (`cleanupDirectories`) changes nothing, answers `ok`, and the thread goes on to
reclaim exactly the directories the sequential plan computes for the state at the scan -/
theorem cleanup_scan_linearizable (t t' : TState) (i : Nat) (order : List Dir)
    (hpc : t.c.th i = .idle (.cleanup order)) (hcl : t.c.s.closed = false)
    (h : fire t (.tx i) = some t') :
    t'.c.s = t.c.s ∧ t'.res i = some (runOp t.c.s (t.c.orc i) (.cleanup order)).2 ∧
    ∃ ds, t'.c.th i = .clean ds false ∧ (plan t.c.s (t.c.orc i) (.cleanup order)).1 = cleanupSteps (t.c.orc i) ds := by
  obtain ⟨_, hcase⟩ := fireTx_cases (t := t) (i := i) h
  cases hcase with
  | cleanup hpc' =>
    cases hpc.symm.trans hpc'
    refine ⟨rfl, by simp [runOp, plan, hcl, cleanupPlan, setRes], arrange order (orphans t.c.s),
      by simp [CState.goto, setPc], ?_⟩
    simp only [plan, hcl, Bool.false_eq_true, if_false, cleanupPlan]
    rfl
  | _ hpc' => cases hpc.symm.trans hpc'

/-- Prepare whose createSnapshot fails: the error fixed at the begin of the write transaction is the
sequential result for the state at that point -/
theorem create_fail_linearizable (t t' : TState) (i : Nat) (key parent : String) (labels : Labels)
    (hpc : t.c.th i = .idle (.prepare key parent labels)) (hcl : t.c.s.closed = false)
    (hfail : createOkB t.c.s key parent = false) (h : fire t (.txBegin i) = some t') :
    t'.res i = some (runOp t.c.s (t.c.orc i) (.prepare key parent labels)).2 := by
  simp only [fire, hpc, fireCreate, hfail] at h
  split at h
  · cases h
  · simp only [Bool.false_eq_true, if_false] at h
    cases h
    simp only [runOp, plan, hcl, Bool.false_eq_true, if_false, setRes, if_true]
    have htie := createPlan_snd_of_fail (orc := t.c.orc i) (kind := .active) (labels := labels) hfail
    have hcase := preparePlan_cases t.c.s (t.c.orc i) key parent labels
    generalize preparePlan t.c.s (t.c.orc i) key parent labels = p at hcase ⊢
    cases hcase with
    | createFailed he => rw [he] at htie; cases htie; rfl
    | _ he => rw [he] at htie; cases htie

/-- Prepare with a target whose backend Mount succeeded: whatever the interleaving, when the name is
free at the commit point the target is committed in this very step and the call answers
`AlreadyExists`; when the name is taken it answers `AlreadyExists` without a metadata change (as the
sequential plan does); the empty name gives `other`. -/
theorem prepare_target_linearizable (t t' : TState) (i : Nat) (T : String) (sn : Snap)
    (hpc : t.c.th i = .prepCommit T sn) (h : fire t (.icommit i) = some t') :
    (commitOk t.c.s T sn.key → t'.res i = some (.err .exists) ∧
      t'.c.s = applyStep t.c.s (.txCommitActive sn.key T (lset sn.labels remoteLabel remoteVal))) ∧
    (T ≠ "" → hasKey t.c.s.snaps T = true → t'.res i = some (.err .exists) ∧ t'.c.s = t.c.s) ∧
    (T = "" → t'.res i = some (.err .other) ∧ t'.c.s = t.c.s) ∧
    t'.c.th i = .done := by
  simp only [fire, hpc] at h
  split at h
  · cases h
  · split at h
    · rename_i hok
      cases h
      have hc := commitOkB_iff.mp hok
      refine ⟨fun _ => ⟨by simp [setRes], rfl⟩, ?_, fun e => absurd e hc.1, by simp [CState.run, setPc]⟩
      intro _ hk
      rw [hc.2.1] at hk
      cases hk
    · rename_i hok
      cases h
      refine ⟨fun hc => absurd (commitOkB_iff.mpr hc) hok, ?_, ?_, by simp [CState.goto, setPc]⟩
      · intro hne hk
        exact ⟨by simp [setRes, hne, hk], rfl⟩
      · intro e
        exact ⟨by simp [setRes, e], rfl⟩

/-- FULL statement for a successful Prepare / View WITHOUT target (NOT proved): the result fixed at
`txCommit` equals the sequential result for the state at the BEGIN of the write transaction.  It needs
(a) the lock invariant "metadata and sequence are unchanged while the lock is held" and (b) that the
parent chain computed after the commit equals the one `storage.CreateSnapshot` returned. -/
def CreateOkLinearizable : Prop :=
  ∀ (cfg : Config) (evs mid : List Ev) (t0 t1 t2 t3 : TState) (i : Nat) (key parent : String) (labels : Labels),
    run (tinit cfg) evs = some t0 → t0.c.th i = .idle (.prepare key parent labels) →
    lget labels targetLabel = none →
    fire t0 (.txBegin i) = some t1 → run t1 mid = some t2 → (∃ sn, t2.c.th i = .crCommit none sn) →
    fire t2 (.txCommit i) = some t3 →
    t3.res i = some (runOp t0.c.s (t0.c.orc i) (.prepare key parent labels)).2 ∨
    ∃ e, (runOp t0.c.s (t0.c.orc i) (.prepare key parent labels)).2 = .err e ∧ t1.res i = some (.err e)

/-- what IS proved for that case: the result is `o.mounts(ctx, s, parent)` evaluated on the state right
after the commit (availability of the parent chain as recorded at the commit point) -/
theorem create_ok_result_partial (t t' : TState) (i : Nat) (sn : Snap)
    (hpc : t.c.th i = .crCommit none sn) (h : fire t (.txCommit i) = some t') :
    t'.c.s = applyStep t.c.s (.txCreate sn) ∧
    t'.res i = some (mountsPlan t'.c.s (t.c.orc i) sn (((chainOf t'.c.s sn.parent).getD []).map (·.id)) sn.parent).2 ∧
    t'.c.th i = .done := by
  simp only [fire, hpc] at h
  cases h
  exact ⟨rfl, by simp [setRes, mountsRes, CState.run], by simp [CState.run, setPc, afterCreate]⟩

/-- the Bool evaluator the driver runs after every event implies the Prop invariant of the
interleaved semantics (for checker states: thread ids `≥ n` unused) -/
theorem cinv_evaluator_sound (t : TState) (hb : Bounded t) (h : cinvB t = true) : CInvar t.c :=
  cinvB_sound hb h

/-- along an accepted trace `Bounded` holds, so the evaluator's verdict is about `CInvar` -/
theorem accepted_bounded (cfg : Config) (evs : List Ev) (t : TState) (h : run (tinit cfg) evs = some t) : Bounded t :=
  (run_sound (bounded_init cfg) CReach.init h).2

/-- non-vacuity: the evaluator is true on a state in the middle of a concurrent run and false on the
state a Cleanup scanning under a read transaction produces -/
example : (run (tinit {}) [.spawn 0 (.prepare "k" "" []) demoOrc, .spawn 1 (.cleanup []) demoOrc,
    .txBegin 0, .rename 0]).map cinvB = some true := rfl

def badState : TState :=
  { c := { s := { init := true, snaps := [⟨"k", 1, .active, "", []⟩], seq := 1, dirs := [] } }, n := 2 }

example : cinvB badState = false := rfl

end SV.Props.C08b
