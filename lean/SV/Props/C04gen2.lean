/-
C04 — regenerated tie.  `SV/Gen/Estargz.lean` is produced from the CURRENT Go sources by
`tools/go2lean` on every run: the footer-size constants of estargz, estargz/zstdchunked and
estargz/externaltoc and the four `FooterSize()` methods.  The theorems state that they are the
sizes the hand-written C04 model (`SV.Hostile`) uses for its length checks.
-/
import SV.Gen.Estargz
import SV.Model.Hostile

namespace SV.Props.C04gen2
open SV

theorem footerSize_const_eq : Gen.Estargz.FooterSize = (Hostile.gzFooterSize : Int) := rfl
theorem legacyFooterSize_const_eq : Gen.Estargz.legacyFooterSize = (Hostile.legacyFooterSize : Int) := rfl
theorem zstdFooterSize_const_eq : Gen.Estargz.zstdFooterSize = (Hostile.zstdFooterSize : Int) := rfl
theorem extFooterSize_const_eq : Gen.Estargz.extFooterSize = (Hostile.extFooterSize : Int) := rfl
/-- `(*GzipDecompressor).FooterSize()` -/
theorem gzip_FooterSize_eq : Gen.Estargz.gzipDecompressor_FooterSize = (Hostile.gzFooterSize : Int) := rfl
/-- `(*LegacyGzipDecompressor).FooterSize()` -/
theorem legacy_FooterSize_eq : Gen.Estargz.legacyGzipDecompressor_FooterSize = (Hostile.legacyFooterSize : Int) := rfl
/-- `(*zstdchunked.Decompressor).FooterSize()` -/
theorem zstd_FooterSize_eq : Gen.Estargz.zstdDecompressor_FooterSize = (Hostile.zstdFooterSize : Int) := rfl
/-- `(*externaltoc.GzipDecompressor).FooterSize()` -/
theorem ext_FooterSize_eq : Gen.Estargz.extDecompressor_FooterSize = (Hostile.extFooterSize : Int) := rfl

example : Gen.Estargz.FooterSize = 51 ∧ Gen.Estargz.zstdFooterSize = 40 := by decide

end SV.Props.C04gen2
