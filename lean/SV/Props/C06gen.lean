/-
C06 — regenerated tie.  `SV/Gen/Arith.lean` is produced from the CURRENT Go sources by
`tools/go2lean` on every run (functions `floor`, `ceil`, `positive` of fs/remote/blob.go and
`region.size` of fs/remote/util.go).  The theorems below state that the translated code is the
arithmetic the hand-written C06 models use, so an edit of those Go functions breaks a proof
obligation here (and the check then searches for a failing input with the harness).
Semantics of the translation: unbounded `Int`, Go's truncated division; int64 overflow is not
modelled (offsets and sizes of a blob are far below 2^62).
-/
import SV.Gen.Arith
import SV.Model.Blob

namespace SV.Props.C06gen
open SV

/-- Go `floor(n, unit)` on non-negative arguments is the model's `floorU`. -/
theorem remote_floor_eq (n u : Nat) : Gen.remote_floor n u = ((Blob.floorU n u : Nat) : Int) := by
  unfold Gen.remote_floor Blob.floorU
  rw [Int.tdiv_eq_ediv_of_nonneg (Int.natCast_nonneg n)]
  push_cast
  rfl

/-- Go `ceil(n, unit)` on non-negative arguments is the model's `ceilU`. -/
theorem remote_ceil_eq (n u : Nat) : Gen.remote_ceil n u = ((Blob.ceilU n u : Nat) : Int) := by
  unfold Gen.remote_ceil Blob.ceilU
  rw [Int.tdiv_eq_ediv_of_nonneg (Int.natCast_nonneg n)]
  push_cast
  rfl

/-- Go `positive` is `max 0`. -/
theorem remote_positive_eq (n : Int) : Gen.remote_positive n = max n 0 := by
  unfold Gen.remote_positive
  simp only [decide_eq_true_eq]
  split <;> omega

/-- Go `positive(a - b)` is the model's truncated natural subtraction. -/
theorem remote_positive_sub (a b : Nat) : Gen.remote_positive ((a : Int) - b) = ((a - b : Nat) : Int) := by
  rw [remote_positive_eq]; omega

/-- Go `region.size()` is the model's `Region.size`. -/
theorem remote_region_size_eq (b e : Int) : Gen.remote_region_size b e = Region.Region.size ⟨b, e⟩ := by
  unfold Gen.remote_region_size Region.Region.size
  rfl

example : Gen.remote_floor 41 7 = 35 ∧ Gen.remote_ceil 41 7 = 42 ∧ Gen.remote_positive (-3) = 0 := by decide

end SV.Props.C06gen
