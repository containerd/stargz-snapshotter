/-
C03x — a failed session leaves nothing behind.

The property is quantified over every blob the writer produces, hence also over the blob produced
right after (or while) OTHER sessions of the process failed in the middle of a chunk.  Model:
`SV.DigestPool` (digester state = bytes absorbed since the last Reset; pool with an arbitrary `Get`
oracle; histories = arbitrary interleavings of succeeding / failing chunk copies of any sessions).
-/
import SV.Model.DigestPool

namespace SV.Props.C03x
open SV.DigestPool

/-- The discipline of /repo (`fresh`: never shared) and a pool that is Reset before every put. -/
def Resets : Disc → Prop
  | .fresh => True
  | .pooled b => b = true

theorem get_clean (d : Disc) (pool : List Bytes) (pick : Nat) (h : Clean pool) :
    (poolGet d pool pick).1 = [] ∧ Clean (poolGet d pool pick).2 := by
  cases d with
  | fresh => exact ⟨rfl, h⟩
  | pooled b =>
    simp only [poolGet]
    split
    · exact ⟨rfl, h⟩
    · refine ⟨?_, ?_⟩
      · cases hq : pool[(pick - 1) % pool.length]? with
        | none => rfl
        | some x => exact h x (List.mem_of_getElem? hq)
      · intro p hp
        exact h p (List.mem_of_mem_eraseIdx hp)

/-- One chunk copy under a resetting discipline on a clean pool: the digest is over exactly the chunk's
bytes (or the session aborts), and the pool is clean again. -/
theorem chunkStep_exact (d : Disc) (hd : Resets d) (pool : List Bytes) (c : ChunkOp) (h : Clean pool) :
    (chunkStep d pool c).1 = (expected c).2 ∧ Clean (chunkStep d pool c).2 := by
  cases d with
  | fresh =>
    -- no pool: the digester is new and the pool is left as it is
    have hs : chunkStep .fresh pool c = ((expected c).2, pool) := by
      unfold chunkStep expected
      cases c.failAt <;> rfl
    rw [hs]
    exact ⟨rfl, h⟩
  | pooled b =>
    have hb : b = true := hd
    subst hb
    have hg := get_clean (.pooled true) pool c.pick h
    have cons_clean : Clean ([] :: (poolGet (.pooled true) pool c.pick).2) :=
      List.forall_mem_cons.mpr ⟨rfl, hg.2⟩
    cases hf : c.failAt with
    | none =>
      refine ⟨?_, ?_⟩
      · simp only [chunkStep, expected, hf, hg.1, List.nil_append]
      · simpa only [chunkStep, hf] using cons_clean
    | some k =>
      refine ⟨?_, ?_⟩
      · simp only [chunkStep, expected, hf]
      · simpa only [chunkStep, hf] using cons_clean

/-- **Every history**: arbitrary interleaving of chunk copies of arbitrary sessions, each succeeding or
failing after any number of bytes, arbitrary `sync.Pool` oracle.  Under a resetting discipline every
chunk copy records exactly what the property demands, and the pool ends clean. -/
theorem history_digests_exact (d : Disc) (hd : Resets d) (h : List ChunkOp) :
    ∀ pool, Clean pool → (runHist d pool h).1 = h.map expected ∧ Clean (runHist d pool h).2 := by
  induction h with
  | nil => intro pool hp; exact ⟨rfl, hp⟩
  | cons c cs ih =>
    intro pool hp
    have hs := chunkStep_exact d hd pool c hp
    have hr := ih (chunkStep d pool c).2 hs.2
    refine ⟨?_, ?_⟩
    · simp only [runHist, List.map_cons, hr.1]
      congr 1
      show (c.sess, (chunkStep d pool c).1) = expected c
      rw [hs.1]
      rfl
    · simpa only [runHist] using hr.2

/-- **Isolation**: what a history records is independent of whatever ran (and failed) before it in the
same process. -/
theorem failed_sessions_leave_no_trace (d : Disc) (hd : Resets d) (before h : List ChunkOp) :
    (runHist d (runHist d [] before).2 h).1 = (runHist d [] h).1 := by
  have hnil : Clean ([] : List Bytes) := by intro p hp; cases hp
  have hb := (history_digests_exact d hd before [] hnil).2
  rw [(history_digests_exact d hd h _ hb).1, (history_digests_exact d hd h [] hnil).1]

/-- The discipline that puts without Reset on the error path violates the property: session 1 fails
after 2 of 3 bytes, then session 2 copies the one-byte chunk `[9]` successfully and records a digest
over `[1, 2, 9]`.  This is the scenario of the fault stream of the harness. -/
theorem dirty_put_breaks_digest :
    ∃ h : List ChunkOp, (runHist (.pooled false) [] h).1 ≠ h.map expected := by
  refine ⟨[{ sess := 1, data := [1, 2, 3], failAt := some 2 }, { sess := 2, data := [9], pick := 1 }], ?_⟩
  decide +kernel

/-- Non-vacuity: the same history under the discipline of /repo records the right bytes. -/
example : (runHist .fresh [] [{ sess := 1, data := [1, 2, 3], failAt := some 2 }, { sess := 2, data := [9], pick := 1 }]).1
    = [(1, none), (2, some [9])] := by decide +kernel

end SV.Props.C03x
