/-
C06 part C — the two parts of fs/remote/blob.go that the model of part B does not contain:

(1) the shared single-flight path  fetchRange → handleSharedFetch → copyFetchedChunks
    (`readAtShared`, explicit `bytesWriter`s, adversarial cache loss between the leader's commit and
    the follower's copy, retry with restarted writers as of repo commit c4f4279; the code before
    that commit is `readAtSharedOld`, on which the counterexamples are stated);
(2) `Cache(offset, size)` with `prefetchChunkSize > chunkSize` (`cacheCalls`, `runCalls`).
-/
import SV.Lemmas.BlobShared

namespace SV.Props.C06c
open SV.Region SV.Blob SV.Props.C06

/-- The shared fetch of the current code (writers restarted before a retry, commit c4f4279): a
follower's (and, after retries, leader's) successful read is byte exact for every cache that never
holds wrong bytes (`CachePrefixOK`: entries may be truncated), every number of rounds, every map
iteration order and every cache loss between commit and copy, eviction and truncation alike.  The
weak cache invariant and the fetched-set invariants are kept, coverage only grows. -/
theorem shared_fetch_exact (P : Params) (B : Bytes) (hc : 0 < P.chunk) (hB : B.length = P.size)
    (s : St) (hcache : CachePrefixOK P B s.cache) (hwf : WF s.fetched)
    (hin : InBlob P.size s.fetched) (o n : Nat) (script : List Round)
    (hr : ∀ r ∈ script, r.Honest B) :
    (CachePrefixOK P B (readAtShared P s o n script).1.cache ∧
      WF (readAtShared P s o n script).1.fetched ∧
      InBlob P.size (readAtShared P s o n script).1.fetched) ∧
    (∀ x, cov x s.fetched → cov x (readAtShared P s o n script).1.fetched) ∧
    ∀ k buf, (readAtShared P s o n script).2 = .ok k buf →
      k = min n (P.size - o) ∧ buf.length = n ∧ buf.take k = slice B o k := by
  have h := readAtShared_spec P B hc s ⟨hcache, hwf, hin⟩ o n script hr
  exact ⟨⟨h.inv.cacheQ, h.inv.wf, h.inv.inBlob⟩, h.cov, h.bytes hB⟩

/-- BEFORE commit c4f4279 (`readAtSharedOld`: the retry kept `bytesWriter.current`) the read could
succeed with wrong bytes.  Blob `0..9`, chunk size 4, empty state, `ReadAt(p[0:6], 3)`; all server
replies are honest.  Round 1: another goroutine leads the fetch of chunks [0,3] [4,7] [8,9];
afterwards the cache delivers only 2 of the 4 bytes of [4,7]; the follower copies [0,3], then 2
bytes of [4,7] (`bytesWriter.current = 2`), `io.CopyN` fails, `fetchRange` is retried.  Round 2:
the caller leads, `fetchRegions` writes the whole chunk [4,7] into the same writer, which places
it 2 bytes too late: `ReadAt` returned 6, nil and `3 4 5 4 5 8` instead of `3 4 5 6 7 8`.
The current code returns the right bytes on the same script. -/
theorem shared_fetch_inexact_after_partial_copy :
    Inv ⟨10, 4⟩ exB {} ∧
    (∀ r ∈ [Round.follow (.parts [⟨0, 9, exB⟩]) [.trunc ⟨4, 7⟩ 2] [⟨0, 3⟩, ⟨4, 7⟩, ⟨8, 9⟩],
            Round.lead (.parts [⟨0, 9, exB⟩])], r.Honest exB) ∧
    (readAtSharedOld ⟨10, 4⟩ {} 3 6
      [.follow (.parts [⟨0, 9, exB⟩]) [.trunc ⟨4, 7⟩ 2] [⟨0, 3⟩, ⟨4, 7⟩, ⟨8, 9⟩],
       .lead (.parts [⟨0, 9, exB⟩])]).2 = .ok 6 [3, 4, 5, 4, 5, 8] ∧
    slice exB 3 6 = [3, 4, 5, 6, 7, 8] ∧
    (readAtShared ⟨10, 4⟩ {} 3 6
      [.follow (.parts [⟨0, 9, exB⟩]) [.trunc ⟨4, 7⟩ 2] [⟨0, 3⟩, ⟨4, 7⟩, ⟨8, 9⟩],
       .lead (.parts [⟨0, 9, exB⟩])]).2 = .ok 6 [3, 4, 5, 6, 7, 8] :=
  ⟨inv_init _ _, by decide +kernel⟩

/-- The same without any loss between commit and copy: it was enough that the cache ALREADY held
a truncated entry for the chunk (that is why it was a miss); the leader's commit keeps the first
value, the follower's copy is partial, the old retry misplaced the data.
State: entry [4,7] ↦ `4 5`; `ReadAt(p[0:4], 4)` returned 4, nil and `4 5 4 5`. -/
theorem shared_fetch_inexact_with_truncated_entry :
    CachePrefixOK ⟨10, 4⟩ exB [(⟨4, 7⟩, [4, 5])] ∧
    (readAtSharedOld ⟨10, 4⟩ { cache := [(⟨4, 7⟩, [4, 5])], fetched := [] } 4 4
      [.follow (.parts [⟨4, 7, [4, 5, 6, 7]⟩]) [] [⟨4, 7⟩],
       .lead (.parts [⟨4, 7, [4, 5, 6, 7]⟩])]).2 = .ok 4 [4, 5, 4, 5] ∧
    slice exB 4 4 = [4, 5, 6, 7] ∧
    (readAtShared ⟨10, 4⟩ { cache := [(⟨4, 7⟩, [4, 5])], fetched := [] } 4 4
      [.follow (.parts [⟨4, 7, [4, 5, 6, 7]⟩]) [] [⟨4, 7⟩],
       .lead (.parts [⟨4, 7, [4, 5, 6, 7]⟩])]).2 = .ok 4 [4, 5, 6, 7] := by
  refine ⟨fun c d h => ?_, by decide +kernel⟩
  obtain ⟨rfl, rfl⟩ := Cache.get_singleton h
  exact ⟨by decide +kernel, by decide +kernel⟩

/-- The old code was exact under the extra hypothesis that cache reads are all-or-nothing per chunk
(`CacheOK`, whole-entry losses only: `Round.OK`) — the hypothesis the two counterexamples
violate. -/
theorem shared_fetch_old_exact_if_all_or_nothing (P : Params) (B : Bytes) (hc : 0 < P.chunk)
    (hB : B.length = P.size) (s : St) (hs : Inv P B s) (o n : Nat) (script : List Round)
    (hr : ∀ r ∈ script, r.OK B) :
    Inv P B (readAtSharedOld P s o n script).1 ∧
    ∀ k buf, (readAtSharedOld P s o n script).2 = .ok k buf →
      k = min n (P.size - o) ∧ buf.length = n ∧ buf.take k = slice B o k := by
  rw [readAtSharedOld_eq P hc]
  have h := readLoop_spec id P B _ (goodQ_exact P B) hc s hs.invQ
    o n script fun r h => ⟨(hr r h).honest, Or.inl (hr r h).noTrunc⟩
  exact ⟨h.inv.inv,
    h.bytes ⟨hB, fun c d h => ⟨(goodQ_exact P B).pre c d h, h.2⟩, copyRetry_keep P B hc hB o n⟩⟩

/-- The state invariants do not depend on the cache-invariant flavour: for any `Q`-style invariant
the generic statement is `readLoop_spec`; here for `CachePrefixOK`, with the count.  Unlike
`shared_fetch_exact` there is no `hB`: this holds even when `B.length ≠ P.size`; only the delivered
bytes need it. -/
theorem shared_fetch_state_any_loss (P : Params) (B : Bytes) (hc : 0 < P.chunk)
    (s : St) (hcache : CachePrefixOK P B s.cache) (hwf : WF s.fetched)
    (hin : InBlob P.size s.fetched) (o n : Nat) (script : List Round)
    (hr : ∀ r ∈ script, r.Honest B) :
    CachePrefixOK P B (readAtShared P s o n script).1.cache ∧
    WF (readAtShared P s o n script).1.fetched ∧
    InBlob P.size (readAtShared P s o n script).1.fetched ∧
    (∀ x, cov x s.fetched → cov x (readAtShared P s o n script).1.fetched) ∧
    ∀ k buf, (readAtShared P s o n script).2 = .ok k buf → k = min n (P.size - o) := by
  have h := readAtShared_spec P B hc s ⟨hcache, hwf, hin⟩ o n script hr
  exact ⟨h.inv.cacheQ, h.inv.wf, h.inv.inBlob, h.cov, h.count⟩

/-- Before and after the commit the code is the same function until a copy fails. -/
theorem shared_fetch_same_until_copy_fails (P : Params) (pd : Pending) (s : St) (reply : Reply)
    (rest : List Round) :
    fetchRangeShared P pd s (.lead reply :: rest) =
      fetchRangeSharedOld P pd s (.lead reply :: rest) := by
  simp only [fetchRangeShared, fetchRangeSharedOld]

/-- On the leader path the explicit-writer model is the (differentially validated) `readAt`: same
state, same outcome, same buffer, for every reply, honest or not. -/
theorem shared_leader_is_readAt (P : Params) (hc : 0 < P.chunk) (s : St) (o n : Nat)
    (reply : Reply) (rest : List Round) :
    (readAtShared P s o n (.lead reply :: rest)).1 = (readAt P s o n reply).1 ∧
    (readAtShared P s o n (.lead reply :: rest)).2 =
      (match (readAt P s o n reply).2 with
       | none => SharedOut.err
       | some kb => SharedOut.ok kb.1 kb.2) := by
  rw [readAtShared_eq P hc]
  exact readLoop_lead_eq resetWs P hc s o n reply rest

/-- The split of a stream into `Write` calls (`io.CopyN` uses 32 KiB pieces) does not matter. -/
theorem bytesWriter_split_irrelevant (ps : List Bytes) (w : BW) :
    ps.foldl BW.write w = w.write ps.flatten :=
  BW.fold_eq_write ps w

/-- A round in which the caller leads terminates (result or error) and ignores later rounds. -/
theorem shared_lead_terminates (P : Params) (pd : Pending) (s : St) (reply : Reply)
    (rest : List Round) :
    fetchRangeShared P pd s (.lead reply :: rest) = fetchRangeShared P pd s [.lead reply] ∧
    (fetchRangeShared P pd s (.lead reply :: rest)).2 ≠ .outOfFuel ∧
    (fetchRangeShared P pd s (.lead reply :: rest)).2 ≠ .badScript := by
  simp only [fetchRangeShared]
  rcases fetchMissing P s pd.missing reply with ⟨s', _ | got⟩ <;> exact ⟨trivial, nofun, nofun⟩

/-- A follower round does exactly one of: reject a script whose `order` is not a permutation of
the caller's chunks; return the leader's error; finish after a complete copy; or — some `Get` or
copy failed — restart the writers and call `fetchRange` again on the state after the loss (the
next round is then again a leader or a follower round). -/
theorem shared_follow_step (P : Params) (pd : Pending) (s : St) (lr : Reply)
    (loss : List Loss) (order : List Chunk) (rest : List Round) :
    let r := fetchRangeShared P pd s (.follow lr loss order :: rest)
    let L := fetchMissing P s pd.missing lr
    let s'' : St := { L.1 with cache := loss.foldl Cache.lose L.1.cache }
    let C := copyInOrder s''.cache pd.ws order
    (order.isPerm pd.missing = false ∧ r = (s, .badScript)) ∨
    (order.isPerm pd.missing = true ∧ L.2 = none ∧ r = (L.1, .err)) ∨
    (order.isPerm pd.missing = true ∧ L.2.isSome ∧ C.2 = true ∧
      r = (s'', finish P { pd with ws := C.1 })) ∨
    (order.isPerm pd.missing = true ∧ L.2.isSome ∧ C.2 = false ∧
      r = fetchRangeShared P { pd with ws := resetWs C.1 } s'' rest) := by
  simp only [fetchRangeShared]
  cases order.isPerm pd.missing with
  | false => exact Or.inl ⟨rfl, rfl⟩
  | true =>
    rcases fetchMissing P s pd.missing lr with ⟨s', _ | got⟩
    · exact Or.inr (Or.inl ⟨rfl, rfl, rfl⟩)
    · dsimp only
      rcases copyInOrder (loss.foldl Cache.lose s'.cache) pd.ws order with ⟨ws', _ | _⟩
      · exact Or.inr (Or.inr (Or.inr ⟨rfl, rfl, rfl, rfl⟩))
      · exact Or.inr (Or.inr (Or.inl ⟨rfl, rfl, rfl, rfl⟩))

/-- The retry loop is bounded by the script: it runs out of rounds only if every round was a
follower round (whose copy failed); a script containing a leader round always terminates. -/
theorem shared_outOfFuel_only_followers (P : Params) (hc : 0 < P.chunk) (s : St) (o n : Nat)
    (script : List Round) (h : (readAtShared P s o n script).2 = .outOfFuel) :
    ∀ r ∈ script, ∃ lr loss order, r = .follow lr loss order :=
  readLoop_outOfFuel resetWs P s o n script (readAtShared_eq P hc s o n script ▸ h)

example : ∀ r ∈ [Round.follow (.parts [⟨0, 9, exB⟩]) [.evict ⟨4, 7⟩] [⟨8, 9⟩, ⟨0, 3⟩, ⟨4, 7⟩],
    Round.follow (.parts [⟨0, 9, exB⟩]) [] [⟨4, 7⟩, ⟨0, 3⟩, ⟨8, 9⟩]], r.OK exB := by decide +kernel
-- evicted entry: the copy fails, the retry (again as a follower) succeeds
example : (readAtShared ⟨10, 4⟩ {} 3 6
    [.follow (.parts [⟨0, 9, exB⟩]) [.evict ⟨4, 7⟩] [⟨8, 9⟩, ⟨0, 3⟩, ⟨4, 7⟩],
     .follow (.parts [⟨0, 9, exB⟩]) [] [⟨4, 7⟩, ⟨0, 3⟩, ⟨8, 9⟩]]).2
    = .ok 6 [3, 4, 5, 6, 7, 8] := by decide +kernel
example : (readAtShared ⟨10, 4⟩ {} 3 6
    [.follow (.parts [⟨0, 9, exB⟩]) [.evict ⟨4, 7⟩] [⟨8, 9⟩, ⟨0, 3⟩, ⟨4, 7⟩]]).2 = .outOfFuel := by
  decide +kernel
example : (readAtShared ⟨10, 4⟩ {} 3 6 [.follow (.parts [⟨0, 9, exB⟩]) [] [⟨0, 3⟩, ⟨8, 9⟩]]).2
    = .badScript := by decide +kernel
example : (readAtShared ⟨10, 4⟩ {} 3 6 [.follow .fail [] [⟨0, 3⟩, ⟨4, 7⟩, ⟨8, 9⟩]]).2 = .err := by
  decide +kernel
-- truncation, then again a follower round with a complete entry
example : (readAtShared ⟨10, 4⟩ {} 3 6
    [.follow (.parts [⟨0, 9, exB⟩]) [.trunc ⟨4, 7⟩ 3] [⟨4, 7⟩, ⟨0, 3⟩, ⟨8, 9⟩],
     .follow (.parts [⟨0, 9, exB⟩]) [.evict ⟨4, 7⟩] [⟨0, 3⟩, ⟨4, 7⟩, ⟨8, 9⟩],
     .lead (.parts [⟨0, 9, exB⟩])]).2 = .ok 6 [3, 4, 5, 6, 7, 8] := by decide +kernel

/-- The pieces: each is non-empty, at most `fetchSize = chunk·(prefetch/chunk)` long, inside
`[o, o+n)`; together they cover `[o, o+n)`; two pieces sharing a byte are the same piece. -/
theorem cache_split_pieces (P : Params) (hc : 0 < P.chunk) (prefetch o n : Nat)
    (h : P.chunk < prefetch) :
    (∀ p ∈ cacheCalls P prefetch o n,
      o ≤ p.1 ∧ 0 < p.2 ∧ p.2 ≤ P.chunk * (prefetch / P.chunk) ∧ p.1 + p.2 ≤ o + n) ∧
    (∀ x, o ≤ x → x < o + n → ∃ p ∈ cacheCalls P prefetch o n, p.1 ≤ x ∧ x < p.1 + p.2) ∧
    (∀ p ∈ cacheCalls P prefetch o n, ∀ q ∈ cacheCalls P prefetch o n, ∀ x,
      p.1 ≤ x → x < p.1 + p.2 → q.1 ≤ x → x < q.1 + q.2 → p = q) := by
  rw [cacheCalls_split P prefetch o n h]
  have hF := fetchSize_pos P hc prefetch h
  refine ⟨?_, ?_, ?_⟩
  · exact fun p hp => let ⟨a, b, c, d⟩ := piece_bounds hp; ⟨a, b hF, c, d⟩
  · intro x h1 h2
    exact piecesFrom_cover _ _ hF _ _ x
      (Nat.le_succ_of_le (Nat.le_of_eq (Nat.add_sub_cancel_left ..))) h1 h2
  · intro p hp q hq x h1 h2 h3 h4
    exact piecesFrom_disjoint _ _ _ _ p q hp hq x ⟨h1, h2⟩ ⟨h3, h4⟩

/-- The chunk sets of the pieces: their union is the chunk set of the whole range; inside one piece
every chunk occurs once (starts strictly increase); for a chunk-aligned offset the pieces' chunk
sets are pairwise disjoint, i.e. every chunk of the range is handled by exactly one `cacheAt`. -/
theorem cache_split_chunks (P : Params) (hc : 0 < P.chunk) (prefetch o n : Nat)
    (h : P.chunk < prefetch) (hn : 0 < n) :
    (∀ ch, ch ∈ rangeChunks P o n ↔ ∃ p ∈ cacheCalls P prefetch o n, ch ∈ rangeChunks P p.1 p.2) ∧
    (∀ p ∈ cacheCalls P prefetch o n, (rangeChunks P p.1 p.2).Pairwise (fun a c => a.b < c.b)) ∧
    (o % P.chunk = 0 → ∀ p ∈ cacheCalls P prefetch o n, ∀ q ∈ cacheCalls P prefetch o n, ∀ ch,
      ch ∈ rangeChunks P p.1 p.2 → ch ∈ rangeChunks P q.1 q.2 → p = q) :=
  ⟨fun ch => cacheCalls_chunks P hc prefetch o n h hn ch,
   fun p _ => rangeChunks_sorted P hc p.1 p.2,
   fun ho p hp q hq ch h1 h2 => cacheCalls_disjoint P hc prefetch o n h ho p q hp hq ch h1 h2⟩

/-- Whatever the cache holds when a piece runs: a chunk of the range that is missing at that moment
is among the chunks that piece asks for, and the piece's request (multi or single range) covers
every byte of it. -/
theorem cache_split_requests (P : Params) (hc : 0 < P.chunk) (prefetch o n : Nat)
    (h : P.chunk < prefetch) (hn : 0 < n) (ch : Chunk) (hch : ch ∈ rangeChunks P o n) :
    ∃ p ∈ cacheCalls P prefetch o n, ch ∈ rangeChunks P p.1 p.2 ∧
      ∀ (cache : Cache), cache.get ch = none → ∀ (single : Bool) (x : Int),
        (ch.b : Int) ≤ x → x ≤ ch.e →
        cov x (requestRanges single
          ((rangeChunks P p.1 p.2).filter (fun c => (cache.get c).isNone))) := by
  obtain ⟨p, hp, hpc⟩ := (cacheCalls_chunks P hc prefetch o n h hn ch).mp hch
  refine ⟨p, hp, hpc, ?_⟩
  intro cache hget single x h1 h2
  exact request_covers _ single ch (List.mem_filter.mpr ⟨hpc, by simp [hget]⟩) x h1 h2

/-- `cacheAt` walks exactly `rangeChunks`, and without the split `Cache` is one `cacheAt`. -/
theorem cache_calls_unsplit (P : Params) (hc : 0 < P.chunk) (prefetch o n : Nat)
    (h : prefetch ≤ P.chunk) (s : St) (r : Reply) :
    cacheCalls P prefetch o n = [(o, n)] ∧
    runCalls P s [((o, n), r)] = ((cacheAt P s o n r).1, (cacheAt P s o n r).2) ∧
    walkChunks P (floorU o P.chunk) (ceilU (o + n - 1) P.chunk - 1) = some (rangeChunks P o n) := by
  refine ⟨by unfold cacheCalls; rw [if_pos h], ?_, walk_readAt P hc o n⟩
  rw [runCalls_cons]
  simp [runCalls]

/-- The pieces run in ANY order (`calls` is any permutation of the pieces, each with its own honest
reply), from any state in which cached chunks are covered (`CacheCovered`, true along every history
from the empty state): the invariant holds afterwards, coverage only grows, and if all pieces
succeed every byte of every chunk of the range is covered.  If moreover no reply delivers outside
the range's chunk span, the final coverage is exactly `old ∪ range` — the same for every order. -/
theorem cache_split_covers (P : Params) (B : Bytes) (hc : 0 < P.chunk) (prefetch o n : Nat)
    (h : P.chunk < prefetch) (hn : 0 < n) (s : St) (hcache : CachePrefixOK P B s.cache)
    (hwf : WF s.fetched) (hin : InBlob P.size s.fetched) (hcc : CacheCovered s)
    (calls : List ((Nat × Nat) × Reply))
    (hperm : (calls.map (·.1)).Perm (cacheCalls P prefetch o n))
    (hh : ∀ call ∈ calls, HonestReply B call.2) :
    (CachePrefixOK P B (runCalls P s calls).1.cache ∧ WF (runCalls P s calls).1.fetched ∧
      InBlob P.size (runCalls P s calls).1.fetched ∧ CacheCovered (runCalls P s calls).1) ∧
    (∀ x, cov x s.fetched → cov x (runCalls P s calls).1.fetched) ∧
    ((runCalls P s calls).2 = true → ∀ ch ∈ rangeChunks P o n, ∀ x : Int,
      (ch.b : Int) ≤ x → x ≤ ch.e → cov x (runCalls P s calls).1.fetched) ∧
    ((∀ call ∈ calls, ReplyWithin P (floorU o P.chunk) (ceilU (o + n - 1) P.chunk - 1) call.2) →
      (runCalls P s calls).2 = true →
      ∀ x : Int, cov x (runCalls P s calls).1.fetched ↔
        (cov x s.fetched ∨ ((floorU o P.chunk : Int) ≤ x ∧
          x ≤ (ceilU (o + n - 1) P.chunk - 1 : Nat) ∧ x < P.size))) := by
  have hinv := runCalls_invQ P B _ (goodQ_prefix P B) hc calls s ⟨hcache, hwf, hin⟩ hh
  obtain ⟨stored, hst, hfrom, hall⟩ := runCalls_trace P hc calls s
  have hcov := fun x => commits_cov x stored s
  rw [hst] at hinv ⊢
  have hlow : (runCalls P s calls).2 = true → ∀ ch ∈ rangeChunks P o n, ∀ x : Int,
      (ch.b : Int) ≤ x → x ≤ ch.e → cov x (stored.foldl commit s).fetched := by
    intro hok ch hch x h1 h2
    obtain ⟨p, hp, hpc⟩ := (cacheCalls_chunks P hc prefetch o n h hn ch).mp hch
    obtain ⟨call, hcall, rfl⟩ := List.mem_map.mp (hperm.mem_iff.mpr hp)
    rw [hcov]
    rcases hall hok call hcall ch hpc with hsome | ⟨cd, hcd, rfl⟩
    · obtain ⟨d, hd⟩ := Option.isSome_iff_exists.mp hsome
      exact Or.inl (hcc ch d hd x h1 h2)
    · exact Or.inr ⟨cd, hcd, h1, h2⟩
  refine ⟨⟨hinv.cacheQ, hinv.wf, hinv.inBlob, cacheCovered_commits stored hcc⟩,
    fun x hx => (hcov x).mpr (Or.inl hx), hlow, ?_⟩
  intro hw hok x
  constructor
  · intro hx
    rcases (hcov x).mp hx with hx | ⟨cd, hcd, h1, h2⟩
    · exact Or.inl hx
    · obtain ⟨call, hcall, hsf⟩ := hfrom cd hcd
      obtain ⟨hlo, hhi⟩ := hsf.within _ _ (hw call hcall)
      exact Or.inr ⟨Int.le_trans (Int.ofNat_le.mpr hlo) h1, Int.le_trans h2 (Int.ofNat_le.mpr hhi),
        Int.lt_of_le_of_lt h2 (Int.ofNat_lt.mpr (hsf.grid.le hc).2.1)⟩
  · rintro (hx | ⟨h1, h2, h3⟩)
    · exact (hcov x).mpr (Or.inl hx)
    · obtain ⟨m, rfl⟩ := Int.eq_ofNat_of_zero_le (Int.le_trans (Int.natCast_nonneg _) h1)
      obtain ⟨ch, hch, hb, he⟩ :=
        (chunkList_cover P hc (floorU o P.chunk) (o + n - 1) (floorU_mod ..) m).mpr
          ⟨Int.ofNat_le.mp h1, Int.ofNat_le.mp h2, Int.ofNat_lt.mp h3⟩
      rw [← rangeChunks_eq P hc] at hch
      exact hlow hok ch hch m (Int.ofNat_le.mpr hb) (Int.ofNat_le.mpr he)

/-- The side condition of `cache_split_covers` is an invariant of the system: after every history of
`ReadAt` / `Cache` / entry loss / entry truncation from the empty state every cached chunk is
covered by the fetched set.  (Neither `hB` nor honesty of the replies is used: whatever is cached
was committed together with its region.) -/
theorem history_cacheCovered (P : Params) (B : Bytes) (hc : 0 < P.chunk) (hB : B.length = P.size)
    (ops : List Op) (hh : ∀ op ∈ ops, op.Honest B) : CacheCovered (runOps P {} ops) :=
  runOps_cacheCovered P hc ops {} cacheCovered_init

/-- Order independence, spelled out: two runs of the pieces in different orders (even with
different honest replies that stay inside the range), both successful, end with the same fetched
coverage, hence with the same `FetchedSize`. -/
theorem cache_split_order_independent (P : Params) (B : Bytes) (hc : 0 < P.chunk)
    (prefetch o n : Nat) (h : P.chunk < prefetch) (hn : 0 < n) (s : St)
    (hcache : CachePrefixOK P B s.cache) (hwf : WF s.fetched) (hin : InBlob P.size s.fetched)
    (hcc : CacheCovered s) (calls₁ calls₂ : List ((Nat × Nat) × Reply))
    (hp₁ : (calls₁.map (·.1)).Perm (cacheCalls P prefetch o n))
    (hp₂ : (calls₂.map (·.1)).Perm (cacheCalls P prefetch o n))
    (hh₁ : ∀ call ∈ calls₁, HonestReply B call.2) (hh₂ : ∀ call ∈ calls₂, HonestReply B call.2)
    (hw₁ : ∀ call ∈ calls₁,
      ReplyWithin P (floorU o P.chunk) (ceilU (o + n - 1) P.chunk - 1) call.2)
    (hw₂ : ∀ call ∈ calls₂,
      ReplyWithin P (floorU o P.chunk) (ceilU (o + n - 1) P.chunk - 1) call.2)
    (ok₁ : (runCalls P s calls₁).2 = true) (ok₂ : (runCalls P s calls₂).2 = true) :
    (∀ x : Int, cov x (runCalls P s calls₁).1.fetched ↔ cov x (runCalls P s calls₂).1.fetched) ∧
    totalSize (runCalls P s calls₁).1.fetched = totalSize (runCalls P s calls₂).1.fetched := by
  obtain ⟨⟨_, awf, ain, _⟩, _, _, a5⟩ := cache_split_covers P B hc prefetch o n h hn s hcache hwf hin
    hcc calls₁ hp₁ hh₁
  obtain ⟨⟨_, bwf, bin, _⟩, _, _, b5⟩ := cache_split_covers P B hc prefetch o n h hn s hcache hwf hin
    hcc calls₂ hp₂ hh₂
  have hiff : ∀ x : Int, cov x (runCalls P s calls₁).1.fetched ↔
      cov x (runCalls P s calls₂).1.fetched := by
    intro x; rw [a5 hw₁ ok₁ x, b5 hw₂ ok₂ x]
  refine ⟨hiff, ?_⟩
  exact Int.le_antisymm (totalSize_mono P.size awf ain bwf bin fun x hx => (hiff x).mp hx)
    (totalSize_mono P.size bwf bin awf ain fun x hx => (hiff x).mpr hx)

-- non-vacuity: blob of 40 bytes, chunk 4, prefetch chunk 9 ⇒ fetch size 8
example : cacheCalls ⟨40, 4⟩ 9 3 30 = [(3, 8), (11, 8), (19, 8), (27, 6)] := by decide +kernel
example : cacheCalls ⟨40, 4⟩ 9 4 16 = [(4, 8), (12, 8)] := by decide +kernel
example : cacheCalls ⟨40, 4⟩ 4 3 30 = [(3, 30)] := by decide +kernel
-- unaligned offset: neighbouring pieces share the chunk around their boundary
example : (⟨8, 11⟩ : Chunk) ∈ rangeChunks ⟨40, 4⟩ 3 8 ∧ (⟨8, 11⟩ : Chunk) ∈ rangeChunks ⟨40, 4⟩ 11 8 := by
  decide +kernel
example : rangeChunks ⟨40, 4⟩ 4 8 = [⟨4, 7⟩, ⟨8, 11⟩] ∧ rangeChunks ⟨40, 4⟩ 12 8 = [⟨12, 15⟩, ⟨16, 19⟩] := by
  decide +kernel
example : CacheCovered {} := cacheCovered_init
-- the two pieces of Cache(4, 16) in both orders, each answered with exactly its range
example : (runCalls ⟨20, 4⟩ {} [((4, 8), .parts [⟨4, 11, [4, 5, 6, 7, 8, 9, 10, 11]⟩]),
    ((12, 8), .parts [⟨12, 19, [12, 13, 14, 15, 16, 17, 18, 19]⟩])]).2 = true := by decide +kernel
example : (runCalls ⟨20, 4⟩ {} [((12, 8), .parts [⟨12, 19, [12, 13, 14, 15, 16, 17, 18, 19]⟩]),
    ((4, 8), .parts [⟨4, 11, [4, 5, 6, 7, 8, 9, 10, 11]⟩])]).1.fetched = [⟨4, 19⟩] := by decide +kernel
example : ReplyWithin ⟨20, 4⟩ (floorU 4 4) (ceilU (4 + 16 - 1) 4 - 1)
    (.parts [⟨12, 19, [12, 13, 14, 15, 16, 17, 18, 19]⟩]) := by
  intro p hp; simp at hp; subst hp; decide +kernel

end SV.Props.C06c
