/-
C02x — the uncompressed chunk cache / compressed blob cache serve a key's own bytes after ANY history
of stores whose file commit may FAIL, provided every caller calls exactly one of Commit / Abort on a writer;
callers that Abort after a failed Commit make a hit return another chunk's bytes:
the writer's buffer, already the on-memory LRU value of the key, goes back to the pool and is filled again.

Model: SV/Model/PoolCache.lean (buffer ownership in cache/cache.go `directoryCache.Add` as used by
fs/reader `cacheData` / `readAndCache` and fs/remote `cacheChunkData`).  This supports, for the
on-memory part of the directory cache, the modelling of the cache as a map (`SV.LazyRead.Cache`, on which
`SV.Props.C02`'s read theorem rests) under storage faults: a hit for key `k` is `content k`, whatever failed before.
-/
import SV.Lemmas.PoolCache

namespace SV.Props.C02x
open SV.PoolCache

/-- **Hits are the key's own bytes under any storage-fault history.**  Callers as in /repo (exactly one
of Commit / Abort per writer): after ANY history of chunk stores — each with its own pool oracle and
with the file part of its commit failing or not — and evictions of any entry at any time, an on-memory
hit for `k` returns `content k`. -/
theorem hit_is_own_chunk (content : Nat → Bytes) (ops : List Op) (k : Nat) (v : Bytes)
    (h : get (run content false init ops) k = some v) : v = content k :=
  Inv.get (Inv.run ops (Inv.init content)) h

/-- **Ownership.**  Under the same histories no buffer is at once in the pool and the value of an LRU
entry, no buffer is the value of two entries, and the pool holds no buffer twice. -/
theorem buffers_have_one_owner (content : Nat → Bytes) (ops : List Op) :
    let s := run content false init ops
    (∀ b ∈ s.pool, ∀ e ∈ s.lru, e.2 ≠ b) ∧ (s.lru.map (·.2)).Nodup ∧ s.pool.Nodup := by
  have h := Inv.run (content := content) ops (Inv.init content)
  exact ⟨fun b hb => (h.sep b hb).2, h.nd, h.pnd⟩

/-- **The protocol is necessary.**  With callers that Abort after a failed Commit
there is a two-store history — chunk 1 stored while the file commit fails, then chunk 2 stored
normally — after which a hit for key 1 returns chunk 2's bytes. -/
theorem abort_after_failed_commit_serves_foreign_bytes :
    ∃ (content : Nat → Bytes) (ops : List Op) (k : Nat) (v : Bytes),
      get (run content true init ops) k = some v ∧ v ≠ content k :=
  ⟨fun k => [k, k], [.store 1 none true, .store 2 (some 0) false], 1, [2, 2], by decide +kernel, by decide +kernel⟩

/-- Same callers, a key that is still in the LRU is stored again while the commit fails: its writer's
buffer is put into the pool twice, and two later chunks share it — a hit for key 2 returns chunk 3. -/
theorem abort_after_failed_restore_aliases_later_chunks :
    ∃ (content : Nat → Bytes) (ops : List Op) (k : Nat) (v : Bytes),
      get (run content true init ops) k = some v ∧ v ≠ content k :=
  ⟨fun k => [k], [.store 1 none false, .store 1 none true, .store 2 (some 0) false, .store 3 (some 0) false],
    2, [3], by decide +kernel, by decide +kernel⟩

/-- Non-vacuity of `hit_is_own_chunk`: the same two-store history with /repo's callers hits and is right. -/
example : get (run (fun k => [k, k]) false init [.store 1 none true, .store 2 (some 0) false]) 1 = some [1, 1] := by
  decide

example : get (run (fun k => [k]) false init
    [.store 1 none false, .store 1 none true, .evict 0, .store 2 (some 0) false, .store 3 (some 0) false]) 2 = some [2] := by
  decide

end SV.Props.C02x
