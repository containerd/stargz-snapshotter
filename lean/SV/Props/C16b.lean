/-
C16b — the FUSE node layer of store/fs.go (rootnode / refnode / layernode / blobnode / info / pool
nodes, `fs.newInodeWithID`, `idMap`) on top of the LayerManager of C16.

Model: `SV.StoreFs` (store/fs.go handlers + the go-fuse v2 inode bookkeeping that decides when they and
`OnForget` run).  All theorems are about the state after an ARBITRARY history `run T init h` of FUSE
requests (LOOKUP of any name in any directory node, FORGET of any count, CREATE, RMDIR — requests no
kernel can send are answered `badreq` and change nothing), each LOOKUP with its own registry oracle.

What the code does (and the theorems say): the use count of (ref, TOC digest) is NOT tied to the
life time of nodes — it is incremented by CREATE "use" in the layer directory and decremented by RMDIR
of the layer directory in the ref directory; LOOKUP and FORGET never touch it.
-/
import SV.Lemmas.StoreFs
import SV.Props.C16

namespace SV.Props.C16b
open SV.Store SV.StoreFs

theorem reachable_step (T : Truth) (x : Store.St) (op : Store.Op) (h : Store.Reachable T x) :
    Store.Reachable T (Store.step T x op).1 := by
  obtain ⟨ops, rfl⟩ := h
  exact ⟨ops ++ [op], by simp [Store.run, List.foldl_append]⟩

/-- After ANY history of FUSE requests the LayerManager is in a state that a history of its own
operations (lookup / info / use / release) produces — every C16 theorem (counts never negative, a
layer in use is never dropped, the last release resets, …) therefore holds behind the FUSE layer, in
whatever order the kernel looks up, forgets, creates and removes. -/
theorem layer_manager_refined (T : Truth) (h : List StoreFs.Op) :
    Store.Reachable T (StoreFs.run T StoreFs.init h).lm :=
  (run_spec T (Store.Reachable T) ⟨[], rfl⟩ (reachable_step T) h).2

/-- Corollary (C16 `count_nonneg` behind FUSE): every stored use count is at least 1. -/
theorem counts_positive (T : Truth) (h : List StoreFs.Op) (r t : Nat) (c : Int)
    (hc : Store.cnt (StoreFs.run T StoreFs.init h).lm r t = some c) : 1 ≤ c := by
  obtain ⟨ops, e⟩ := layer_manager_refined T h
  rw [e] at hc
  exact (SV.Props.C16.count_nonneg T ops r t).1 c hc

/-- FORGET never touches the LayerManager: a layer is neither released nor kept because the kernel
forgets (or keeps) its nodes. -/
theorem forget_keeps_layer_manager (T : Truth) (s : StoreFs.St) (i k : Nat) :
    (StoreFs.step T s (.forget i k)).1.lm = s.lm := by
  simp only [StoreFs.step]
  split
  · split
    · exact (removeRef_le s i k false).lm
    · rfl
  · rfl

theorem newNode_lm (s : StoreFs.St) (p : Nat) (nm : Name) (k : Kind) : (newNode s p nm k).1.lm = s.lm :=
  (newNode_cases s p nm k).1

/-- LOOKUP — of any name, in any directory, successful or not, whatever the registry answers — leaves
every use count (and the refPool counts) as they are. -/
theorem lookup_keeps_counts (T : Truth) (h : List StoreFs.Op) (o : Oracle) (p : Nat) (nm : Name) :
    (StoreFs.step T (StoreFs.run T StoreFs.init h) (.lookup o p nm)).1.lm.refcounter =
      (StoreFs.run T StoreFs.init h).lm.refcounter ∧
    (StoreFs.step T (StoreFs.run T StoreFs.init h) (.lookup o p nm)).1.lm.pool =
      (StoreFs.run T StoreFs.init h).lm.pool := by
  have hI := reach_inv T _ (layer_manager_refined T h)
  generalize StoreFs.run T StoreFs.init h = s at *
  obtain ⟨lm, hlm, hr⟩ := lookup_reply T s o p nm
  rw [reply_lm hr]
  cases hlm with
  | same => exact ⟨rfl, rfl⟩
  | lookup r t =>
    have hE := (lookup_inv_ext o r t hI).2
    exact ⟨hE.rc, hE.pl⟩
  | info r t =>
    obtain ⟨dk, e⟩ := info_state T o s.lm r t
    rw [e]; exact ⟨rfl, rfl⟩

/-- CREATE "use" in a layer directory the kernel holds adds exactly one use of (ref, TOC digest) —
also when nothing was ever looked up below it — and touches no other count; the node tree, the inode
numbers and the reply (ENOENT) do not depend on it. -/
theorem create_use_counts_one (T : Truth) (s : StoreFs.St) (p : Nat) (n : Node) (r t : Nat)
    (hh : held s p = some (some n)) (hk : n.kind = .layer r t) (r' t' : Nat) :
    Store.cnt (StoreFs.step T s (.create p (.leaf .use))).1.lm r' t' =
      (if r' = r ∧ t' = t then some ((Store.cnt s.lm r t).getD 0 + 1) else Store.cnt s.lm r' t') ∧
    (StoreFs.step T s (.create p (.leaf .use))).1.nodes = s.nodes ∧
    (StoreFs.step T s (.create p (.leaf .use))).1.nodeMap = s.nodeMap ∧
    (StoreFs.step T s (.create p (.leaf .use))).2 = .enoent := by
  simp only [StoreFs.step, hh, hk, if_true]
  refine ⟨use_cnt s.lm r t r' t', ?_, ?_, ?_⟩ <;> first | rfl | trivial

/-- RMDIR of a name in a ref directory, as coded: a name that is no digest is EINVAL and changes
nothing; for a digest the LayerManager state is exactly the one `release` leaves, the answer is EIO
when `release` fails and ENOENT otherwise ("released"), and the tree is only touched when the count
reached 0. -/
theorem rmdir_semantics (s : StoreFs.St) (p r : Nat) (nm : Name) :
    (∀ t, nm = .toc t →
      (refRmdir s p r nm).1.lm = (Store.release s.lm r t).1 ∧
      (refRmdir s p r nm).2 = (match (Store.release s.lm r t).2 with
        | .count _ => .enoent
        | _ => .eio) ∧
      (∀ c, (Store.release s.lm r t).2 = .count c → c ≠ 0 →
        (refRmdir s p r nm).1.nodes = s.nodes ∧ (refRmdir s p r nm).1.nodeMap = s.nodeMap) ∧
      ((Store.release s.lm r t).2 = .err →
        (refRmdir s p r nm).1.nodes = s.nodes ∧ (refRmdir s p r nm).1.nodeMap = s.nodeMap)) ∧
    ((∀ t, nm ≠ .toc t) → refRmdir s p r nm = (s, .einval)) := by
  constructor
  · rintro t rfl
    unfold refRmdir
    dsimp only
    generalize Store.release s.lm r t = q
    obtain ⟨lm, res⟩ := q
    cases res <;> dsimp only
    case count c =>
      refine ⟨?_, rfl, ?_, (fun h => by cases h)⟩
      · split
        · exact (rmdirCleanup_le { s with lm := lm } p (.toc t)).lm
        · rfl
      · intro c' hc hne
        cases hc
        rw [if_neg hne]; exact ⟨rfl, rfl⟩
    all_goals exact ⟨rfl, rfl, (fun _ h => by cases h), (fun _ => ⟨rfl, rfl⟩)⟩
  · intro hn
    unfold refRmdir
    split
    · rename_i t; exact absurd rfl (hn t)
    · rfl

/-- The last RMDIR (count 1 → 0) through a ref directory the kernel holds — whatever the kernel still
holds or has forgotten below it: answered ENOENT, the count and the cached layer are gone, `Done()` was
called on that instance, and a later resolution of the same (ref, TOC digest) (registry answering)
succeeds with a NEW instance — C16 `last_release_resets` behind the FUSE layer. -/
theorem last_rmdir_resets (T : Truth) (hfun : T.Functional) (h : List StoreFs.Op) (p : Nat) (n : Node)
    (r t : Nat) (l : Layer)
    (hh : held (StoreFs.run T StoreFs.init h) p = some (some n)) (hk : n.kind = .ref r)
    (hc : Store.cnt (StoreFs.run T StoreFs.init h).lm r t = some 1)
    (hl : Store.lay (StoreFs.run T StoreFs.init h).lm r t = some l) :
    (StoreFs.step T (StoreFs.run T StoreFs.init h) (.rmdir p (.toc t))).2 = .enoent ∧
    Store.cnt (StoreFs.step T (StoreFs.run T StoreFs.init h) (.rmdir p (.toc t))).1.lm r t = none ∧
    Store.lay (StoreFs.step T (StoreFs.run T StoreFs.init h) (.rmdir p (.toc t))).1.lm r t = none ∧
    l.id ∈ (StoreFs.step T (StoreFs.run T StoreFs.init h) (.rmdir p (.toc t))).1.lm.done ∧
    ∀ o : Oracle, (r ∈ (StoreFs.run T StoreFs.init h).lm.disk ∨ o.manifest r = true) →
      o.layer r l.digest = true →
      ∃ l', (Store.lookup T o
          (StoreFs.step T (StoreFs.run T StoreFs.init h) (.rmdir p (.toc t))).1.lm r t).2 = .layer l' ∧
        l'.id ≠ l.id := by
  obtain ⟨ops, e⟩ := layer_manager_refined T h
  generalize StoreFs.run T StoreFs.init h = s at *
  have hstep : StoreFs.step T s (.rmdir p (.toc t)) = refRmdir s p r (.toc t) := by
    simp only [StoreFs.step, hh, hk]
  rw [hstep]
  obtain ⟨k1, k2, _, _⟩ := (rmdir_semantics s p r (.toc t)).1 t rfl
  rw [e] at hc hl
  obtain ⟨g1, g2, g3, g4, _, _, g7⟩ := SV.Props.C16.last_release_resets T hfun ops r t l hc hl
  rw [← e] at g1 g2 g3 g4 g7
  rw [k1, k2, g1]
  refine ⟨rfl, g2, g3, g4, ?_⟩
  intro o hm ho
  obtain ⟨l', h1, h2, _⟩ := g7 o hm ho
  exact ⟨l', h1, h2⟩

/-- `idMap.get` hands out the SMALLEST number `≥ 1` that is not allocated (never 0, never an allocated
one, never above 2³²−1). -/
theorem idGet_fresh_minimal (m : IdMap) (i : Nat) (h : idGet m = some i) :
    i ∉ m ∧ 1 ≤ i ∧ i ≤ maxU32 ∧ ∀ j, 1 ≤ j → j < i → j ∈ m :=
  idGet_spec m i h

/-- `idMap.remove` makes the number reusable: it is no longer allocated, nothing else is freed, and the
next `get` returns a number that is not larger. -/
theorem idRemove_reusable (m : IdMap) (id : Nat) (h1 : 1 ≤ id) :
    id ∉ idRemove m id ∧ (∀ j, j ≠ id → (j ∈ idRemove m id ↔ j ∈ m)) ∧
    ∀ j, idGet (idRemove m id) = some j → j ≤ id := by
  refine ⟨fun h => ((idRemove_spec m id id).mp h).2 rfl, ?_, ?_⟩
  · intro j hj; rw [idRemove_spec]; exact ⟨fun h => h.1, fun h => ⟨h, hj⟩⟩
  · intro j hj
    obtain ⟨_, _, _, hmin⟩ := idGet_spec _ _ hj
    apply Classical.byContradiction
    intro hlt
    have := hmin id h1 (by omega)
    exact ((idRemove_spec m id id).mp this).2 rfl

/-- After ANY request history: the inode numbers of all nodes that exist (held by the kernel, linked in
the tree, or both) are pairwise distinct; every such number (other than those of `diff` directories,
which live above 2³²) is still allocated in `nodeMap` — so `newInodeWithID` can never hand out the number
of a live node, and `OnForget` never frees the number of a node that is still there; and go-fuse's
`addNewChild` never found a DIFFERENT inode under the StableAttr of the one a handler returned (no node
is silently replaced by another one). -/
theorem inode_numbers_unique_and_allocated (T : Truth) (h : List StoreFs.Op) :
    (StoreFs.run T StoreFs.init h).nodes.Pairwise (fun a b => a.ino ≠ b.ino) ∧
    (∀ n, n ∈ (StoreFs.run T StoreFs.init h).nodes → n.kind.isDiff = false →
      n.ino ∈ (StoreFs.run T StoreFs.init h).nodeMap ∧ 1 ≤ n.ino ∧ n.ino ≤ maxU32) ∧
    (∀ n, n ∈ (StoreFs.run T StoreFs.init h).nodes → n.kind.isDiff = true → maxU32 < n.ino) ∧
    (StoreFs.run T StoreFs.init h).clash = false := by
  have hJ := (run_spec T (fun _ => True) trivial (fun _ _ _ => trivial) h).1
  refine ⟨hJ.uniq, ?_, ?_, hJ.noclash⟩
  · intro n hn hk
    have := hJ.alloc n hn hk
    exact ⟨this, hJ.npos _ this, hJ.small _ this⟩
  · intro n hn hk
    obtain ⟨b, e, hb⟩ := hJ.diffI n hn hk
    rw [e]; exact diffIno_big b (hJ.lpos b hb)

/-- A node that newInodeWithID creates gets a number no existing node has (one-step form, for every
state that satisfies the invariant). -/
theorem new_node_number_is_fresh (s : StoreFs.St) (hJ : J s) (id : Nat) (hg : idGet s.nodeMap = some id)
    (n : Node) (hn : n ∈ s.nodes) : n.ino ≠ id := by
  obtain ⟨hnm, _, hle, _⟩ := idGet_spec _ _ hg
  exact ino_fresh s hJ id hnm hle n hn

/-- A LOOKUP that does not answer with an entry (EINVAL: not a reference / not a digest; EIO: unknown
image, unknown digest, registry error, failed verification, no id; ENOENT: "use" and unknown file names;
a request no kernel sends) creates no node, links nothing, allocates no inode number and — after any
history — changes no use count. -/
theorem failed_lookup_creates_nothing (T : Truth) (h : List StoreFs.Op) (o : Oracle) (p : Nat) (nm : Name)
    (hf : ∀ i ino, (StoreFs.step T (StoreFs.run T StoreFs.init h) (.lookup o p nm)).2 ≠ .entry i ino) :
    (StoreFs.step T (StoreFs.run T StoreFs.init h) (.lookup o p nm)).1.nodes =
      (StoreFs.run T StoreFs.init h).nodes ∧
    (StoreFs.step T (StoreFs.run T StoreFs.init h) (.lookup o p nm)).1.nodeMap =
      (StoreFs.run T StoreFs.init h).nodeMap ∧
    (StoreFs.step T (StoreFs.run T StoreFs.init h) (.lookup o p nm)).1.lm.refcounter =
      (StoreFs.run T StoreFs.init h).lm.refcounter := by
  have ht := failed_lookup_tree T _ o p nm hf
  exact ⟨ht.1, ht.2, (lookup_keeps_counts T h o p nm).1⟩

def T0 : Truth := ⟨fun r => if r = 0 then some [(10, 20), (11, 21)] else none⟩
def hy : Oracle := Oracle.healthy

/-- lookup ref 0 / digest 20 / blob, use it, forget the blob node, release: the hypotheses of
`last_rmdir_resets` are met before the RMDIR (ref directory = node 2 is held, count 1, layer cached). -/
def h0 : List StoreFs.Op :=
  [.lookup hy 1 (.ref 0), .lookup hy 2 (.toc 20), .lookup hy 3 (.leaf .blob), .create 3 (.leaf .use),
   .forget 4 1]

example : (StoreFs.run T0 StoreFs.init h0).nodeMap = [3, 2, 1] := by decide +kernel
example : Store.cnt (StoreFs.run T0 StoreFs.init h0).lm 0 20 = some 1 := by decide +kernel
example : (Store.lay (StoreFs.run T0 StoreFs.init h0).lm 0 20).isSome = true := by decide +kernel
example : (StoreFs.step T0 (StoreFs.run T0 StoreFs.init h0) (.rmdir 2 (.toc 20))).2 = .enoent := by decide +kernel
/-- the released layer directory (held by the kernel: node 3) left the tree, the forgotten blob node
freed its number, the ref directory (held) and the layer directory keep theirs -/
example : (StoreFs.step T0 (StoreFs.run T0 StoreFs.init h0) (.rmdir 2 (.toc 20))).1.nodeMap = [2, 1] := by
  decide +kernel
/-- a failing lookup: digest 99 is in no image -/
example : (StoreFs.step T0 (StoreFs.run T0 StoreFs.init [.lookup hy 1 (.ref 0), .lookup hy 2 (.toc 99)])
    (.lookup hy 3 (.leaf .diff))).2 = .eio := by decide +kernel
example : idGet [1, 2, 4] = some 3 := by decide +kernel
example : idGet (idRemove [1, 2, 3] 2) = some 2 := by decide +kernel

/-- The statement one would like: once no layer is used and the kernel holds no node, every node that
still exists is linked in a directory (and so, by `inode_numbers_unique_and_allocated`, every allocated
number belongs to a reachable node).  It does not hold: `noLeak_fails`. -/
def NoLeak (T : Truth) : Prop :=
  ∀ h : List StoreFs.Op,
    ((StoreFs.run T StoreFs.init h).nodes.all fun n => n.lookups == 0) = true →
    (StoreFs.run T StoreFs.init h).lm.refcounter = [] →
    ∀ n, n ∈ (StoreFs.run T StoreFs.init h).nodes → n.parent ≠ none

/-- the kernel still holds the layer directory (node 3) when its last use is released; a LOOKUP in
that — now unlinked — directory makes a new PERSISTENT child (info, node 5); then the kernel forgets
everything. -/
def hleak : List StoreFs.Op :=
  [.lookup hy 1 (.ref 0), .lookup hy 2 (.toc 20), .lookup hy 3 (.leaf .blob), .create 3 (.leaf .use),
   .rmdir 2 (.toc 20), .lookup hy 3 (.leaf .info), .forget 5 1, .forget 4 1, .forget 3 1, .forget 2 1]

/-- Candidate finding, as a proved fact about the model (the implementation behaves the same, op by
op): nothing is used, the kernel holds nothing, yet the unlinked layer directory and its persistent
child stay for ever — `RmAllChildren` ran before the child was made and nobody runs it again — and
their inode numbers 2 and 4 stay allocated in `nodeMap`. -/
theorem lookup_in_released_layer_dir_leaks :
    ((StoreFs.run T0 StoreFs.init hleak).nodes.all fun n => n.lookups == 0) = true ∧
    (StoreFs.run T0 StoreFs.init hleak).lm.refcounter = [] ∧
    (StoreFs.run T0 StoreFs.init hleak).nodeMap = [4, 2] ∧
    ((StoreFs.run T0 StoreFs.init hleak).nodes.map fun n => (n.id, n.ino, n.persistent, n.parent)) =
      [(3, 2, false, none), (5, 4, true, some 3)] := by decide +kernel

theorem noLeak_fails : ¬ NoLeak T0 := by
  intro h
  have := h hleak (by decide +kernel) (by decide +kernel) ⟨3, .layer 0 20, 2, 0, false, none, .toc 20⟩ (by decide +kernel)
  exact this rfl

end SV.Props.C16b
