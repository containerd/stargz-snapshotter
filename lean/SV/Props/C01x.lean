/-
C01x — C01 across the window between `cache.Get` and `Reader.ReadAt`.

The gate model of C01 (`SV/Model/Verify.lean`) treats the chunk cache as a map ("returns what was
committed under a key").  A verified read that hits the cache is, in the code, two steps: `Get` hands out
a Reader, `ReadAt` copies the bytes later; in between, other handles of the layer add chunks, the memory
LRU evicts, buffers go back to the pool and are filled again.  These theorems compose the interleaved
model of the directory cache (`SV/Model/ChunkCache.lean`, C11) with the digest predicate of C01.
-/
import SV.Lemmas.ChunkCache
import SV.Model.CachePin

namespace SV.Props.C01x
open SV.ChunkCache

/-- **No window breaks the pin.**  `H` is the (uninterpreted) digest function, `dig k` the digest the
TOC pins for cache key `k`.  For EVERY step list (any number of readers and writers, every
interleaving, every LRU capacity and option): if every writer that went past `Commit` wrote bytes
hashing to the digest pinned for its key (what `verifyAndCache` / the merge paths guarantee), then what
any open Reader serves — whole and every `ReadAt` slice — hashes to the digest pinned for ITS key. -/
theorem cache_hit_in_any_window_is_pinned {δ : Type} (H : Bytes → δ) (dig : Nat → δ)
    (memCap fdCap : Nat) (cfg : Config) (steps : List Step)
    (hw : ∀ (w : Nat) (wr : Writer), ((State.new memCap fdCap cfg).run steps).writers[w]? = some wr →
      wr.phase ≠ .opened → wr.phase ≠ .aborted → H wr.written = dig wr.key)
    (r : Nat) (rd : Reader)
    (hr : ((State.new memCap fdCap cfg).run steps).readers[r]? = some rd) (ho : rd.phase = .opened) :
    ∃ v : Bytes, ((State.new memCap fdCap cfg).run steps).visible rd = some v ∧ H v = dig rd.key ∧
      ∀ off n : Nat, (((State.new memCap fdCap cfg).run steps).visible rd).map (readAt · off n) =
        some (readAt v off n) := by
  have hi : Inv ((State.new memCap fdCap cfg).run steps) := (Inv.new memCap fdCap cfg).run steps
  obtain ⟨v, h1, h2⟩ := hi.visible_committed hr ho
  obtain ⟨w, wr, hw1, hk, hv, hp1, hp2⟩ := hi.comm rd.key v h2
  refine ⟨v, h1, ?_, ?_⟩
  · rw [← hv, ← hk]; exact hw w wr hw1 hp1 hp2
  · intro off n; rw [h1]; rfl

/-- the hypothesis is satisfiable on a history with a window (H = identity, key k pinned to `[k+1]`;
chunk 0 = `[1]`, chunk 1 = `[2]`), and the held reader is open while key 0 is evicted. -/
example :
    let s := (State.new 1 1 {}).run
      [ .addOpen 0 {} none, .write 0 [1], .commitMemPublish 0, .commitDiskWrite 0 none, .commitRename 0,
        .commitDone 0, .getMem 0 {}, .addOpen 1 {} none, .write 1 [2], .commitMemPublish 1 ]
    s.writers.map (fun wr => (wr.key, wr.written)) = [(0, [1]), (1, [2])] ∧
      s.readers.map (fun rd => (rd.key, rd.phase, s.visible rd)) = [(0, .opened, some [1])] ∧
      find 0 s.mem.order = none := by decide +kernel

/-- **The variant whose `Get` drops the LRU reference before returning is wrong**: after the window history the open
reader of key 0 serves `[9]` (bytes of chunk 2, not even committed yet), while the only value ever committed under
key 0 is `[1]`. -/
theorem unpinned_get_serves_other_chunk :
    let s := (State.new 1 1 {}).urun (windowHistory (.getMemUnpinned 0 {}))
    s.readers.map (fun rd => (rd.key, rd.phase, s.visible rd)) = [(0, .opened, some [9])] ∧
      s.committed 0 = [[1]] := by decide +kernel

/-- The mirrored `Get` on the same history: the reference held by the open reader postpones `OnEvicted`,
the pool has nothing to hand out (`addOpen … (some 0)` is not enabled), the reader serves `[1]`. -/
theorem pinned_get_survives_the_window :
    let s := (State.new 1 1 {}).urun (windowHistory (.std (.getMem 0 {})))
    s.readers.map (fun rd => (rd.key, rd.phase, s.visible rd)) = [(0, .opened, some [1])] ∧
      s.committed 0 = [[1]] ∧ s.bufs.length = 2 ∧ s.bufs.all (fun b => b.owner != .pooled) = true := by decide +kernel

end SV.Props.C01x
