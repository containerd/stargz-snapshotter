/-
C20 — Snapshot labels written at pull time reproduce the layer's source at mount time.

Model: `SV/Model/Labels.lean` (writers `defaultWriter` = AppendDefaultLabelsHandlerWrapper,
`extraOnCri` = AppendExtraLabelsHandler on containerd's AppendInfoHandlerWrapper; readers
`readSource defaultKeys` = FromDefaultLabels, `readSource criKeys` = sourceFromCRILabels,
`readBoth` = service.sources(cri, default); `mountPrefetch`, `mountNeighbours` = fs.Mount).
`reference.Parse` is the parameter `parseRef`.
-/
import SV.Lemmas.Labels

namespace SV.Props.C20
open SV.Labels

/-- Labels the snapshotter receives for child `i` when the image was pulled with the default handler. -/
def defaultLabelsAt (ref : Str) (pf : Int) (children : List Desc) (i : Nat) : Option Labels :=
  ((defaultWriter true ref pf children)[i]?).bind (·.ann)

/-- Labels the snapshotter receives for child `i` when the image was pulled with the extra handler on
top of containerd's CRI labels. -/
def extraLabelsAt (ref md : Str) (pf : Int) (children : List Desc) (i : Nat) : Option Labels :=
  match extraOnCri true ref md pf children with
  | .ok out => (out[i]?).bind (·.ann)
  | _ => none

/-- The stated domain "config first, then layers", seen from layer `c = children[i]`: every child from
`i` on is a layer, and their digests parse. -/
def TailOfLayers (children : List Desc) (i : Nat) (c : Desc) : Prop :=
  children[i]? = some c ∧
  (∀ l ∈ children.drop i, l.isLayer = true) ∧
  (∀ l ∈ children.drop i, digestValid l.digest = true)

/-- Weaker domain for the extra flavour (non-layer children may sit anywhere): `c = children[i]` is a
layer and the layers from `i` on have parsable digests. -/
def LayerAt (children : List Desc) (i : Nat) (c : Desc) : Prop :=
  children[i]? = some c ∧ c.isLayer = true ∧
  (∀ l ∈ children.drop i, l.isLayer = true → digestValid l.digest = true)

/-- The rule of containerd's `labels.Validate`. -/
theorem validate_rule (k v : Str) : validate k v = true ↔ k.length + v.length ≤ 4096 := by
  unfold validate maxSize; exact decide_eq_true_iff

/-- `appendWithValidation` never returns an invalid value, whatever the URL list. -/
theorem appendWithValidation_valid (key : Str) (urls : List Str) (hk : key.length ≤ 4096) :
    validate key (appendWithValidation key urls) = true :=
  validate_appendWithValidation key urls hk

/-- Default flavour, ALL manifests (any mix of layer / non-layer children, any annotations, any URL
lists): every label the handler adds to a child is valid, provided the reference and the digests
themselves fit under their keys. -/
theorem labels_valid_default (m : Bool) (ref : Str) (pf : Int) (children : List Desc)
    (hn : children.length < 2 ^ 63) (href : kRef.length + ref.length ≤ maxSize)
    (hdig : ∀ l ∈ children, kDigest.length + l.digest.length ≤ maxSize)
    (hpf : -(2 ^ 63) ≤ pf ∧ pf < 2 ^ 63) (i : Nat) (c : Desc) (hi : children[i]? = some c) :
    ∃ c', (defaultWriter m ref pf children)[i]? = some c' ∧ c'.digest = c.digest ∧ c'.urls = c.urls ∧
      ∀ a', c'.ann = some a' → ∀ k v, get a' k = some v →
        get (c.ann.getD []) k = some v ∨ validate k v = true := by
  have hcmem : c ∈ children := List.mem_of_getElem? hi
  cases m with
  | false =>
    refine ⟨c, defaultWriter_false ref pf children ▸ hi, rfl, rfl, ?_⟩
    intro a' ha' k v hk; left; rw [ha']; exact hk
  | true =>
    rw [defaultWriter_true, defaultChildren_getElem ref pf children i c hi]
    refine ⟨_, rfl, by split <;> rfl, by split <;> rfl, ?_⟩
    intro a' ha' k v hk
    split at ha'
    · simp only [Option.some.injEq] at ha'; subst ha'
      exact defaultLabels_valid ref pf c (children.drop i)
        (by rw [List.length_drop]; omega) href (hdig c hcmem) hpf k v hk
    · left; rw [ha']; exact hk

/-- Extra flavour on containerd's CRI labels, ALL manifests: whenever the handler succeeds, every
label it (or containerd's wrapper) added to a child is valid. -/
theorem labels_valid_extra (m : Bool) (ref md : Str) (pf : Int) (children out : List Desc)
    (href : kCriRef.length + ref.length ≤ maxSize) (hmd : kCriManifest.length + md.length ≤ maxSize)
    (hdig : ∀ l ∈ children, kCriDigest.length + l.digest.length ≤ maxSize)
    (hpf : -(2 ^ 63) ≤ pf ∧ pf < 2 ^ 63)
    (hok : extraOnCri m ref md pf children = .ok out) (i : Nat) (c : Desc) (hi : children[i]? = some c) :
    ∃ c', out[i]? = some c' ∧
      ∀ a', c'.ann = some a' → ∀ k v, get a' k = some v →
        get (c.ann.getD []) k = some v ∨ validate k v = true := by
  have hcmem : c ∈ children := List.mem_of_getElem? hi
  cases m with
  | false =>
    rw [extraOnCri_false, Outcome.ok.injEq] at hok; subst hok
    exact ⟨c, hi, fun a' ha' k v hk => by left; rw [ha']; exact hk⟩
  | true =>
    rw [extraOnCri_true] at hok
    obtain ⟨c', hc', hout⟩ := extraChildren_ok _ pf _ out hok i _ (criChildren_getElem ref md children i c hi)
    refine ⟨c', hout, ?_⟩
    cases hl : c.isLayer with
    | false =>
      rw [if_neg (by simp [hl]), extraChild_nonlayer _ pf c hl, Outcome.ok.injEq] at hc'
      subst hc'
      intro a' ha' k v hk; left; rw [ha']; exact hk
    | true =>
      rw [if_pos hl] at hc'
      obtain ⟨a', ha', hv⟩ := extraChild_cri_valid _ ref md pf c c' _ href (hdig c hcmem) hmd hpf hl hc'
      intro a'' ha'' k v hk
      rw [ha'] at ha''
      exact hv k v (Option.some.inj ha'' ▸ hk)

/-- The extra handler writes into the annotation map without creating it; on top of containerd's
wrapper (which creates it for every layer) it never panics — for any manifest. -/
theorem extra_never_panics (m : Bool) (ref md : Str) (pf : Int) (children : List Desc) :
    extraOnCri m ref md pf children ≠ .panic := by
  cases m with
  | false => rw [extraOnCri_false]; nofun
  | true => rw [extraOnCri_true]; exact extraChildren_cri_ne_panic _ ref md pf children

/-- What comes back for a URL list written under `key`: nothing was lost except by the size limit,
provided no URL contains a comma.  (`fitCount key 0 urls` = number of leading URLs that fit.)
An empty result is read back as the one-element list `[""]` — `strings.Split("", ",")`. -/
theorem urls_read_back (key : Str) (urls : List Str) (hc : ∀ u ∈ urls, ',' ∉ u) :
    (fitCount key 0 urls = 0 ∧ readURLs key urls = [[]]) ∨
    (0 < fitCount key 0 urls ∧ readURLs key urls = urls.take (fitCount key 0 urls) ∧
      readURLs key urls <+: urls) := by
  rw [readURLs_spec key urls hc]
  by_cases h : fitCount key 0 urls = 0
  · left; simp [h]
  · right; rw [if_neg h]; exact ⟨by omega, rfl, List.take_prefix _ _⟩

/-- … and the whole list comes back when it fits under the limit. -/
theorem urls_exact_when_fit (key : Str) (urls : List Str) (hc : ∀ u ∈ urls, ',' ∉ u) (hne : urls ≠ [])
    (hfit : key.length + (catComma urls).length ≤ maxSize) : readURLs key urls = urls := by
  have hall := fitCount_all key 0 urls (by omega)
  rw [readURLs_spec key urls hc, hall]
  have : urls.length ≠ 0 := by intro e; exact hne (List.length_eq_zero_iff.mp e)
  simp [this]

/-- NEGATIVE: with a comma inside a URL the reader returns two URLs, neither of which is the layer's. -/
theorem urls_comma_counterexample :
    readURLs kURLs [['h', ',', 'x']] = [['h'], ['x']] := by decide

/-- Default flavour, manifests in the stated domain (from the target on, only layers): the labels of
layer `c = children[i]` reproduce the reference, the digest, the layer's own URLs, and a neighbour list
that is — in manifest order, copies of the target skipped — the following layers whose digests fit into the
layers label, each paired with the URLs written for ITS OWN descriptor under ITS OWN index. -/
theorem default_roundtrip {R : Type} (parseRef : Str → Option R) (ref : Str) (pf : Int)
    (children : List Desc) (i : Nat) (c : Desc) (r : R)
    (hdom : TailOfLayers children i c) (hr : parseRef ref = some r) :
    ∃ labels, defaultLabelsAt ref pf children i = some labels ∧
      readSource parseRef defaultKeys labels =
        some { name := r, target := c.digest, urls := readURLs kURLs c.urls,
               neighbours := nbSpec c.digest (fun m l => readURLs (urlsKey m) l.urls) 1
                 ((children.drop (i + 1)).take
                   (fitCount kLayers (c.digest.length + 1) ((children.drop (i + 1)).map (·.digest)))) } := by
  obtain ⟨hi, hall, hd⟩ := hdom
  have hdrop := drop_eq_cons_of_getElem? children i c hi
  obtain ⟨hlab, hread⟩ := default_pull_read parseRef ref pf children i c r hi
    (hall c (hdrop ▸ List.mem_cons_self ..)) (fun l hl => hd l (mem_layersOf.mp hl).1) hr
  rw [hdrop] at hall hread hlab
  have hrest := fun l hl => hall l (List.mem_cons_of_mem c hl)
  rw [show layersOf (children.drop (i + 1)) = children.drop (i + 1) from List.filter_eq_self.mpr hrest,
    nbSpec_labelByPosition _ c _ hrest] at hread
  exact ⟨_, hlab, hread⟩

/-- No neighbour is dropped when all following digests fit into the layers label. -/
theorem default_neighbours_complete_when_fit (c : Desc) (following : List Desc)
    (hfit : kLayers.length + (c.digest.length + 1 + (catComma (following.map (·.digest))).length) ≤ maxSize) :
    fitCount kLayers (c.digest.length + 1) (following.map (·.digest)) = following.length := by
  rw [fitCount_all kLayers _ _ (by omega)]; simp

/-- Extra flavour on containerd's CRI labels, ALL manifests with parsable layer digests (non-layer
children may sit anywhere) whose annotations do not pre-set the handler's keys: reference, digest and
own URLs come back; the neighbours are, in manifest order with copies of the target skipped, the first
`n` following LAYERS, each paired under its own index with the URLs the handler looked up BY DIGEST
(`urlsByDigest`: those of the first child carrying that digest). -/
theorem extra_roundtrip {R : Type} (parseRef : Str → Option R) (ref md : Str) (pf : Int)
    (children : List Desc) (i : Nat) (c : Desc) (r : R)
    (hdom : LayerAt children i c) (hnp : NoPreset (c.ann.getD []))
    (hothers : ∀ x ∈ children, x.isLayer = true → digestValid x.digest = true ∧ NoPreset (x.ann.getD []))
    (hr : parseRef ref = some r) :
    ∃ labels s, extraLabelsAt ref md pf children i = some labels ∧
      readSource parseRef criKeys labels = some s ∧
      s.name = r ∧ s.target = c.digest ∧ s.urls = readURLs kURLs c.urls ∧
      get labels kPrefetch = some (intDec pf) ∧
      ∃ n, n = fitCount kCriLayers c.digest.length ((layersOf (children.drop (i + 1))).map (·.digest)) ∧
        s.neighbours = nbSpec c.digest (fun m l => urlsByDigest children m l.digest) 1
          ((layersOf (children.drop (i + 1))).take n) ∧
        s.neighbours.map (·.1) =
          (((layersOf (children.drop (i + 1))).take n).map (·.digest)).filter (· ≠ c.digest) := by
  obtain ⟨out, labels, hout, hlab, hread, hpf⟩ := extra_pull_read parseRef ref md pf children i c r
    hdom.1 hdom.2.1 (fun x hx hl => (hothers x hx hl).1) hr
  obtain ⟨n1, n2, n3⟩ := hnp
  simp only [n1, n3, Option.map_none, Option.getD_none] at hread
  rw [n2, Option.getD_none] at hpf
  refine ⟨labels, _, ?_, hread, rfl, rfl, rfl, hpf, _, rfl, rfl, nbSpec_digests _ _ _ _⟩
  unfold extraLabelsAt; rw [hout]; exact hlab

/-- Under the consistency hypothesis "children with equal digests carry equal URL lists and equal
layer-ness", the by-digest lookup of the extra flavour returns the neighbour's OWN URLs. -/
theorem extra_neighbours_own_urls (children : List Desc) (l : Desc) (m : Nat) (hl : l ∈ children)
    (hlayer : l.isLayer = true)
    (hcons : ∀ x ∈ children, x.digest = l.digest → x.isLayer = true ∧ x.urls = l.urls) :
    urlsByDigest children m l.digest = readURLs (urlsKey m) l.urls := by
  obtain ⟨x, hx, hxu⟩ := layerFromDigest_consistent children l hl hlayer hcons
  unfold urlsByDigest; rw [hx]; simp only; rw [hxu]

/-- Same image reference and same layer digest (default flavour, stated domain). -/
theorem roundtrip_ref_digest {R : Type} (parseRef : Str → Option R) (ref : Str) (pf : Int)
    (children : List Desc) (i : Nat) (c : Desc) (r : R)
    (hdom : TailOfLayers children i c) (hr : parseRef ref = some r) :
    ∃ labels s, defaultLabelsAt ref pf children i = some labels ∧
      readSource parseRef defaultKeys labels = some s ∧ s.name = r ∧ s.target = c.digest := by
  obtain ⟨labels, h1, h2⟩ := default_roundtrip parseRef ref pf children i c r hdom hr
  exact ⟨labels, _, h1, h2, rfl, rfl⟩

/-- Same URLs for the layer: exactly the leading URLs that fit under the size limit (all of them when
they fit), provided no URL contains a comma; a list of which nothing fits reads back as `[""]`. -/
theorem roundtrip_target_urls {R : Type} (parseRef : Str → Option R) (ref : Str) (pf : Int)
    (children : List Desc) (i : Nat) (c : Desc) (r : R)
    (hdom : TailOfLayers children i c) (hr : parseRef ref = some r) (hc : ∀ u ∈ c.urls, ',' ∉ u) :
    ∃ labels s, defaultLabelsAt ref pf children i = some labels ∧
      readSource parseRef defaultKeys labels = some s ∧
      ((fitCount kURLs 0 c.urls = 0 ∧ s.urls = [[]]) ∨
       (0 < fitCount kURLs 0 c.urls ∧ s.urls = c.urls.take (fitCount kURLs 0 c.urls) ∧ s.urls <+: c.urls)) ∧
      (c.urls ≠ [] → kURLs.length + (catComma c.urls).length ≤ maxSize → s.urls = c.urls) := by
  obtain ⟨labels, h1, h2⟩ := default_roundtrip parseRef ref pf children i c r hdom hr
  exact ⟨labels, _, h1, h2, urls_read_back kURLs c.urls hc, urls_exact_when_fit kURLs c.urls hc⟩

/-- The neighbour list is a prefix, in manifest order, of the layers that follow (copies of the target
digest skipped); every neighbour is one of those layers, paired with a prefix of ITS OWN URLs (never
another layer's), provided no URL contains a comma. -/
theorem neighbours_prefix {R : Type} (parseRef : Str → Option R) (ref : Str) (pf : Int)
    (children : List Desc) (i : Nat) (c : Desc) (r : R)
    (hdom : TailOfLayers children i c) (hr : parseRef ref = some r)
    (hc : ∀ l ∈ children, ∀ u ∈ l.urls, ',' ∉ u) :
    ∃ labels s, defaultLabelsAt ref pf children i = some labels ∧
      readSource parseRef defaultKeys labels = some s ∧
      (∃ n, n ≤ (children.drop (i + 1)).length ∧
        s.neighbours.map (·.1) = (((children.drop (i + 1)).take n).map (·.digest)).filter (· ≠ c.digest)) ∧
      ∀ p ∈ s.neighbours, ∃ (m : Nat) (l : Desc), (children.drop (i + 1))[m]? = some l ∧ l.digest = p.1 ∧
        p.1 ≠ c.digest ∧ (p.2 = [[]] ∨ p.2 <+: l.urls) := by
  obtain ⟨labels, h1, h2⟩ := default_roundtrip parseRef ref pf children i c r hdom hr
  refine ⟨labels, _, h1, h2, ⟨_, ?_, nbSpec_digests _ _ _ _⟩, fun p hp => ?_⟩
  · have := fitCount_le kLayers (c.digest.length + 1) ((children.drop (i + 1)).map (·.digest))
    simpa using this
  obtain ⟨m, l, hl, hne, rfl⟩ := nbSpec_mem _ _ _ _ p hp
  have hl := (getElem?_take_some hl).2
  refine ⟨m, l, hl, rfl, hne, ?_⟩
  have hlm : l ∈ children := List.mem_of_mem_drop (List.mem_of_getElem? hl)
  rcases urls_read_back (urlsKey (1 + m)) l.urls (hc l hlm) with ⟨_, h⟩ | ⟨_, _, h⟩
  · exact Or.inl h
  · exact Or.inr h

/-- `strconv.ParseInt(fmt.Sprintf("%d", n), 10, 64)` gives back `n` for every int64. -/
theorem prefetch_print_parse (n : Int) (h : -(2 ^ 63) ≤ n ∧ n < 2 ^ 63) : parseInt64 (intDec n) = some n :=
  parseInt64_intDec n h

/-- Whatever the snapshotter's configured default, a label written by the handlers wins and yields the
size the image was pulled with. -/
theorem prefetch_label_roundtrip (dflt pf : Int) (labels : Labels) (h : -(2 ^ 63) ≤ pf ∧ pf < 2 ^ 63)
    (hl : get labels kPrefetch = some (intDec pf)) : mountPrefetch dflt labels = pf := by
  unfold mountPrefetch; rw [hl]; simp only; rw [parseInt64_intDec pf h]

/-- Default flavour, ALL manifests: every layer child carries the prefetch label (and the reference and
digest labels) of this pull. -/
theorem default_fixed_labels (ref : Str) (pf : Int) (children : List Desc) (i : Nat) (c : Desc)
    (hi : children[i]? = some c) (hl : c.isLayer = true) :
    ∃ labels, defaultLabelsAt ref pf children i = some labels ∧
      get labels kRef = some ref ∧ get labels kDigest = some c.digest ∧
      get labels kPrefetch = some (intDec pf) ∧
      get labels kURLs = some (appendWithValidation kURLs c.urls) := by
  have g := (defaultLabels_fixed ref pf c (children.drop i)).1
  exact ⟨_, defaultWriter_ann ref pf children i c hi hl, g.ref, g.digest, g.prefetch, g.urls⟩

/-- The prefetch-size label round-trips (default flavour, ALL manifests). -/
theorem prefetch_roundtrip (dflt : Int) (ref : Str) (pf : Int) (children : List Desc) (i : Nat) (c : Desc)
    (hi : children[i]? = some c) (hl : c.isLayer = true) (hpf : -(2 ^ 63) ≤ pf ∧ pf < 2 ^ 63) :
    ∃ labels, defaultLabelsAt ref pf children i = some labels ∧ mountPrefetch dflt labels = pf := by
  obtain ⟨labels, hlab, _, _, hp, _⟩ := default_fixed_labels ref pf children i c hi hl
  exact ⟨labels, hlab, prefetch_label_roundtrip dflt pf labels hpf hp⟩

/-- A missing or unparsable prefetch label falls back to the configured default (never to garbage). -/
theorem prefetch_malformed_falls_back (dflt : Int) (labels : Labels)
    (h : get labels kPrefetch = none ∨ ∃ s, get labels kPrefetch = some s ∧ parseInt64 s = none) :
    mountPrefetch dflt labels = dflt := by
  unfold mountPrefetch
  rcases h with h | ⟨s, h1, h2⟩
  · rw [h]
  · rw [h1]; simp only; rw [h2]

/-- For EVERY label map (so for every subset of labels removed or corrupted): a source is accepted
only if the reference label is present and parses to exactly the returned name, and the digest label is
present, parses, and is exactly the returned target; moreover every entry of a layers label parses. -/
theorem accepted_source_is_named_by_labels {R : Type} (parseRef : Str → Option R) (ks : ReaderKeys)
    (labels : Labels) (s : Source R) (h : readSource parseRef ks labels = some s) :
    (∃ refStr, get labels ks.ref = some refStr ∧ parseRef refStr = some s.name) ∧
    get labels ks.digest = some s.target ∧ digestValid s.target = true ∧
    (∀ l, get labels ks.layers = some l → ∀ d ∈ splitComma l, digestValid d = true) :=
  let a := readSource_some parseRef ks labels s h
  ⟨a.ref, a.digest, a.valid, a.layers⟩

theorem missing_or_malformed_rejected {R : Type} (parseRef : Str → Option R) (ks : ReaderKeys)
    (labels : Labels) :
    (get labels ks.ref = none → readSource parseRef ks labels = none) ∧
    (∀ rs, get labels ks.ref = some rs → parseRef rs = none → readSource parseRef ks labels = none) ∧
    (get labels ks.digest = none → readSource parseRef ks labels = none) ∧
    (∀ d, get labels ks.digest = some d → digestValid d = false → readSource parseRef ks labels = none) ∧
    (∀ l d, get labels ks.layers = some l → d ∈ splitComma l → digestValid d = false →
      readSource parseRef ks labels = none) := by
  -- each clause is the contrapositive of one clause of `readSource_some`
  have hs := readSource_some parseRef ks labels
  refine ⟨fun h0 => ?_, fun rs h0 hp => ?_, fun h0 => ?_, fun d h0 hv => ?_, fun l d h0 hd hv => ?_⟩ <;>
    refine Option.eq_none_iff_forall_ne_some.mpr fun s h => ?_
  · obtain ⟨x, h1, _⟩ := (hs s h).ref
    rw [h0] at h1; exact absurd h1 (by simp)
  · obtain ⟨x, h1, h2⟩ := (hs s h).ref
    rw [h0, Option.some.injEq] at h1
    rw [← h1, hp] at h2; exact absurd h2 (by simp)
  · have h1 := (hs s h).digest
    rw [h0] at h1; exact absurd h1 (by simp)
  · have h1 := (hs s h).digest
    have h2 := (hs s h).valid
    rw [h0, Option.some.injEq] at h1
    rw [← h1, hv] at h2; exact absurd h2 (by simp)
  · rw [(hs s h).layers l h0 d hd] at hv; exact absurd hv (by simp)

/-- The snapshotter's combination `sources(cri, default)` accepts only what one of the two readers
accepts (so the two theorems above apply to it). -/
theorem both_readers_accept_only_named_sources {R : Type} (parseRef : Str → Option R) (labels : Labels)
    (s : Source R) (h : readBoth parseRef labels = some s) :
    readSource parseRef criKeys labels = some s ∨
    (readSource parseRef criKeys labels = none ∧ readSource parseRef defaultKeys labels = some s) := by
  unfold readBoth at h
  split at h
  · rename_i s' hs'; simp only [Option.some.injEq] at h; subst h; exact Or.inl hs'
  · rename_i hn; exact Or.inr ⟨hn, h⟩

/-- fs.Mount pre-resolves exactly the reader's neighbour list (its own filter on the target digest
removes nothing, because the readers already skipped every copy of the target). -/
theorem mount_preresolves_reader_neighbours {R : Type} (parseRef : Str → Option R) (ks : ReaderKeys)
    (labels : Labels) (s : Source R) (h : readSource parseRef ks labels = some s) :
    mountNeighbours s = s.neighbours := by
  have hne := (readSource_some parseRef ks labels s h).neighbours
  unfold mountNeighbours
  rw [List.filter_cons]
  simp only [ne_eq, not_true_eq_false, decide_false, Bool.false_eq_true, if_false]
  apply List.filter_eq_self.mpr
  intro p hp; simpa using hne p hp

/- Where the code does NOT keep the property: proved counterexamples (the harness replays exactly
these manifests on the real handlers and readers, stream `hyp`). -/

/-- `"sha256:" ++ c×64` -/
def dg (c : Char) : Str := ['s', 'h', 'a', '2', '5', '6', ':'] ++ List.replicate 64 c

def cfg : Desc := ⟨false, dg 'c', [], none⟩
def att : Desc := ⟨false, dg 'e', [], none⟩
def lyr (c : Char) (urls : List String) (ann : Option Labels := none) : Desc :=
  ⟨true, dg c, urls.map String.toList, ann⟩
def ref0 : Str := "ghcr.io/stargz-containers/ubuntu:22.04-esgz".toList

def manComma : List Desc := [cfg, lyr 'a' ["https://a/x,y"], lyr 'b' ["https://b/1,2", "https://b/3"]]
def manNonLayer : List Desc := [cfg, lyr 'a' ["https://a/"], att, lyr 'b' ["https://b/"], lyr 'd' ["https://d/"]]
def manDup : List Desc := [cfg, lyr 'a' ["https://first/"], lyr 'b' ["https://b/"], lyr 'a' ["https://third/"]]
def manPreset : List Desc :=
  [cfg, lyr 'a' ["https://a/"] (some [(kURLs, "https://preset/".toList), (kPrefetch, ['1']),
      (urlsKey 1, "https://preset/n".toList)]), lyr 'b' ["https://b/"]]

/-- A manifest inside "config first, then layers", with a comma inside URLs (`manComma`): the target's
URL and the neighbour's URLs come back split — no longer the layers' URLs.  Default flavour. -/
theorem comma_in_url_counterexample :
    (defaultLabelsAt ref0 5 manComma 1).bind (readSource some defaultKeys) =
      some { name := ref0, target := dg 'a',
             urls := ["https://a/x".toList, "y".toList],
             neighbours := [(dg 'b', ["https://b/1".toList, "2".toList, "https://b/3".toList])] } := by
  obtain ⟨hlab, hread⟩ := default_pull_read some ref0 5 manComma 1 (lyr 'a' ["https://a/x,y"]) ref0
    rfl rfl (by decide +kernel) rfl
  exact bind_readSource_eq hlab hread (by decide +kernel) (by decide +kernel)

/-- … and the same with the extra flavour / CRI reader. -/
theorem comma_in_url_counterexample_extra :
    (extraLabelsAt ref0 (dg 'f') 5 manComma 1).bind (readSource some criKeys) =
      some { name := ref0, target := dg 'a',
             urls := ["https://a/x".toList, "y".toList],
             neighbours := [(dg 'b', ["https://b/1".toList, "2".toList, "https://b/3".toList])] } := by
  obtain ⟨out, labels, hout, hlab, hread, -⟩ := extra_pull_read some ref0 (dg 'f') 5 manComma 1 (lyr 'a' ["https://a/x,y"]) ref0
    rfl rfl (by decide +kernel) rfl
  refine bind_readSource_eq ?_ hread (by decide +kernel) (by decide +kernel)
  unfold extraLabelsAt; rw [hout]; exact hlab

/-- A non-layer child between layers (`manNonLayer`, OUTSIDE the stated domain): the default writer's
URL index counts it, the layers label does not — neighbour `b` loses its URLs and neighbour `d` is
paired with `b`'s URLs. -/
theorem nonlayer_between_layers_counterexample :
    (defaultLabelsAt ref0 5 manNonLayer 1).bind (readSource some defaultKeys) =
      some { name := ref0, target := dg 'a', urls := ["https://a/".toList],
             neighbours := [(dg 'b', []), (dg 'd', ["https://b/".toList])] } := by
  obtain ⟨hlab, hread⟩ := default_pull_read some ref0 5 manNonLayer 1 (lyr 'a' ["https://a/"]) ref0
    rfl rfl (by decide +kernel) rfl
  exact bind_readSource_eq hlab hread (by decide +kernel) (by decide +kernel)

/-- Repeated digest with different URL lists (`manDup`), extra flavour: seen from layer `b`, the
following layer `a` (URL `third`) is paired with the URLs of the FIRST child with that digest. -/
theorem dup_digest_foreign_urls_counterexample :
    (extraLabelsAt ref0 (dg 'f') 5 manDup 2).bind (readSource some criKeys) =
      some { name := ref0, target := dg 'b', urls := ["https://b/".toList],
             neighbours := [(dg 'a', ["https://first/".toList])] } := by
  obtain ⟨out, labels, hout, hlab, hread, -⟩ := extra_pull_read some ref0 (dg 'f') 5 manDup 2 (lyr 'b' ["https://b/"]) ref0
    rfl rfl (by decide +kernel) rfl
  refine bind_readSource_eq ?_ hread (by decide +kernel) (by decide +kernel)
  unfold extraLabelsAt; rw [hout]; exact hlab

/-- Keys pre-set in the manifest's own annotations (`manPreset`), extra flavour ("nop if this key is
already set"): URLs, neighbour URLs and prefetch size come from the manifest, not from this pull. -/
theorem preset_annotation_counterexample :
    ((extraLabelsAt ref0 (dg 'f') 5 manPreset 1).bind (readSource some criKeys) =
      some { name := ref0, target := dg 'a', urls := ["https://preset/".toList],
             neighbours := [(dg 'b', ["https://preset/n".toList])] }) ∧
    (extraLabelsAt ref0 (dg 'f') 5 manPreset 1).map (mountPrefetch 0) = some 1 := by
  obtain ⟨out, labels, hout, hlab, hread, hpf⟩ := extra_pull_read some ref0 (dg 'f') 5 manPreset 1
    (lyr 'a' ["https://a/"] (some [(kURLs, "https://preset/".toList), (kPrefetch, ['1']),
      (urlsKey 1, "https://preset/n".toList)])) ref0 rfl rfl (by decide +kernel) rfl
  have hl : extraLabelsAt ref0 (dg 'f') 5 manPreset 1 = some labels := by
    unfold extraLabelsAt; rw [hout]; exact hlab
  refine ⟨bind_readSource_eq hl hread (by decide +kernel) (by decide +kernel), ?_⟩
  rw [hl, Option.map_some]
  unfold mountPrefetch
  rw [hpf]
  decide +kernel

/-- Without containerd's wrapper (nil annotation map) the extra handler panics on the first layer. -/
theorem extra_without_wrapper_panics :
    extraWriter true 5 [cfg, lyr 'a' []] = .panic := by decide

def manOK : List Desc :=
  [cfg, lyr 'a' ["https://a/1", "https://a/2"] (some [("org.opencontainers.image.title".toList, ['x'])]),
   lyr 'b' ["https://b/"], lyr 'a' ["https://a/1", "https://a/2"], lyr 'd' []]

example : TailOfLayers manOK 1 (lyr 'a' ["https://a/1", "https://a/2"]
    (some [("org.opencontainers.image.title".toList, ['x'])])) := ⟨rfl, by decide +kernel, by decide +kernel⟩
example : LayerAt manNonLayer 1 (lyr 'a' ["https://a/"]) := ⟨rfl, by decide +kernel, by decide +kernel⟩
example : NoPreset [("org.opencontainers.image.title".toList, ['x'])] := by
  suffices h : ∀ t, kURLs ≠ t ∧ kPrefetch ≠ t ∧ ¬ kURLsPrefix <+: t → NoPreset [(t, ['x'])] from
    h _ (by decide +kernel)
  exact fun t h => ⟨if_neg h.1, if_neg h.2.1, fun j => if_neg (urlsKey_ne _ h.2.2 j)⟩
example : NoPreset ((none : Option Labels).getD []) := ⟨rfl, rfl, fun _ => rfl⟩
-- reference / digest length hypotheses of `labels_valid_*`
example : kRef.length + ref0.length ≤ maxSize ∧ kCriRef.length + ref0.length ≤ maxSize := by decide +kernel
example : ∀ l ∈ manOK, kDigest.length + l.digest.length ≤ maxSize := by decide +kernel
example : kCriManifest.length + (dg 'f').length ≤ maxSize := by decide
-- any parsable digest meets the digest-length hypothesis
example (d : Str) (h : digestValid d = true) : kDigest.length + d.length ≤ maxSize := by
  have := (digestValid_length d h).2; rw [kDigest_length]; simp only [maxSize]; omega
-- the round trip on `manOK` (target `a` is repeated further down and skipped there)
example : (defaultLabelsAt ref0 7 manOK 1).bind (readSource some defaultKeys) =
    some { name := ref0, target := dg 'a', urls := ["https://a/1".toList, "https://a/2".toList],
           neighbours := [(dg 'b', ["https://b/".toList]), (dg 'd', [[]])] } := by
  obtain ⟨hlab, hread⟩ := default_pull_read some ref0 7 manOK 1 (lyr 'a' ["https://a/1", "https://a/2"]
    (some [("org.opencontainers.image.title".toList, ['x'])])) ref0 rfl rfl (by decide +kernel) rfl
  exact bind_readSource_eq hlab hread (by decide +kernel) (by decide +kernel)
example : (extraLabelsAt ref0 (dg 'f') 7 manOK 2).bind (readSource some criKeys) =
    some { name := ref0, target := dg 'b', urls := ["https://b/".toList],
           neighbours := [(dg 'a', ["https://a/1".toList, "https://a/2".toList]), (dg 'd', [[]])] } := by
  obtain ⟨out, labels, hout, hlab, hread, -⟩ := extra_pull_read some ref0 (dg 'f') 7 manOK 2 (lyr 'b' ["https://b/"]) ref0
    rfl rfl (by decide +kernel) rfl
  refine bind_readSource_eq ?_ hread (by decide +kernel) (by decide +kernel)
  unfold extraLabelsAt; rw [hout]; exact hlab
-- consistency hypothesis of `extra_neighbours_own_urls` on `manOK`
example : ∀ x ∈ manOK, x.digest = dg 'a' → x.isLayer = true ∧ x.urls = ["https://a/1".toList, "https://a/2".toList] := by
  decide +kernel
-- no-comma hypothesis, fit hypothesis
example : ∀ u ∈ ["https://a/1".toList, "https://a/2".toList], ',' ∉ u := by decide +kernel
example : kURLs.length + (catComma ["https://a/1".toList, "https://a/2".toList]).length ≤ maxSize := by decide +kernel
example : digestValid (dg 'a') = true ∧ digestValid ("sha256:xyz".toList) = false := by decide +kernel
example : mountPrefetch (-7) [(kPrefetch, intDec (-9223372036854775808))] = -9223372036854775808 := by decide +kernel
example : parseInt64 "9223372036854775808".toList = none ∧ parseInt64 "+5".toList = some 5 ∧
    parseInt64 "1_000".toList = none ∧ parseInt64 [] = none := by decide +kernel

end SV.Props.C20
