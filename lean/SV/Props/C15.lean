/-
C15 — Prefetch and background fetch make later reads local; waiting is bounded.

Model: SV/Model/LazyRead.lean, section 5 (`prefetchRange`, `prefetch`, `backgroundFetch`, `waitOn`,
`Once`) on top of the C02 read stack and its store walk `cacheFiltered`.  "A read is local" is stated in
the C02 read model: the read succeeds with the right bytes for EVERY behaviour `u` of the lower
layers, in particular the always-failing one — so it cannot have asked them for anything.
Real time is outside the model: a timeout is an event.
-/
import SV.Lemmas.LazyRead

namespace SV.Props.C15
open SV.LazyRead

def unreachable : Under := fun _ => none

/-- what a first `Prefetch` with a working blob fetch does to the chunk cache -/
theorem prefetch_cache (L : Layer) (E : Env) (B : BlobCfg) (cfg threshold : Nat) (u : Under) (s : LState)
    (r : Nat) (hfresh : s.prefetchOnce = false) (hr : prefetchRange L cfg = some r) :
    (prefetch L E B cfg threshold true u s).1.cache =
        (cacheFiltered E u (fun o => decide (o < r)) L.files s.cache).1 ∧
    ((prefetch L E B cfg threshold true u s).2 = .ok ↔
        (cacheFiltered E u (fun o => decide (o < r)) L.files s.cache).2 = true) := by
  rw [prefetch_fresh hfresh, prefetchBody_eq hr]
  refine ⟨rfl, ?_⟩
  show (if (cacheFiltered E u (fun o => decide (o < r)) L.files s.cache).2 = true then PResult.ok
    else PResult.failed) = .ok ↔ _
  cases (cacheFiltered E u (fun o => decide (o < r)) L.files s.cache).2 <;> decide

/-- **Prefetch covers the prioritized files.** Layer with a prefetch landmark at blob offset `lo`
(and no no-prefetch landmark), cache entries exact, lower layers honest during the prefetch.  If
`Prefetch` succeeds, then every file whose first chunk starts before the landmark (C14: these are
the prioritized files) can afterwards be read at any offset and length with the registry
unreachable, and the bytes are the tar's. -/
theorem prefetch_covers_prioritized (content : Nat → Bytes) (L : Layer) (E : Env) (B : BlobCfg)
    (cfg threshold : Nat) (u : Under) (s : LState) (lo : Nat)
    (hwf : ∀ f ∈ L.files, WF content f) (hu : Honest content E u)
    (hc : CacheExact content s.cache) (hfresh : s.prefetchOnce = false)
    (hnp : L.noPrefetch = false) (hlm : L.prefetchOff = some lo)
    (hok : (prefetch L E B cfg threshold true u s).2 = .ok) :
    ∀ f ∈ L.files, f.firstOff < lo → ∀ off n,
      fileReadAt E unreachable f (prefetch L E B cfg threshold true u s).1.cache off n =
        ((prefetch L E B cfg threshold true u s).1.cache, .ok (slice (content f.id) off n)) := by
  intro f hf hlt off n
  obtain ⟨hcache, hres⟩ :=
    prefetch_cache L E B cfg threshold u s lo hfresh (prefetchRange_landmark cfg hnp hlm)
  rw [hcache]
  have h := cacheFiltered_cached hwf hu hc (hres.mp hok)
  exact fileReadAt_cached unreachable (hwf f hf) _ h.1 (h.2 f hf (decide_eq_true hlt)) off n

/-- **A no-prefetch landmark means no prefetch traffic**: `blob.Cache` is not called, nothing is
requested from the registry, nothing is decompressed, and the waiter is released. -/
theorem noprefetch_no_traffic (L : Layer) (E : Env) (B : BlobCfg) (cfg threshold : Nat) (blobOk : Bool)
    (u : Under) (s : LState) (hnp : L.noPrefetch = true) (hfresh : s.prefetchOnce = false) :
    let r := prefetch L E B cfg threshold blobOk u s
    r.2 = .ok ∧ r.1.cacheCalls = s.cacheCalls ∧ r.1.requested = s.requested ∧ r.1.cache = s.cache ∧
      r.1.waiterClosed = true := by
  simp [prefetch, hfresh, prefetchBody_none (prefetchRange_none cfg hnp)]

/-- **Without landmarks the configured size, capped at the blob size, is fetched**: `blob.Cache` is
called once with `(0, min(size, cfg))` and the bytes it asks the registry for end at most one
registry chunk after that (and never beyond the blob). -/
theorem plain_prefetch_capped (L : Layer) (E : Env) (B : BlobCfg) (cfg threshold : Nat) (blobOk : Bool)
    (u : Under) (s : LState) (hnp : L.noPrefetch = false) (hlm : L.prefetchOff = none)
    (hfresh : s.prefetchOnce = false) (hreq : s.requested = 0) (hchunk : 0 < B.chunk) :
    let r := prefetch L E B cfg threshold blobOk u s
    r.1.cacheCalls = s.cacheCalls ++ [(0, min L.blobSize cfg)] ∧
      r.1.requested ≤ L.blobSize ∧ r.1.requested ≤ min L.blobSize cfg + B.chunk := by
  have h := cacheRegionEnd_le B.chunk B.prefetchChunk L.blobSize (min L.blobSize cfg)
  rw [prefetch_fresh hfresh, prefetchBody_eq (prefetchRange_plain cfg hnp hlm)]
  cases blobOk <;> exact ⟨rfl, by show max s.requested _ ≤ _; rw [hreq, Nat.zero_max]; exact h.1,
    by show max s.requested _ ≤ _; rw [hreq, Nat.zero_max]; exact h.2⟩

/-- **After a successful background fetch the layer is readable offline**: every regular file can be
read at any offset and length with the registry unreachable, with the tar's bytes. -/
theorem bgfetch_makes_offline (content : Nat → Bytes) (L : Layer) (E : Env) (u : Under) (s : LState)
    (hwf : ∀ f ∈ L.files, WF content f) (hu : Honest content E u)
    (hc : CacheExact content s.cache) (hfresh : s.bgOnce = false)
    (hok : (backgroundFetch L E u s).2 = .ok) :
    ∀ f ∈ L.files, ∀ off n,
      fileReadAt E unreachable f (backgroundFetch L E u s).1.cache off n =
        ((backgroundFetch L E u s).1.cache, .ok (slice (content f.id) off n)) := by
  intro f hf off n
  rw [backgroundFetch_fresh hfresh] at hok ⊢
  have h := cacheFiltered_cached hwf hu hc (filter := fun _ => true) (fs := L.files) (c := s.cache) <| by
    cases h : (cacheFiltered E u (fun _ => true) L.files s.cache).2
    · rw [h] at hok; cases hok
    · rfl
  exact fileReadAt_cached unreachable (hwf f hf) _ h.1 (h.2 f hf rfl) off n

/-- Prefetch releases the waiter on EVERY path — no-prefetch landmark, failure of the blob fetch,
failure of the decompression walk, success. -/
theorem prefetch_releases_waiter (L : Layer) (E : Env) (B : BlobCfg) (cfg threshold : Nat) (blobOk : Bool)
    (u : Under) (s : LState) (hfresh : s.prefetchOnce = false) :
    (prefetch L E B cfg threshold blobOk u s).1.waiterClosed = true := by
  rw [prefetch_fresh hfresh]
  -- `defer l.prefetchWaiter.done()`
  cases hr : prefetchRange L cfg with
  | none => rw [prefetchBody_none hr]
  | some r => rw [prefetchBody_eq hr]; cases blobOk <;> rfl

/-- **Waiting returns.** `wait` ends as soon as one of the three things happens: the waiter was
released (prefetch ended, failed or went asynchronous), it is released while waiting, or the timer
fires.  It is blocked only while none of them has happened; and it always leaves the waiter
released, so a later `wait` returns at once. -/
theorem wait_returns (closed : Bool) (evs : List WEvent) :
    ((closed = true ∨ WEvent.done ∈ evs ∨ WEvent.timeout ∈ evs) → (waitOn closed evs).2 ≠ none) ∧
    ((waitOn closed evs).2 ≠ none → (waitOn closed evs).1 = true ∧ ∀ evs', (waitOn (waitOn closed evs).1 evs').2 = some .nil) ∧
    ((waitOn closed evs).2 = none → closed = false ∧ ∀ e ∈ evs, e = WEvent.other) := by
  cases closed with
  | true => simp [waitOn]
  | false =>
    induction evs with
    | nil => simp [waitOn]
    | cons e es ih =>
      cases e with
      | done => simp [waitOn]
      | timeout => simp [waitOn]
      | other =>
        have hw : waitOn false (WEvent.other :: es) = waitOn false es := rfl
        rw [hw]
        refine ⟨?_, ih.2.1, ?_⟩
        · intro h
          apply ih.1
          rcases h with h | h | h
          · cases h
          · right; left; simpa using h
          · right; right; simpa using h
        · intro h
          obtain ⟨_, h2⟩ := ih.2.2 h
          exact ⟨rfl, List.forall_mem_cons.mpr ⟨rfl, h2⟩⟩

/-- after `Prefetch` has returned — however it ended — waiting returns `nil` immediately -/
theorem wait_after_prefetch (L : Layer) (E : Env) (B : BlobCfg) (cfg threshold : Nat) (blobOk : Bool)
    (u : Under) (s : LState) (hfresh : s.prefetchOnce = false) (evs : List WEvent) :
    waitOn (prefetch L E B cfg threshold blobOk u s).1.waiterClosed evs = (true, some .nil) := by
  rw [prefetch_releases_waiter L E B cfg threshold blobOk u s hfresh, waitOn]

theorem prefetchBody_once (L : Layer) (E : Env) (B : BlobCfg) (cfg threshold : Nat) (blobOk : Bool)
    (u : Under) (s : LState) : (prefetchBody L E B cfg threshold blobOk u s).1.prefetchOnce = s.prefetchOnce := by
  cases hr : prefetchRange L cfg with
  | none => rw [prefetchBody_none hr]
  | some r => rw [prefetchBody_eq hr]; cases blobOk <;> rfl

/-- **Once.** A second `Prefetch` / `BackgroundFetch` on the same layer object does nothing: same state,
no further `blob.Cache` call, no store; and generally `sync.Once` runs its function at most once. -/
theorem once_idempotent (L : Layer) (E : Env) (B : BlobCfg) (cfg threshold cfg' threshold' : Nat)
    (blobOk blobOk' : Bool) (u u' : Under) (s : LState) :
    prefetch L E B cfg' threshold' blobOk' u' (prefetch L E B cfg threshold blobOk u s).1 =
        ((prefetch L E B cfg threshold blobOk u s).1, .ok) ∧
    backgroundFetch L E u' (backgroundFetch L E u s).1 = ((backgroundFetch L E u s).1, .ok) ∧
    (∀ (σ : Type) (o : Once) (f g : σ → σ) (x : σ),
      (o.run f x).1.run g (o.run f x).2 = ((o.run f x).1, (o.run f x).2)) := by
  refine ⟨?_, ?_, ?_⟩
  · have h1 : (prefetch L E B cfg threshold blobOk u s).1.prefetchOnce = true := by
      unfold prefetch
      by_cases h : s.prefetchOnce = true
      · rw [if_pos h]; exact h
      · rw [if_neg h, prefetchBody_once]
    exact if_pos h1
  · have h1 : (backgroundFetch L E u s).1.bgOnce = true := by
      by_cases h : s.bgOnce = true
      · rw [backgroundFetch, if_pos h]; exact h
      · rw [backgroundFetch_fresh (Bool.of_not_eq_true h)]
    exact if_pos h1
  · intro σ o f g x
    unfold Once.run
    cases o with
    | mk d => cases d <;> rfl

def exContent : Nat → Bytes := fun i => if i = 0 then [1, 2, 3, 4, 5, 6, 7, 8, 9, 10] else [7, 7, 7]
def exF0 : FileInfo := { id := 0, variant := .mem, table := [⟨0, 4⟩, ⟨4, 4⟩, ⟨8, 2⟩], size := 10, firstOff := 40 }
def exF1 : FileInfo := { id := 1, variant := .mem, table := [⟨0, 3⟩], size := 3, firstOff := 300 }
def exLayer : Layer := { files := [exF0, exF1], noPrefetch := false, prefetchOff := some 200, blobSize := 1000 }
def exEnv : Env := { verify := fun id b => b == trueChunk exContent id, co := fun _ => some [] }
def exUnder : Under := fun id => some (trueChunk exContent id)
def exState : LState := { cache := Cache.empty }

theorem exWF : ∀ f ∈ exLayer.files, WF exContent f := by
  intro f hf
  simp only [exLayer, List.mem_cons, List.mem_nil_iff, or_false] at hf
  rcases hf with h | h <;> subst h <;> exact ⟨by decide, by decide, by decide⟩

theorem exHonest : Honest exContent exEnv exUnder := by
  intro id b _ _ hv
  simpa [exEnv] using hv

/-- the prefetch of the example layer succeeds, releases the waiter, calls `blob.Cache(0, 200)` … -/
example : let r := prefetch exLayer exEnv ⟨64, 0⟩ 5000 0 true exUnder exState
    r.2 = .ok ∧ r.1.waiterClosed = true ∧ r.1.cacheCalls = [(0, 200)] ∧ r.1.requested = 256 := ⟨rfl, rfl, rfl, rfl⟩

/-- … the prioritized file is then readable offline, the other one is not -/
example : (fileReadAt exEnv unreachable exF0
    (prefetch exLayer exEnv ⟨64, 0⟩ 5000 0 true exUnder exState).1.cache 2 100).2 = .ok [3, 4, 5, 6, 7, 8, 9, 10] := rfl
example : (fileReadAt exEnv unreachable exF1
    (prefetch exLayer exEnv ⟨64, 0⟩ 5000 0 true exUnder exState).1.cache 0 3).2 = .err := rfl

/-- background fetch succeeds and makes the second file readable offline as well -/
example : let r := backgroundFetch exLayer exEnv exUnder exState
    r.2 = .ok ∧ (fileReadAt exEnv unreachable exF1 r.1.cache 1 5).2 = .ok [7, 7] := ⟨rfl, rfl⟩

/-- a failing blob fetch still releases the waiter; a blocked wait is one that saw neither event -/
example : (prefetch exLayer exEnv ⟨64, 0⟩ 5000 0 false exUnder exState) |>.1.waiterClosed = true := rfl
example : waitOn false [.other, .other] = (false, none) := rfl
example : waitOn false [.other, .timeout, .done] = (true, some .timedOut) := rfl

end SV.Props.C15
