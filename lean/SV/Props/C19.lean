/-
C19 — Image conversion emits descriptors that describe exactly the blobs it wrote
(nativeconverter/estargz, nativeconverter/zstdchunked, nativeconverter/estargz/externaltoc).

The model (SV/Model/Convert.lean) is a thin data flow: the builders (`estargz.Build`,
`Writer.AppendTarLossLess`), SHA-256 (`H`), the decompressor and TOC parser are PARAMETERS.  What is
assumed about them is `BuildSound` (the decompression of the emitted blob is the stream whose digest /
length the accessors report, and the TOC `Open` finds is the TOC whose digest the accessor reports);
the Go harness recomputes exactly these facts from the committed blob on every conversion.  The
theorems therefore show that the CONVERTERS wire the right accessor to the right descriptor field, put
the blob under the digest they report whatever an interrupted run left under the writer ref, key the
TOC map by the converted digest, and that the shared map does not depend on the schedule.

Premise for "any schedule": the only state shared by concurrent layer conversions of one converter
instance is the layer-digest -> TOC map, whose writes are atomic (a mutex in the Go code).  The premise
is OBSERVED on every run, not read off the source: many layers go through ONE converter instance lined
up right before the map write, without and with the race detector, and the resulting TOC image is
recomputed by the oracle; a schedule of N conversions is then a permutation of their puts.
The option slices the converter closures capture are NOT covered by this premise (see the findings the
harness replays: shared-opts).
-/
import SV.Lemmas.Convert

namespace SV.Props.C19
open SV.Convert

/-- The build a conversion by converter `t` is made from. -/
def BuiltBy (E : Env) (t : Target) (o : List Opt) (src : Src) (b : Built) : Prop :=
  match t with
  | .esgz | .extToc => E.build o src.blob = some b
  | .zstdchunked => E.buildZstd o src.blob = some b
  | .extTocLossless => E.buildLossless o src.blob = some b

/-- Descriptor, store entry and label of a successful conversion, for every converter, every store
state (in particular: whatever bytes an interrupted earlier conversion left under the writer ref) and
every option list: digest and size are those of the built blob, the annotations are the TOC digest and
the length of its decompression; afterwards the store holds bytes hashing to the digest; if the digest
was new the store holds exactly the built blob labelled with the SHA-256 of its decompression; and no
other blob changed. -/
theorem desc_describes_blob (E : Env) (t : Target) (o : List Opt) (s s' : Store) (src : Src) (d : Desc)
    (wf : s.WF E.H) (h : convert E t o s src = (s', .ok d)) :
    ∃ b, BuiltBy E t o src b ∧
      d.digest = E.H b.blob ∧ d.size = b.blob.length ∧
      d.tocAnn = E.H b.tocJSON ∧ d.uncompressedAnn = b.stream.length ∧
      (∃ e, s'.lookup d.digest = some e ∧ E.H e.bytes = d.digest) ∧
      (s.lookup d.digest = none → s'.lookup d.digest = some ⟨b.blob, some (E.H b.stream)⟩) ∧
      (∀ d0 e0, s.lookup d0 = some e0 → s'.lookup d0 = some e0) := by
  obtain ⟨b, hc⟩ := convert_ok h
  refine ⟨b, Env.checked_built hc.built, ?_⟩
  rw [hc.desc]
  exact ⟨rfl, rfl, rfl, rfl, hc.written.present wf, hc.written.fresh, hc.written.mono⟩

/-- The annotated TOC digest is a digest `VerifyTOC` accepts for the built blob (with the TOC blob the
external-TOC compressor buffered, where there is one) and the ONLY one it accepts.  Assumes
`BuildSound` (the TOC `Open` parses from the emitted blob is the TOC JSON the builder digested) —
recomputed by the harness for every conversion with `estargz.Open` + `VerifyTOC`. -/
theorem toc_annotation_verifies (E : Env) (sound : BuildSound E) (t : Target) (o : List Opt) (s s' : Store)
    (src : Src) (d : Desc) (wf : s.WF E.H) (h : convert E t o s src = (s', .ok d)) :
    ∃ b, BuiltBy E t o src b ∧ d.digest = E.H b.blob ∧
      verifyTOC E b.blob b.tocBlob d.tocAnn ∧
      ∀ d', verifyTOC E b.blob b.tocBlob d' → d' = d.tocAnn := by
  obtain ⟨b, hc⟩ := convert_ok h
  have hs := (sound.checked hc.built).2
  refine ⟨b, Env.checked_built hc.built, by rw [hc.desc]; rfl, ⟨b.tocJSON, hs, by rw [hc.desc]; rfl⟩, ?_⟩
  rintro d' ⟨toc, h1, h2⟩
  rw [hs] at h1
  cases h1
  rw [hc.desc, ← h2]; rfl

/-- The uncompressed-size annotation and the store label are length and SHA-256 of the
DECOMPRESSION OF THE COMMITTED BLOB (not of the source). Assumes `BuildSound`. -/
theorem uncompressed_describes_committed (E : Env) (sound : BuildSound E) (t : Target) (o : List Opt)
    (s s' : Store) (src : Src) (d : Desc) (wf : s.WF E.H) (h : convert E t o s src = (s', .ok d))
    (fresh : s.lookup d.digest = none) :
    ∃ e stream, s'.lookup d.digest = some e ∧ E.decomp e.bytes = some stream ∧
      d.uncompressedAnn = stream.length ∧ e.label = some (E.H stream) ∧ d.size = e.bytes.length := by
  obtain ⟨b, hc⟩ := convert_ok h
  rw [hc.desc] at fresh ⊢
  exact ⟨_, b.stream, hc.written.fresh fresh, (sound.checked hc.built).1, rfl, rfl, rfl⟩

/-- A retried conversion: two stores that differ only in what interrupted runs left under writer
refs give the same descriptor and the same blobs. -/
theorem retry_ignores_leftover (E : Env) (t : Target) (o : List Opt) (blobs : List (Digest × Entry))
    (i1 i2 : List (Ref × Bytes)) (src : Src) :
    (convert E t o ⟨blobs, i1⟩ src).2 = (convert E t o ⟨blobs, i2⟩ src).2 ∧
    (convert E t o ⟨blobs, i1⟩ src).1.blobs = (convert E t o ⟨blobs, i2⟩ src).1.blobs :=
  convert_congr E t o (s1 := ⟨blobs, i1⟩) (s2 := ⟨blobs, i2⟩) rfl src

/-- Lossless conversion keeps the DiffID: a successful lossless conversion was made from a blob whose
decompression has the digest and the length of the source's decompression; the label written for a new
blob is the source's DiffID. -/
theorem lossless_keeps_diffid (E : Env) (o : List Opt) (s s' : Store) (src : Src) (d : Desc)
    (wf : s.WF E.H) (h : convert E .extTocLossless o s src = (s', .ok d)) :
    ∃ b org, E.buildLossless o src.blob = some b ∧ E.decomp src.blob = some org ∧
      d.digest = E.H b.blob ∧
      E.H b.stream = E.H org ∧ b.stream.length = org.length ∧ d.uncompressedAnn = org.length ∧
      (s.lookup d.digest = none → s'.lookup d.digest = some ⟨b.blob, some (E.H org)⟩) := by
  obtain ⟨b, hc⟩ := convert_ok h
  obtain ⟨hb, org, hdec, hH, hlen⟩ := losslessBuild_some hc.built
  rw [hc.desc]
  exact ⟨b, org, hb, hdec, rfl, hH, hlen, hlen, fun hn => hH ▸ hc.written.fresh hn⟩

/-- …hence, where SHA-256 does not collide on the two streams, the decompressed bytes are the
source's decompressed bytes. -/
theorem lossless_keeps_stream (E : Env) (o : List Opt) (s s' : Store) (src : Src) (d : Desc)
    (wf : s.WF E.H) (h : convert E .extTocLossless o s src = (s', .ok d))
    (nocoll : ∀ a b : Bytes, E.H a = E.H b → a = b) :
    ∃ b, E.buildLossless o src.blob = some b ∧ d.digest = E.H b.blob ∧ E.decomp src.blob = some b.stream := by
  obtain ⟨b, org, hb, hdec, hdg, hH, _⟩ := lossless_keeps_diffid E o s s' src d wf h
  exact ⟨b, hb, hdg, by rw [hdec, nocoll _ _ hH]⟩

/-- The lossless double check compares BOTH the DiffID and the size: a build whose stream has another
digest or another length than the source is refused and nothing is committed. -/
theorem lossless_rejects_mismatch (E : Env) (o : List Opt) (s : Store) (src : Src) (b : Built) (org : Bytes)
    (hb : E.buildLossless o src.blob = some b) (hd : E.decomp src.blob = some org)
    (hm : E.H b.stream ≠ E.H org ∨ b.stream.length ≠ org.length) (hl : isLayerType src.mt = true)
    (e : Entry) (hi : s.lookup src.digest = some e) :
    convert E .extTocLossless o s src = (s, .err) := by
  rw [convert_eq, convertWith_unbuilt (t := .extTocLossless) s hl (losslessBuild_mismatch hb hd hm)]
  rfl

/-- The output media type of a successful conversion is the table's entry. -/
theorem convert_mediatype_is_table (E : Env) (t : Target) (o : List Opt) (s s' : Store) (src : Src) (d : Desc)
    (h : convert E t o s src = (s', .ok d)) : outMediaType t src.mt = .ok d.mt := by
  obtain ⟨_, hc⟩ := convert_ok h
  exact outMediaType_ok hc.layer hc.mt

/-- `MT.all` / `Target.all` really list every case (so the table the driver prints is the whole table). -/
theorem table_enumeration_complete : (∀ m : MT, m ∈ MT.all) ∧ (∀ t : Target, t ∈ Target.all) := by
  constructor
  · intro m; cases m <;> decide
  · intro t; cases t <;> decide

/-- The full demand on the table: EVERY row (4 converters × 19 media types) meets `rowOK`. -/
def MediatypeTableFull : Prop := ∀ (t : Target) (m : MT), rowOK t m = true

/-- All 76 rows, by exhaustive case analysis: a row meets the demand EXACTLY when it is not one of the
25 rows of `rowExc` (zstd-typed layer into a gzip-producing converter; non-layer type into an
external-TOC converter). The full statement `MediatypeTableFull` is false for the code as written —
see `mediatype_table_full_fails`; both exception classes are replayed on the implementation every run. -/
theorem mediatype_table_partial (t : Target) (m : MT) : rowOK t m = !rowExc t m := by
  cases t <;> cases m <;> decide

/-- The code as written does not meet the full table: eStargz conversion of an OCI zstd layer emits a
gzip blob under the `+zstd` media type, and the external-TOC converter panics on a non-layer type. -/
theorem mediatype_table_full_fails : ¬ MediatypeTableFull := by
  intro h
  have := h .esgz .ociLayerZstd
  revert this; decide

/-- The put a successful external-TOC conversion contributes is keyed by the CONVERTED layer's
digest and carries digest and size of the TOC blob buffered for exactly that build; that TOC blob is
the one under which the layer verifies with the annotated digest (given `BuildSound`). -/
theorem exttoc_put_keyed_by_converted (E : Env) (sound : BuildSound E) (ll : Bool) (o : List Opt)
    (s s' : Store) (src : Src) (d : Desc) (p : Option (Digest × TocInfo))
    (h : convertExt E ll o s src = (s', .ok d, p)) :
    ∃ (b : Built) (toc : Bytes), b.tocBlob = some toc ∧ d.digest = E.H b.blob ∧
      p = some (d.digest, ⟨E.H toc, toc.length⟩) ∧ verifyTOC E b.blob (some toc) d.tocAnn := by
  obtain ⟨b, toc, hc⟩ := convertExt_ok h
  rw [hc.put, hc.desc]
  exact ⟨b, toc, hc.tocBlob, rfl, rfl, b.tocJSON, hc.tocBlob ▸ (sound.checked hc.built).2, rfl⟩

/-- The put is a function of the input (source blob, media type, options): whatever the store states
the two conversions ran against (i.e. wherever the schedule placed them), two successful conversions
of the same source contribute the same put.  This discharges the consistency hypothesis of
`tocmap_order_independent` for duplicate layers. -/
theorem exttoc_put_function_of_input (E : Env) (ll : Bool) (o : List Opt) (s1 s2 s1' s2' : Store) (src : Src)
    (d1 d2 : Desc) (p1 p2 : Option (Digest × TocInfo))
    (h1 : convertExt E ll o s1 src = (s1', .ok d1, p1)) (h2 : convertExt E ll o s2 src = (s2', .ok d2, p2)) :
    p1 = p2 ∧ d1 = d2 := by
  obtain ⟨b1, t1, c1⟩ := convertExt_ok h1
  obtain ⟨b2, t2, c2⟩ := convertExt_ok h2
  cases c1.built.symm.trans c2.built
  cases c1.tocBlob.symm.trans c2.tocBlob
  rw [c1.put, c2.put, c1.desc, c2.desc, Option.some.inj (c1.mt.symm.trans c2.mt)]
  exact ⟨rfl, rfl⟩

/-- Any schedule gives the same map: for every permutation `qs` of a history `ps` of atomic puts in
which equal layer digests carry equal TOC infos, the resulting finite map (sorted association list,
from any initial map) is the same — and so is the TOC image manifest. -/
theorem tocmap_order_independent (ps qs : List (Digest × TocInfo)) (m : TocMap) (hp : ps.Perm qs)
    (hc : ∀ p ∈ ps, ∀ q ∈ ps, p.1 = q.1 → p.2 = q.2) :
    TocMap.puts ps m = TocMap.puts qs m ∧ finalize (TocMap.puts ps m) = finalize (TocMap.puts qs m) := by
  have := TocMap.puts_perm ps qs m hp hc
  exact ⟨this, by rw [this]⟩

/-- Without the consistency hypothesis the map DOES depend on the order (why the hypothesis is there). -/
example : TocMap.puts [(1, ⟨10, 1⟩), (1, ⟨20, 2⟩)] ≠ TocMap.puts [(1, ⟨20, 2⟩), (1, ⟨10, 1⟩)] := by decide

/-- The TOC image maps EVERY converted layer digest to its TOC: after any consistent history of puts
(in any order), looking the layer digest up in the manifest the way `fetchTOCBlobFromManifest` does
returns the TOC info that was put for it; a digest never put is not found. -/
theorem tocimage_maps_every_layer (ps : List (Digest × TocInfo))
    (hc : ∀ p ∈ ps, ∀ q ∈ ps, p.1 = q.1 → p.2 = q.2) :
    (∀ p ∈ ps, fetchToc (finalize (TocMap.puts ps)) p.1 = some p.2) ∧
    (∀ k, (∀ p ∈ ps, p.1 ≠ k) → fetchToc (finalize (TocMap.puts ps)) k = none) := by
  have hs : (TocMap.puts ps []).Sorted := TocMap.puts_sorted ps [] List.Pairwise.nil
  constructor
  · intro p hp
    rw [fetchToc_finalize _ hs]
    exact TocMap.lookup_puts ps [] hc p hp
  · intro k hk
    rw [fetchToc_finalize _ hs]
    exact TocMap.lookup_puts_none ps [] k hk

/-- The manifest has exactly one layer per map entry (= per distinct converted digest), each
annotated with its layer digest, sorted by TOC digest. -/
theorem tocimage_one_layer_per_entry (ps : List (Digest × TocInfo)) :
    (finalize (TocMap.puts ps)).length = (TocMap.puts ps).length ∧
    (∀ l, l ∈ finalize (TocMap.puts ps) ↔ (l.layer, l.toc) ∈ TocMap.puts ps) ∧
    (TocMap.puts ps).Pairwise (fun a b => a.1 < b.1) ∧
    (finalize (TocMap.puts ps)).Pairwise (fun a b => a.toc.digest ≤ b.toc.digest) :=
  ⟨length_finalize _, fun l => mem_finalize _ l,
   TocMap.puts_sorted ps [] List.Pairwise.nil, finalize_sorted _⟩

/-! A concrete environment in which every hypothesis above is met. -/

/-- toy environment: "compression" prepends a marker byte, the TOC is the first two stream bytes -/
def exEnv : Env where
  H := fun b => b.foldl (fun h x => (h * 31 + x.toNat + 1) % 1000003) 7
  build := fun _ x => some ⟨1 :: x.tail, x.tail, x.tail.take 2, some (9 :: x.tail.take 2)⟩
  buildZstd := fun _ x => some ⟨2 :: x.tail, x.tail, x.tail.take 2, none⟩
  buildLossless := fun _ x => some ⟨1 :: x.tail, x.tail, x.tail.take 2, some (9 :: x.tail.take 2)⟩
  decomp := fun b => some b.tail
  tocOf := fun b _ => some (b.tail.take 2)

def exSrc : Src := ⟨.ociLayer, exEnv.H [0, 5, 6, 7], [0, 5, 6, 7]⟩
def exStore : Store :=
  { blobs := [(exEnv.H [0, 5, 6, 7], ⟨[0, 5, 6, 7], none⟩)], ingests := [((.esgz, exEnv.H [0, 5, 6, 7]), [42, 42])] }

example : BuildSound exEnv := ⟨by intro o x b h; cases h; exact ⟨rfl, rfl⟩,
  by intro o x b h; cases h; exact ⟨rfl, rfl⟩, by intro o x b h; cases h; exact ⟨rfl, rfl⟩⟩

/-- a retried lossless external-TOC conversion (leftover bytes under the ref) of an uncompressed OCI layer -/
example : (convert exEnv .extTocLossless [] exStore exSrc).2 =
    .ok ⟨.ociLayerGzip, exEnv.H [1, 5, 6, 7], 4, exEnv.H [5, 6], 3⟩ := by decide

example : (convert exEnv .extTocLossless [] exStore exSrc).1.lookup (exEnv.H [1, 5, 6, 7]) =
    some ⟨[1, 5, 6, 7], some (exEnv.H [5, 6, 7])⟩ := by decide

example : exStore.WF exEnv.H := by
  intro d e h
  simp only [Store.lookup, exStore, List.lookup] at h
  split at h
  · injection h with h; subst h; rename_i hd; simp at hd; subst hd; decide
  · cases h

example : (convert exEnv .zstdchunked [] exStore exSrc).2 =
    .ok ⟨.ociLayerZstd, exEnv.H [2, 5, 6, 7], 4, exEnv.H [5, 6], 3⟩ := by decide

example : (convertExt exEnv false [.chunkSize 4] exStore exSrc).2 =
    (.ok ⟨.ociLayerGzip, exEnv.H [1, 5, 6, 7], 4, exEnv.H [5, 6], 3⟩,
     some (exEnv.H [1, 5, 6, 7], ⟨exEnv.H [9, 5, 6], 3⟩)) := by decide

/-- a lossless build that alters the stream is refused -/
example : (convert { exEnv with buildLossless := fun _ x => some ⟨1 :: x.tail, x.tail ++ [0], x.tail.take 2, some [9]⟩ }
    .extTocLossless [] exStore exSrc).2 = .err := by decide

/-- three layers, two of them the same digest with the same TOC: consistent history, 3! schedules -/
example : (∀ p ∈ [((3 : Digest), (⟨30, 1⟩ : TocInfo)), (1, ⟨10, 1⟩), (3, ⟨30, 1⟩)],
    ∀ q ∈ [((3 : Digest), (⟨30, 1⟩ : TocInfo)), (1, ⟨10, 1⟩), (3, ⟨30, 1⟩)], p.1 = q.1 → p.2 = q.2) ∧
    finalize (TocMap.puts [(3, ⟨30, 1⟩), (1, ⟨10, 1⟩), (3, ⟨30, 1⟩)]) = [⟨⟨10, 1⟩, 1⟩, ⟨⟨30, 1⟩, 3⟩] := by
  decide

end SV.Props.C19
