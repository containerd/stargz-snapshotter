/-
C03 - Built blobs unpack like the input tar and index themselves consistently.

The model is `SV/Model/Writer.lean` (Writer.appendTar / Close, Build = divideEntries + per-part Writers +
closeWithCombine, the three TOC/footer formats), compression and tar encoding abstract:
every statement below holds for EVERY pair of compressor oracle streams `orcF orcC`, every TOC
encoding `tocTar`, every chunk size > 0 (`effChunk_pos`: `Writer.chunkSize()` is always > 0),
every min-chunk-size, every worker count, every entry list.
-/
import SV.Lemmas.Writer

namespace SV.Props.C03
open SV.Writer

/-- Every chunk entry of a built blob, read by the documented rule, yields exactly its range of
the file's content; every recorded Offset is a member boundary; no member is empty. -/
theorem index_consistent (F : Fmt) (chunk minChunk workers : Nat) (ents : List TarEnt)
    (tocTar : List TocEnt → Bytes) (orcF orcC : List Nat) (a : Nat) (b : Blob) (hc : 0 < chunk)
    (h : build F chunk minChunk workers ents tocTar orcF orcC a = some b) :
    AllPos b.members ∧ IndexOK b.members ents b.toc := by
  have hb := build_sound hc h
  exact ⟨hb.pos, hb.good.indexOK hb.pos⟩

/-- The same, phrased with `content(e.name)`: when no two regular files share a name (what
`importTar` establishes), every chunk entry reads `content(name)[chunkOffset, +chunkSize)`. -/
theorem index_consistent_by_name (F : Fmt) (chunk minChunk workers : Nat) (ents : List TarEnt)
    (tocTar : List TocEnt → Bytes) (orcF orcC : List Nat) (a : Nat) (b : Blob) (hc : 0 < chunk)
    (hu : UniqueRegNames ents)
    (h : build F chunk minChunk workers ents tocTar orcF orcC a = some b) :
    ∀ x ∈ b.toc, x.isData = true → ∃ d, contentOf ents x.name = some d ∧
      specRead b.members x d.length = some (expect d x) := by
  intro x hx hd
  obtain ⟨e, he, hkept, hreg, hname, hread, _⟩ :=
    (index_consistent F chunk minChunk workers ents tocTar orcF orcC a b hc h).2 x hx hd
  exact ⟨e.data, by rw [← hname]; exact contentOf_eq hu he hkept hreg, hread⟩

/-- The TOC of a built blob is, entry by entry (in the order given, TOC-named entries dropped),
the group of that entry; the chunks of a file are together, ordered, contiguous and cover
`[0,size)` - for every worker count (a file is never separated from its chunks). -/
theorem chunks_tile_file (F : Fmt) (chunk minChunk workers : Nat) (ents : List TarEnt)
    (tocTar : List TocEnt → Bytes) (orcF orcC : List Nat) (a : Nat) (b : Blob) (hc : 0 < chunk)
    (h : build F chunk minChunk workers ents tocTar orcF orcC a = some b) :
    ∃ gs, b.toc = gs.flatten ∧ Forall2 EntryToc (keep ents) gs :=
  (build_sound hc h).toc

/-- What `Group` says in plain arithmetic: the chunk sizes from `pos` on add up to the file size
(so with `pos = 0` the chunks cover the file exactly once). -/
theorem group_covers (name : String) (total : Nat) :
    ∀ (first : Bool) (pos : Nat) (g : List TocEnt), Group name total first pos g →
      pos + (g.map (fun x => effSize x total)).sum = total := by
  intro first pos g
  induction g generalizing first pos with
  | nil => intro h; simpa [Group] using h
  | cons e es ih =>
    intro h
    rw [List.map_cons, List.sum_cons, ← Nat.add_assoc]
    exact ih false _ h.tail

/-- `closeWithCombine` for ANY number of sub-blobs whose own indexes are consistent: the combined
member list and the rebased TOC are consistent, the reported size is the sum of the sub-blob
sizes, the stream is the concatenation. -/
theorem combine_preserves_index (ws : List W) (parts : List (List TarEnt))
    (h : Forall2 PartOK ws parts) :
    AllPos (combineGo ws 0).1 ∧ IndexOK (combineGo ws 0).1 parts.flatten (combineGo ws 0).2.1 ∧
    (combineGo ws 0).2.2 = sumClen (combineGo ws 0).1 ∧
    streamOf (combineGo ws 0).1 = tarStream parts.flatten := by
  obtain ⟨hpos, hsz, hst, _, hag⟩ := combineGo_spec ws parts 0 [] h rfl
  exact ⟨hpos, AllGood.indexOK hag hpos, hsz.trans (Nat.zero_add _), hst⟩

/-- Full decompression of a built blob = the tar stream of the entries as ordered (the landmark
is one of them after `sortEntries`, C14) + the TOC tar entry last where the format embeds it. -/
theorem stream_is_input_plus_additions (F : Fmt) (chunk minChunk workers : Nat) (ents : List TarEnt)
    (tocTar : List TocEnt → Bytes) (orcF orcC : List Nat) (a : Nat) (b : Blob) (hc : 0 < chunk)
    (h : build F chunk minChunk workers ents tocTar orcF orcC a = some b) :
    streamOf b.members = tarStream ents ++ tocAddition F (tocTar b.toc) :=
  (build_sound hc h).stream

/-- `divideEntries` is an order-preserving partition into at least one part for every positive
worker count (entries are whole files: a part boundary never falls inside a file), and it is the
only thing `Build` uses to split the work. -/
theorem divide_partition (n : Nat) (es : List TarEnt) (hn : 0 < n) :
    ∃ parts, divideEntries n es = some parts ∧ parts.flatten = es ∧ parts ≠ [] := by
  refine ⟨_, ?_, divideGo_flatten (totalSize es / n) es [] 0 (totalSize es / n), divideGo_ne_nil _ _ _ _ _⟩
  rw [divideEntries, if_neg (Nat.ne_of_gt hn)]

/-- The Go code divides by the worker count: zero is a panic, not a silent default. -/
theorem divide_zero_panics (es : List TarEnt) : divideEntries 0 es = none := by
  simp [divideEntries]

/-- The footer of every format points at the TOC: right after the data members (zstd: after the
8-byte skippable-frame header), and the blob ends with the fixed-size footer. -/
theorem footer_points_to_toc (F : Fmt) (ms : List Member) (toc : List TocEnt) (tt : Bytes) (a : Nat)
    (hh : Bytes) :
    (writeTocAndFooter F ms (sumClen ms) toc tt a hh).size =
      sumClen (writeTocAndFooter F ms (sumClen ms) toc tt a hh).members + F.footerLen ∧
    (F ≠ .external →
      (writeTocAndFooter F ms (sumClen ms) toc tt a hh).tocOff = some (sumClen ms + F.tocSkip)) ∧
    (F = .external → (writeTocAndFooter F ms (sumClen ms) toc tt a hh).tocOff = none) :=
  wtf_layout F ms toc tt a hh

/-- Writer runs: index consistency at full strength - any number of `AppendTar` /
`AppendTarLossLess` calls, any `MinChunkSize` (every call starts on a new member since 6f1f089). -/
theorem writer_index_consistent (P : Params) (F : Fmt) (calls : List (List TarEnt × Bytes))
    (tocTar : List TocEnt → Bytes) (orcF orcC : List Nat) (a : Nat) (b : Blob) (hc : 0 < P.chunk)
    (h : writerRun P F calls tocTar orcF orcC a = some b) :
    AllPos b.members ∧ IndexOK b.members (callEnts calls) b.toc := by
  have hb := (writerRun_sound hc h).1
  exact ⟨hb.pos, hb.good.indexOK hb.pos⟩

/-- Documented counterexample: the statement above is FALSE for `appendTar` as it was before
commit 6f1f089 (`writerRunOld`: no `closeGz` at the start of a call, `prevOffset := w.cw.n` read
mid-stream, `prevOffsetUncompressed := 0`). -/
def OldWriterIndexConsistent : Prop :=
  ∀ (P : Params) (F : Fmt) (calls : List (List TarEnt × Bytes)) (tocTar : List TocEnt → Bytes)
    (orcF orcC : List Nat) (a : Nat) (b : Blob), 0 < P.chunk →
    writerRunOld P F calls tocTar orcF orcC a = some b → IndexOK b.members (callEnts calls) b.toc

/-- Witness: MinChunkSize 1000, two `AppendTar` calls with one 1-byte file each, a compressor that
emits 5 bytes at the first flush.  The old code records the second file at Offset 5, inside the
only member.  The same calls on the real (repaired) code are a regression scenario of the harness
(oracle signature `writer-minchunk-second-appendtar`). -/
def witnessCalls : List (List TarEnt × Bytes) :=
  [([⟨"a", .reg, false, [0], [1], []⟩], []), ([⟨"b", .reg, false, [2], [3], []⟩], [])]

theorem old_appendTar_breaks_index : ¬ OldWriterIndexConsistent := by
  intro hfull
  have key := hfull ⟨4, 1000, [], false⟩ .gzip witnessCalls (fun _ => []) [5] [] 0 _ (by decide) rfl
  obtain ⟨e, _, _, _, _, hs, _⟩ := key ⟨"b", .reg, 1, 5, 3, 0, 0⟩ (by decide) (by decide)
  rw [show specRead _ _ e.data.length = none from rfl] at hs
  exact absurd hs (by simp)

/-- ... and the repaired code reads both files of the witness. -/
example : ((writerRun ⟨4, 1000, [], false⟩ .gzip witnessCalls (fun _ => []) [5] [] 0).map
    (fun b => (b.toc.map (fun x => (x.offset, x.innerOffset)),
      checkIndex b.toc b.members [⟨"a", [1]⟩, ⟨"b", [3]⟩]))) = some ([(0, 1), (6, 1)], true) := by decide +kernel

/-- Writer runs: the TOC is the sequence of entry groups, chunks tile each file - any number of
calls, any `MinChunkSize`. -/
theorem writer_chunks_tile_file (P : Params) (F : Fmt) (calls : List (List TarEnt × Bytes))
    (tocTar : List TocEnt → Bytes) (orcF orcC : List Nat) (a : Nat) (b : Blob) (hc : 0 < P.chunk)
    (h : writerRun P F calls tocTar orcF orcC a = some b) :
    ∃ gs, b.toc = gs.flatten ∧ Forall2 EntryToc (keep (callEnts calls)) gs :=
  (writerRun_sound hc h).1.toc

/-- Writer runs: decompression = the entries' tar streams (+ kept tails in lossless mode) + the
TOC entry where embedded; and DiffID hashes exactly that stream. -/
theorem writer_stream_is_input_plus_additions (P : Params) (F : Fmt)
    (calls : List (List TarEnt × Bytes)) (tocTar : List TocEnt → Bytes) (orcF orcC : List Nat)
    (a : Nat) (b : Blob) (hc : 0 < P.chunk) (h : writerRun P F calls tocTar orcF orcC a = some b) :
    streamOf b.members = callStream P calls ++ tocAddition F (tocTar b.toc) :=
  (writerRun_sound hc h).1.stream

/-- DiffID: what the Writer fed to its hash is the decompressed blob, byte for byte. -/
theorem diffid_is_hash_of_stream (P : Params) (F : Fmt) (calls : List (List TarEnt × Bytes))
    (tocTar : List TocEnt → Bytes) (orcF orcC : List Nat) (a : Nat) (b : Blob) (hc : 0 < P.chunk)
    (h : writerRun P F calls tocTar orcF orcC a = some b) :
    b.hashed = streamOf b.members :=
  (writerRun_sound hc h).2.1

/-- Lossless mode: whenever the run succeeds, the decompressed layer is the input, byte for byte
(followed by the TOC entry for gzip; `Unpack` cuts it off at the TOC offset). -/
theorem lossless_roundtrip (P : Params) (F : Fmt) (calls : List (List TarEnt × Bytes))
    (tocTar : List TocEnt → Bytes) (orcF orcC : List Nat) (a : Nat) (b : Blob) (hc : 0 < P.chunk)
    (hl : P.lossless = true) (h : writerRun P F calls tocTar orcF orcC a = some b) :
    streamOf b.members = inputBytes calls ++ tocAddition F (tocTar b.toc) := by
  obtain ⟨hb, _, hlos⟩ := writerRun_sound hc h
  rw [hb.stream, callStream_lossless P hl calls (hlos hl)]

/-- If `checkIndex` accepts (TOC, member table, regular files of the decompressed stream) then no
member is empty and every data entry of the TOC reads, by the documented rule, exactly its range
of a file carrying its name. -/
theorem checkIndex_sound (toc : List TocEnt) (ms : List Member) (files : List FileC)
    (h : checkIndex toc ms files = true) :
    AllPos ms ∧ ∀ e ∈ toc, e.isData = true → ∃ f ∈ files, f.name = e.name ∧
      specRead ms e f.content.length = some (expect f.content e) ∧
      e.chunkOffset + effSize e f.content.length ≤ f.content.length := by
  simp only [checkIndex, Bool.and_eq_true, List.all_eq_true, decide_eq_true_eq] at h
  exact ⟨h.1, checkGo_sound ms toc files none h.2⟩

/-- A three-entry tar (directory, 5-byte file, landmark), chunk size 2, two workers, gzip. -/
def exEnts : List TarEnt :=
  [⟨"d/", .dir, false, [9], [], []⟩, ⟨"d/f", .reg, false, [8], [1, 2, 3, 4, 5], [0, 0, 0]⟩,
   ⟨".no.prefetch.landmark", .reg, false, [7], [0xf], [0]⟩]

example : (build .gzip 2 0 2 exEnts (fun _ => [42]) [] [3, 1] 6).isSome = true := by decide +kernel

example : ((build .gzip 2 0 2 exEnts (fun _ => [42]) [] [3, 1] 6).map
    (fun b => b.toc.map (fun x => (x.offset, x.chunkOffset, x.chunkSize)))) =
    some [(0, 0, 0), (4, 0, 2), (6, 2, 2), (7, 4, 0), (9, 0, 0)] := by decide +kernel

example : ((build .gzip 2 0 2 exEnts (fun _ => [42]) [] [3, 1] 6).map
    (fun b => checkIndex b.toc b.members
      [⟨"d/f", [1, 2, 3, 4, 5]⟩, ⟨".no.prefetch.landmark", [0xf]⟩])) = some true := by decide +kernel

/-- min-chunk-size 100: one member holds everything, InnerOffsets tell the chunks apart. -/
example : ((writerRun ⟨2, 100, [], false⟩ .zstd [(exEnts, [])] (fun _ => []) [] [] 0).map
    (fun b => b.toc.map (fun x => (x.offset, x.innerOffset)))) =
    some [(0, 0), (0, 2), (0, 4), (0, 6), (0, 11)] := by decide +kernel

example : PartOK { } [] :=
  ⟨inv_fresh [] [], rfl, ⟨[], rfl, Forall2.nil⟩, fun _ h => by simp at h⟩

end SV.Props.C03
