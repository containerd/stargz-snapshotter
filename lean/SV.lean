-- Root of the SV library: imports every model, lemma and property module (generated list).
import SV.Gen.Arith
import SV.Lemmas.Blob
import SV.Lemmas.BlobShared
import SV.Lemmas.ChunkCache
import SV.Lemmas.ChunkCacheInv
import SV.Lemmas.ChunkCacheLRU
import SV.Lemmas.Convert
import SV.Lemmas.Creds
import SV.Lemmas.E2E
import SV.Lemmas.E2ESucc
import SV.Lemmas.FuseMgr
import SV.Lemmas.Hostile
import SV.Lemmas.Labels
import SV.Lemmas.LayerLife
import SV.Lemmas.LazyRead
import SV.Lemmas.MetaTar
import SV.Lemmas.Overlay
import SV.Lemmas.Refcount
import SV.Lemmas.Region
import SV.Lemmas.Snap
import SV.Lemmas.SnapConc
import SV.Lemmas.SnapTrace
import SV.Lemmas.Sort
import SV.Lemmas.Store
import SV.Lemmas.Task
import SV.Lemmas.Toc
import SV.Lemmas.TocAgree
import SV.Lemmas.TocChunks
import SV.Lemmas.TocFragments
import SV.Lemmas.TocKidsLast
import SV.Lemmas.TocNames
import SV.Lemmas.TocRun
import SV.Lemmas.TocSim
import SV.Lemmas.TocView
import SV.Lemmas.Verify
import SV.Lemmas.Writer
import SV.Model.Blob
import SV.Model.BlobShared
import SV.Model.ChunkCache
import SV.Model.Convert
import SV.Model.Creds
import SV.Model.E2E
import SV.Model.FuseMgr
import SV.Model.Hostile
import SV.Model.Labels
import SV.Model.LayerLife
import SV.Model.LazyRead
import SV.Model.Overlay
import SV.Model.Refcount
import SV.Model.Region
import SV.Model.Snap
import SV.Model.SnapConc
import SV.Model.SnapTrace
import SV.Model.Sort
import SV.Model.Store
import SV.Model.Task
import SV.Model.Toc
import SV.Model.Verify
import SV.Model.Writer
import SV.Props.C01
import SV.Props.C02
import SV.Props.C02e2e
import SV.Props.C03
import SV.Props.C04
import SV.Props.C04gen
import SV.Props.C05
import SV.Props.C06
import SV.Props.C06b
import SV.Props.C06c
import SV.Props.C06gen
import SV.Props.C07
import SV.Props.C08
import SV.Props.C08b
import SV.Props.C09
import SV.Props.C10
import SV.Props.C11
import SV.Props.C12
import SV.Props.C13
import SV.Props.C14
import SV.Props.C15
import SV.Props.C16
import SV.Props.C16b
import SV.Props.C17
import SV.Props.C18
import SV.Props.C19
import SV.Props.C20
import SV.Model.HttpRange
import SV.Lemmas.HttpRange
import SV.Props.C06d
import SV.Props.C03gen2
import SV.Props.C04gen2
import SV.Props.C06gen2
import SV.Props.C07gen2
import SV.Props.C14gen2
import SV.Props.C20gen2
import SV.Model.Waiter
import SV.Props.C15b
import SV.Model.FsMount
import SV.Lemmas.FsMount
import SV.Props.C12b
import SV.Model.DigestPool
import SV.Props.C03x
import SV.Lemmas.RefcountMono
import SV.Props.C10x
import SV.Model.CredsFlight
import SV.Props.C18x
import SV.Model.CacheDir
import SV.Lemmas.CacheDir
import SV.Props.C12x
import SV.Model.PoolCache
import SV.Lemmas.PoolCache
import SV.Props.C02x
import SV.Model.CachePin
import SV.Props.C01x
import SV.Model.TimeEnc
import SV.Props.C05x
